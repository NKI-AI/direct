import DirectVerif.Lemmas.TensorLift
import DirectVerif.Props.C10
/-!
# n-D corollaries of the 1-D C10 theorems, through the lifting laws of `Lemmas/TensorLift.lean`
-/
namespace DirectVerif.TensorLift
open DirectVerif DirectVerif.Tensor
variable {α : Type} [Inhabited α]

/-- **C10, n-D**: `pad_tensor`'s per-axis `padTo` then a centre crop of that axis, on a well-formed tensor -/
theorem pad_then_center_crop_id_nd (t : Tensor α) (a N : Nat) (fill : α)
    (hwf : t.data.length = prod t.shape) (ha : a < t.shape.length) (hN : t.shape.getD a 1 ≤ N) :
    (t.alongAxis a (Crop.padTo fill N)).alongAxis a (Crop.centerCrop (t.shape.getD a 1)) = t := by
  apply alongAxis_cancel t a _ _ N hwf ha
  · intro xs hxs; exact C10.pad_length fill N xs (by omega)
  · intro xs hxs; exact C10.center_crop_length _ xs (by omega)
  · intro xs hxs
    rw [← hxs]; exact C10.pad_then_center_crop_id fill N xs (by omega)

/-- with the pad as the driver executes it: `F.pad` with `(padBefore N n, padAfter N n)` -/
theorem fpad_then_center_crop_id_nd (t : Tensor α) (a N : Nat) (fill : α)
    (hwf : t.data.length = prod t.shape) (ha : a < t.shape.length) (hN : t.shape.getD a 1 ≤ N) :
    (t.alongAxis a (Crop.fPad fill (Crop.padBefore N (t.shape.getD a 1 : Nat)).toNat
        (Crop.padAfter N (t.shape.getD a 1 : Nat)).toNat)).alongAxis a
      (Crop.centerCrop (t.shape.getD a 1)) = t := by
  rw [alongAxis_congr t a _ (Crop.padTo fill N) (fun xs hxs => by simp only [Crop.padTo, hxs])]
  exact pad_then_center_crop_id_nd t a N fill hwf ha hN

theorem fPad_isGather (fill : α) (l r n : Nat) :
    IsGather (Crop.fPad fill l r) n (l + n + r)
      (fun k => if k < l then none else if k < l + n then some (k - l) else none) fill := by
  refine ⟨fun xs hxs => by rw [C10.fPad_length, hxs], ?_, ?_⟩
  · intro k j _ h
    split at h
    · cases h
    · split at h
      · cases h; omega
      · cases h
  · intro xs hxs k hk
    subst hxs
    rw [List.getD_eq_getElem?_getD, C10.fPad_getElem?]
    by_cases h1 : k < l
    · simp only [if_pos h1, Option.getD_some]
    · by_cases h2 : k < l + xs.length
      · simp only [if_neg h1, if_pos h2, List.getD_eq_getElem?_getD]
      · simp only [if_neg h1, if_neg h2, if_pos hk, Option.getD_some]

omit [Inhabited α] in
theorem fPad_replicate (fill : α) (l r n : Nat) :
    Crop.fPad fill l r (List.replicate n fill) = List.replicate (l + n + r) fill := by
  simp [Crop.fPad, List.replicate_append_replicate]

theorem centerCrop_isGather (s n : Nat) (h : s ≤ n) (c : α) :
    IsGather (Crop.centerCrop s) n s (fun k => some (k + (n - s) / 2)) c := by
  apply IsGather.of_getElem? (fun k => k + (n - s) / 2) c
  · intro xs hxs; exact C10.center_crop_length s xs (by omega)
  · intro k hk; omega
  · intro xs hxs k hk
    subst hxs
    exact C10.center_crop_window s xs h k hk

theorem pad_comm_nd (t : Tensor α) (a b : Nat) (fill : α) (l r l' r' : Nat)
    (hne : a ≠ b) (ha : a < t.shape.length) (hb : b < t.shape.length) :
    (t.alongAxis a (Crop.fPad fill l r)).alongAxis b (Crop.fPad fill l' r') =
      (t.alongAxis b (Crop.fPad fill l' r')).alongAxis a (Crop.fPad fill l r) :=
  alongAxis_comm_gather t a b _ _ _ _ _ fill hne ha hb (fPad_isGather fill l r _)
    (fPad_isGather fill l' r' _).len (fun _ => fPad_replicate fill l' r' _)

theorem center_crop_comm_nd (t : Tensor α) (a b s : Nat) (g : List α → List α) (mb : Nat)
    (hne : a ≠ b) (ha : a < t.shape.length) (hb : b < t.shape.length) (hs : s ≤ t.shape.getD a 1)
    (hg : LenUniform g (t.shape.getD b 1) mb) :
    (t.alongAxis a (Crop.centerCrop s)).alongAxis b g = (t.alongAxis b g).alongAxis a (Crop.centerCrop s) :=
  alongAxis_comm_gather t a b _ g _ mb _ default hne ha hb (centerCrop_isGather s _ hs default) hg
    (fun ⟨_, _, h⟩ => by cases h)

theorem padTo_shape (t : Tensor α) (a N : Nat) (fill : α) :
    (t.alongAxis a (Crop.padTo fill N)).shape = t.shape.set a (max (t.shape.getD a 1) N) :=
  alongAxis_shape t a _ _ fun xs hxs => by rw [C10.padTo_length, hxs]

theorem center_crop_pads_comm (fill : α) (a s : Nat) (ax : List (Nat × Nat)) (t : Tensor α) (ha : a < t.shape.length)
    (hs : s ≤ t.shape.getD a 1) (hax : ∀ q ∈ ax, a ≠ q.1 ∧ q.1 < t.shape.length) :
    (ax.foldl (fun u q => u.alongAxis q.1 (Crop.padTo fill q.2)) t).alongAxis a (Crop.centerCrop s) =
      ax.foldl (fun u q => u.alongAxis q.1 (Crop.padTo fill q.2)) (t.alongAxis a (Crop.centerCrop s)) := by
  induction ax generalizing t with
  | nil => rfl
  | cons q ax ih =>
    obtain ⟨hq, hqlt⟩ := hax q List.mem_cons_self
    have hlen : (t.alongAxis q.1 (Crop.padTo fill q.2)).shape.length = t.shape.length := by
      rw [padTo_shape, List.length_set]
    rw [List.foldl_cons, List.foldl_cons, ih _ (by omega) (by rw [padTo_shape, getD_set_ne _ _ _ _ _ (Ne.symm hq)]; exact hs)
      (fun r hr => by rw [hlen]; exact hax r (List.mem_cons_of_mem _ hr)),
      center_crop_comm_nd t a q.1 s _ _ hq ha hqlt hs fun xs hxs => by rw [C10.padTo_length, hxs]]

/-- **C10, n-D, any number of axes** (`pad_tensor` pads one axis after the other).  The first crop moves inside the later
pads and cancels the first pad; the rest is the same statement for the remaining axes. -/
theorem pads_then_center_crops_id (t : Tensor α) (fill : α) (ax : List (Nat × Nat))
    (hwf : t.data.length = prod t.shape) (hnd : (ax.map Prod.fst).Nodup)
    (hax : ∀ q ∈ ax, q.1 < t.shape.length ∧ t.shape.getD q.1 1 ≤ q.2) :
    ax.foldl (fun u q => u.alongAxis q.1 (Crop.centerCrop (t.shape.getD q.1 1)))
      (ax.foldl (fun u q => u.alongAxis q.1 (Crop.padTo fill q.2)) t) = t := by
  induction ax with
  | nil => rfl
  | cons q ax ih =>
    obtain ⟨hqlt, hqN⟩ := hax q List.mem_cons_self
    rw [List.map_cons, List.nodup_cons] at hnd
    rw [List.foldl_cons, List.foldl_cons, center_crop_pads_comm fill q.1 _ ax _ (by rw [padTo_shape, List.length_set]; exact hqlt)
      (by rw [padTo_shape, getD_set_self _ _ _ _ hqlt]; omega)
      (fun r hr => ⟨fun e => hnd.1 (e ▸ List.mem_map_of_mem hr), by
        rw [padTo_shape, List.length_set]; exact (hax r (List.mem_cons_of_mem _ hr)).1⟩),
      pad_then_center_crop_id_nd t q.1 q.2 fill hwf hqlt hqN]
    exact ih hnd.2 fun r hr => hax r (List.mem_cons_of_mem _ hr)

example : (⟨[2, 3, 2], List.range 12⟩ : Tensor Nat).data.length = prod [2, 3, 2] := by decide
example : LenUniform (Crop.padTo (0 : Nat) 5) 3 5 := fun xs h => C10.pad_length 0 5 xs (by omega)
example : ((⟨[2, 3, 2], List.range 12⟩ : Tensor Nat).alongAxis 1 (Crop.padTo 0 5)).alongAxis 1
    (Crop.centerCrop 3) = ⟨[2, 3, 2], List.range 12⟩ :=
  pad_then_center_crop_id_nd ⟨[2, 3, 2], List.range 12⟩ 1 5 0 (by decide) (by decide) (by decide)
example : ((⟨[2, 3, 2], List.range 12⟩ : Tensor Nat).alongAxis 1 (Crop.padTo 0 5)).data =
    [0, 0, 0, 1, 2, 3, 4, 5, 0, 0, 0, 0, 6, 7, 8, 9, 10, 11, 0, 0] := by
  rw [alongAxis_eq_alongAxisL]; decide

end DirectVerif.TensorLift
