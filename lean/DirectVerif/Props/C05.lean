import DirectVerif.Model.Rng
import DirectVerif.Lemmas.C05
/-!
# C05 — seeded masks are reproducible and independent of call history

The theorems hold for every RNG-access table satisfying the decidable `tableOk` (every draw statement reads `self.rng`, or
the local stream of `integerize_seed`, lexically inside `with temp_seed(…, seed)`), every stream implementation `Ops`,
body, state and op history; `Bridge/C05.lean` decides `tableOk` for the table generated from the source.

libc's `rand` state is a stream like the others and is *not* restored: every Cython kernel does `srand(v)` (`v` an
in-scope private draw) and then draws.  Under the discipline `LibcOk` (no `rand()` loop before an `srand` of the same
call) the seeded output does not depend on it and what a call leaves there is a function of (seed, program).
-/
namespace DirectVerif.C05
open DirectVerif DirectVerif.Rng
variable {σ Seed Req Val Out : Type}

/-- the call as coded is `temp_seed(self.rng, seed)` (save, seed, body, restore) around a body that works on `self.rng` only -/
theorem call_eq_tempSeed (t : Table) (ht : tableOk t = true) (O : Ops σ Seed Req Val)
    (prog : Prog Req Val Out) (hp : SitesIn t.length prog) (seed : Option Seed) (i : Nat) (st : State σ Val) :
    call t O prog seed i st = tempSeed O seed i (bodyIn t O seed i prog) st := by
  rw [call_ok t O seed ht prog hp]
  simp only [tempSeed, bodyIn, State.setPriv, effSeed, if_true]
  -- what is left: only slot `i` of the private streams was written, and the last write put `st.priv i` back
  congr 2
  funext j
  by_cases h : j = i <;> simp [h]

/-- **C05: history / state / instance independence of a seeded call** -/
theorem seeded_call_history_independent (t : Table) (ht : tableOk t = true) (O : Ops σ Seed Req Val)
    (prog : Prog Req Val Out) (hp : SitesIn t.length prog) (hl : LibcOk false prog)
    (s : Seed) (i i' : Nat) (st st' : State σ Val) :
    (call t O prog (some s) i st).1 = (call t O prog (some s) i' st').1 := by
  rw [call_ok t O _ ht prog hp, call_ok t O _ ht prog hp]
  exact (runIn_seeded t O s prog false hl _ _ _ _ _ (by simp)).1

theorem seeded_call_out_eq (t : Table) (ht : tableOk t = true) (O : Ops σ Seed Req Val)
    (prog : Prog Req Val Out) (hp : SitesIn t.length prog) (hl : LibcOk false prog)
    (s : Seed) (i : Nat) (st : State σ Val) (l0 : σ) :
    (call t O prog (some s) i st).1 = (runIn t O (some s) prog (O.seedTo s) 0 l0).out := by
  rw [call_ok t O _ ht prog hp]
  exact (runIn_seeded t O s prog false hl _ _ _ _ _ (by simp)).1

theorem instance_independent (t : Table) (ht : tableOk t = true) (O : Ops σ Seed Req Val)
    (prog : Prog Req Val Out) (hp : SitesIn t.length prog) (hl : LibcOk false prog)
    (s : Seed) (i i' : Nat) (st : State σ Val) :
    (call t O prog (some s) i st).1 = (call t O prog (some s) i' st).1 :=
  seeded_call_history_independent t ht O prog hp hl s i i' st st

/-- **C05: a call, seeded or not, leaves every private stream and the global numpy / torch / python streams as they were**
(libc: `libc_after_seeded_call`; OS entropy: `seeded_call_no_entropy`) -/
theorem seeded_call_restores (t : Table) (ht : tableOk t = true) (O : Ops σ Seed Req Val)
    (prog : Prog Req Val Out) (hp : SitesIn t.length prog) (seed : Option Seed) (i : Nat) (st : State σ Val) :
    (call t O prog seed i st).2.priv = st.priv ∧ (call t O prog seed i st).2.np = st.np ∧
    (call t O prog seed i st).2.torch = st.torch ∧ (call t O prog seed i st).2.py = st.py := by
  rw [call_ok t O _ ht prog hp]
  exact ⟨rfl, rfl, rfl, rfl⟩

theorem seeded_call_no_entropy (t : Table) (ht : tableOk t = true) (O : Ops σ Seed Req Val)
    (prog : Prog Req Val Out) (hp : SitesIn t.length prog) (hl : LibcOk false prog)
    (s : Seed) (i : Nat) (st : State σ Val) :
    (call t O prog (some s) i st).2.ent = st.ent := by
  rw [call_ok t O _ ht prog hp]
  exact (runIn_seeded t O s prog false hl _ st.ent st.ent st.libc st.libc (fun _ => rfl)).2.2.2.1

/-- either no kernel ran and libc is where it was, or it is in the state reached from `srand(v)` of the last kernel run, a
function of (seed, program): what a seeded call does not put back is itself reproducible -/
theorem libc_after_seeded_call (t : Table) (ht : tableOk t = true) (O : Ops σ Seed Req Val)
    (prog : Prog Req Val Out) (hp : SitesIn t.length prog) (hl : LibcOk false prog)
    (s : Seed) (i i' : Nat) (st st' : State σ Val) :
    ((call t O prog (some s) i st).2.libc = st.libc ∧ (call t O prog (some s) i' st').2.libc = st'.libc) ∨
    (call t O prog (some s) i st).2.libc = (call t O prog (some s) i' st').2.libc := by
  rw [call_ok t O _ ht prog hp, call_ok t O _ ht prog hp]
  exact (runIn_seeded t O s prog false hl _ st.ent st'.ent st.libc st'.libc (by simp)).2.2.2.2

/-- `NoLibc`: a generator without a Cython kernel -/
theorem call_without_kernel_keeps_libc (t : Table) (ht : tableOk t = true) (O : Ops σ Seed Req Val)
    (prog : Prog Req Val Out) (hp : SitesIn t.length prog) (hn : NoLibc prog)
    (seed : Option Seed) (i : Nat) (st : State σ Val) :
    (call t O prog seed i st).2.libc = st.libc := by
  rw [call_ok t O _ ht prog hp]
  exact runIn_noLibc t O seed prog hn _ _ _

/-- `pyxSrandFirst`: the generated event list of the `.pyx` kernel starts with `srand(seed)` -/
theorem kernelProg_libcOk (evs : List String) (h : pyxSrandFirst evs = true) (b : Bool) (v : Val) (r : Req)
    (k : Val → Prog Req Val Out) (hk : ∀ x, LibcOk true (k x)) :
    LibcOk b (kernelProg (pyxSrandFirst evs) v r k) := by
  rw [h]
  exact .srand (.crand hk)

/-- **C05, lifted to arbitrary histories** `h`: calls with any seed or none, other shapes / generators / `return_acs`, any
instance, new instances, deep copies / pickle / fork, draws from or re-seedings of the global numpy, torch, python and libc
generators -/
theorem history_independent {G A : Type} (t : Table) (ht : tableOk t = true) (O : Ops σ Seed Req Val)
    (body : G → A → Prog Req Val Out) (hb : ∀ g a, SitesIn t.length (body g a)) (hl : ∀ g a, LibcOk false (body g a))
    (h : List (Op Seed Req G A)) (g : G) (a : A) (s : Seed) (i i' : Nat) (st st' : State σ Val) :
    observe t O body st (h ++ [.call g a i (some s)]) = observe t O body st' [.call g a i' (some s)] := by
  unfold observe
  rw [run_append]
  simp only [run, step, List.getLast?_append, List.getLast?_singleton, Option.some_or, Option.join_some]
  exact congrArg some (seeded_call_history_independent t ht O _ (hb g a) (hl g a) s i i' _ st')

theorem history_call_keeps_globals {G A : Type} (t : Table) (ht : tableOk t = true) (O : Ops σ Seed Req Val)
    (body : G → A → Prog Req Val Out) (hb : ∀ g a, SitesIn t.length (body g a))
    (g : G) (a : A) (seed : Option Seed) (i : Nat) (st : State σ Val) :
    (step t O body st (.call g a i seed)).1.np = st.np ∧ (step t O body st (.call g a i seed)).1.torch = st.torch ∧
    (step t O body st (.call g a i seed)).1.py = st.py ∧ (step t O body st (.call g a i seed)).1.priv = st.priv := by
  have := seeded_call_restores t ht O (body g a) (hb g a) seed i st
  simp only [step]
  exact ⟨this.2.1, this.2.2.1, this.2.2.2, this.1⟩

/-- **the data pipeline's mask is a function of (shape, file name) only**: `CreateSamplingMask` with `use_seed` hands
`seedOf filename` to the generator (two slices of a volume, any loading order, worker, instance) -/
theorem create_sampling_mask_reproducible {G A F : Type} (t : Table) (ht : tableOk t = true) (O : Ops σ Seed Req Val)
    (body : G → A → Prog Req Val Out) (hb : ∀ g a, SitesIn t.length (body g a)) (hl : ∀ g a, LibcOk false (body g a))
    (seedOf : F → Seed) (fname : F)
    (h h' : List (Op Seed Req G A)) (g : G) (a : A) (i i' : Nat) (st st' : State σ Val) :
    observe t O body st (h ++ [.call g a i (transformSeed true seedOf fname)]) =
    observe t O body st' (h' ++ [.call g a i' (transformSeed true seedOf fname)]) := by
  simp only [transformSeed, if_true]
  rw [history_independent t ht O body hb hl h g a (seedOf fname) i i' st st',
      history_independent t ht O body hb hl h' g a (seedOf fname) i' i' st' st']

/-- a call that raises inside the seeded scope is modelled as a program that stops early (`seeded_call_restores` is for
every program); `failing` may be any op -/
theorem call_after_failed_call {G A : Type} (t : Table) (ht : tableOk t = true) (O : Ops σ Seed Req Val)
    (body : G → A → Prog Req Val Out) (hb : ∀ g a, SitesIn t.length (body g a)) (hl : ∀ g a, LibcOk false (body g a))
    (failing : Op Seed Req G A) (g : G) (a : A) (s : Seed) (i : Nat) (st : State σ Val) :
    observe t O body st [failing, .call g a i (some s)] = observe t O body st [.call g a i (some s)] :=
  history_independent t ht O body hb hl [failing] g a s i i st st

/-- **two kernels interleaved in one process cannot influence each other** (say `gaussian_mask_2d` before VD-Poisson,
with `srand` / `rand()` by anybody in between: `which = 3` is libc), because every kernel run re-seeds before it draws -/
theorem interleaved_kernel_calls_independent {G A : Type} (t : Table) (ht : tableOk t = true) (O : Ops σ Seed Req Val)
    (body : G → A → Prog Req Val Out) (hb : ∀ g a, SitesIn t.length (body g a)) (hl : ∀ g a, LibcOk false (body g a))
    (g₁ g₂ : G) (a₁ a₂ : A) (seed₁ : Option Seed) (s : Seed) (i₁ i₂ : Nat) (r : Req) (sl : Seed) (st st' : State σ Val) :
    observe t O body st [.call g₁ a₁ i₁ seed₁, .drawGlobal 3 r, .seedGlobal 3 sl, .drawGlobal 3 r, .call g₂ a₂ i₂ (some s)] =
    observe t O body st' [.call g₂ a₂ i₂ (some s)] :=
  history_independent t ht O body hb hl [.call g₁ a₁ i₁ seed₁, .drawGlobal 3 r, .seedGlobal 3 sl, .drawGlobal 3 r]
    g₂ a₂ s i₂ i₂ st st'

/-- **deep copy / pickle / fork of a generator mid-history** -/
theorem clone_call_same {G A : Type} (t : Table) (ht : tableOk t = true) (O : Ops σ Seed Req Val)
    (body : G → A → Prog Req Val Out) (hb : ∀ g a, SitesIn t.length (body g a)) (hl : ∀ g a, LibcOk false (body g a))
    (h : List (Op Seed Req G A)) (g : G) (a : A) (s : Seed) (i j : Nat) (st st' : State σ Val) :
    observe t O body st (h ++ [.clone i j, .call g a j (some s)]) = observe t O body st' [.call g a i (some s)] := by
  have := history_independent t ht O body hb hl (h ++ [.clone i j]) g a s j i st st'
  rwa [List.append_assoc] at this

/-- calls on the copy put the copied stream back like any call; an unseeded one seeds from OS entropy, not from it -/
theorem clone_copies_stream {G A : Type} (t : Table) (O : Ops σ Seed Req Val) (body : G → A → Prog Req Val Out)
    (i j : Nat) (st : State σ Val) :
    (step t O body st (.clone i j)).1.priv j = st.priv i ∧ (step t O body st (.clone i j)).1.np = st.np ∧
    (step t O body st (.clone i j)).1.libc = st.libc := by
  simp [step, State.setPriv]

def isCall {G A : Type} : Op Seed Req G A → Bool
  | .call .. => true
  | _ => false

def globals (st : State σ Val) : σ × σ × σ := (st.np, st.torch, st.py)

theorem step_noncall_globals {G A : Type} (t : Table) (O : Ops σ Seed Req Val) (body : G → A → Prog Req Val Out)
    (op : Op Seed Req G A) (hop : isCall op = false) (st st' : State σ Val) (h : globals st = globals st') :
    globals (step t O body st op).1 = globals (step t O body st' op).1 := by
  obtain ⟨h1, h2, h3⟩ : st.np = st'.np ∧ st.torch = st'.torch ∧ st.py = st'.py := by
    simpa only [globals, Prod.mk.injEq] using h
  cases op with
  | call g a i seed => cases hop
  | newInst i => exact h
  | clone s d => exact h
  -- every branch changes one of the three streams as a function of that stream alone, or none of them
  | drawGlobal w r =>
    simp only [step, apply_ite Prod.fst, apply_ite globals]
    simp only [globals, h1, h2, h3]
  | seedGlobal w s =>
    simp only [step, apply_ite Prod.fst, apply_ite globals]
    simp only [globals, h1, h2, h3]

/-- **the global numpy / torch / python streams after any history are those of the non-generator ops alone** -/
theorem history_globals_eq_noncall {G A : Type} (t : Table) (ht : tableOk t = true) (O : Ops σ Seed Req Val)
    (body : G → A → Prog Req Val Out) (hb : ∀ g a, SitesIn t.length (body g a)) :
    ∀ (h : List (Op Seed Req G A)) (st st' : State σ Val), globals st = globals st' →
      globals (run t O body st h).1 = globals (run t O body st' (h.filter fun op => !isCall op)).1 := by
  intro h
  induction h with
  | nil => intro st st' hg; exact hg
  | cons op h ih =>
    intro st st' hg
    cases hc : isCall op with
    | true =>
      have hkeep : globals (step t O body st op).1 = globals st := by
        cases op with
        | call g a i seed =>
          obtain ⟨h1, h2, h3, _⟩ := history_call_keeps_globals t ht O body hb g a seed i st
          simp only [globals, h1, h2, h3]
        | _ => cases hc
      simp only [run, List.filter_cons, hc, Bool.not_true, Bool.false_eq_true, if_false]
      exact ih _ _ (hkeep.trans hg)
    | false =>
      simp only [run, List.filter_cons, hc, Bool.not_false, if_true]
      exact ih _ _ (step_noncall_globals t O body op hc st st' hg)

/-- **the `return_acs` branch and the mask branch perform the same leading draws** (`choose_acceleration`): the ACS call's
request sequence is a prefix of the mask call's, and `rest x` ORs in the same `acsOf x` — the returned ACS is the ACS of
the returned mask -/
theorem acs_and_mask_share_first_draws {X : Type} (t : Table) (O : Ops σ Seed Req Val) (seed : Option Seed)
    (lead : Prog Req Val X) (acsOf : X → Out) (rest : X → Prog Req Val Out) (cur : σ) (e : Nat) (l : σ) :
    let L := runIn t O seed lead cur e l
    (runIn t O seed (withAcs lead acsOf rest true) cur e l).trace = L.trace ∧
    (runIn t O seed (withAcs lead acsOf rest true) cur e l).trace <+:
      (runIn t O seed (withAcs lead acsOf rest false) cur e l).trace ∧
    (runIn t O seed (withAcs lead acsOf rest true) cur e l).out = acsOf L.out ∧
    (runIn t O seed (withAcs lead acsOf rest false) cur e l).out =
      (runIn t O seed (rest L.out) L.cur L.ent L.libc).out := by
  intro L
  unfold withAcs
  rw [runIn_bind, runIn_bind]
  simp [runIn, L]

theorem acs_call_history_independent {X : Type} (t : Table) (ht : tableOk t = true) (O : Ops σ Seed Req Val)
    (lead : Prog Req Val X) (acsOf : X → Out) (rest : X → Prog Req Val Out)
    (hl : SitesIn t.length lead) (hr : ∀ x, SitesIn t.length (rest x))
    (hll : NoLibc lead) (hlr : ∀ x, LibcOk false (rest x)) (b : Bool)
    (s : Seed) (i i' : Nat) (st st' : State σ Val) :
    (call t O (withAcs lead acsOf rest b) (some s) i st).1 = (call t O (withAcs lead acsOf rest b) (some s) i' st').1 := by
  unfold withAcs
  refine seeded_call_history_independent t ht O _ (sitesIn_bind hl fun x => ?_) (libcOk_bind hll fun x => ?_)
    s i i' st st'
  · cases b
    · exact hr x
    · exact .ret _
  · cases b
    · exact hlr x
    · exact .ret _

/-! ### what goes wrong when the premise fails (counter-models by evaluation) -/

/-- toy streams: a stream is a number, a draw returns it and increments -/
def toyOps : Ops Nat Nat Unit Nat where
  seedTo := fun s => 1000 * (s + 1)
  draw := fun s _ => (s, s + 1)
  intz := fun s => s
  entropy := fun n => 77 + n
  srandTo := fun v => 500000 + v

def toyState (np : Nat) : State Nat Nat := ⟨fun _ => 5, np, 0, 0, 9, 0⟩

def toyStateL (l : Nat) : State Nat Nat := ⟨fun _ => 5, 10, 0, 0, l, 0⟩

/-- one private draw `v` (the kernel's integer seed), one kernel run -/
def oneKernel (srandFirst : Bool) : Prog Unit Nat Nat :=
  .draw 0 () fun v => kernelProg srandFirst v () fun x => .ret x

/-- **libc is not restored** -/
theorem libc_not_restored :
    (call [⟨.priv, true⟩] toyOps (oneKernel true) (some 3) 0 (toyStateL 9)).2.libc = 504001 ∧
    (call [⟨.priv, true⟩] toyOps (oneKernel true) (some 3) 0 (toyStateL 9)).2.libc ≠ (toyStateL 9).libc := by decide +kernel

/-- … but what it leaves there, and what it returns, do not depend on where libc was -/
example :
    (call [⟨.priv, true⟩] toyOps (oneKernel true) (some 3) 0 (toyStateL 9)).1 =
    (call [⟨.priv, true⟩] toyOps (oneKernel true) (some 3) 0 (toyStateL 123)).1 ∧
    (call [⟨.priv, true⟩] toyOps (oneKernel true) (some 3) 0 (toyStateL 9)).2.libc =
    (call [⟨.priv, true⟩] toyOps (oneKernel true) (some 3) 0 (toyStateL 123)).2.libc := by decide +kernel

/-- a kernel whose `rand()` loop starts before `srand(seed)` depends on whoever used libc before -/
theorem rand_before_srand_violates :
    (call [⟨.priv, true⟩] toyOps (oneKernel false) (some 3) 0 (toyStateL 9)).1 ≠
    (call [⟨.priv, true⟩] toyOps (oneKernel false) (some 3) 0 (toyStateL 123)).1 := by decide +kernel

theorem rand_before_srand_not_libcOk : ¬ LibcOk false (oneKernel false) := by
  intro h
  cases h with
  | draw hk =>
    have := hk 0
    simp only [kernelProg, Bool.false_eq_true, if_false] at this
    cases this

def oneDraw : Prog Unit Nat Nat := .draw 0 () fun v => .ret v

/-- a draw from the global numpy stream -/
theorem global_draw_violates :
    (call [⟨.npGlobal, true⟩] toyOps oneDraw (some 3) 0 (toyState 10)).1 ≠
    (call [⟨.npGlobal, true⟩] toyOps oneDraw (some 3) 0 (toyState 11)).1 := by decide +kernel

theorem global_draw_not_restored :
    (call [⟨.npGlobal, true⟩] toyOps oneDraw (some 3) 0 (toyState 10)).2.np ≠ (toyState 10).np := by decide +kernel

/-- a private draw outside the `with` sees the unseeded stream and leaves it advanced -/
theorem unscoped_draw_violates :
    (call [⟨.priv, false⟩] toyOps oneDraw (some 3) 0 (toyState 10)).1 = 5 ∧
    (call [⟨.priv, false⟩] toyOps oneDraw (some 3) 0 (toyState 10)).2.priv 0 = 6 := by decide +kernel

/-! ### non-vacuity -/

example : tableOk [⟨.priv, true⟩, ⟨.fresh, true⟩] = true := by decide +kernel
example : SitesIn 1 oneDraw := .draw (by decide) fun _ => .ret _
example : LibcOk false oneDraw := .draw fun _ => .ret _
example : NoLibc oneDraw := .draw fun _ => .ret _
example : SitesIn 1 (oneKernel true) := .draw (by decide) fun _ => .srand (.crand fun _ => .ret _)
example : LibcOk false (oneKernel true) := .draw fun _ => .srand (.crand fun _ => .ret _)
example : pyxSrandFirst ["srand:seed", "rand", "rand"] = true := by decide +kernel
example : pyxSrandFirst ["rand", "srand:seed"] = false := by decide +kernel
example : pyxSrandFirst ["srand:seed", "rand", "srand:other"] = false := by decide +kernel
/-- 4000 = `seedTo 3` -/
example : (call [⟨.priv, true⟩] toyOps oneDraw (some 3) 0 (toyState 10)).1 = 4000 := by decide +kernel
example : (call [⟨.priv, true⟩] toyOps oneDraw (some 3) 7 (toyState 99)).1 = 4000 := by decide +kernel
example : (call [⟨.priv, true⟩] toyOps oneDraw (some 4) 0 (toyState 10)).1 = 5000 := by decide +kernel
/-- `some s` in the theorems is necessary -/
example : (call [⟨.priv, true⟩] toyOps oneDraw none 0 (toyState 10)).1 = 78000 := by decide +kernel
example :
    observe [⟨.priv, true⟩] toyOps (fun (_ : Unit) (_ : Unit) => oneDraw) (toyState 10)
      ([.call () () 0 none, .newInst 1, .drawGlobal 0 (), .seedGlobal 1 9, .call () () 1 (some 8),
        .drawGlobal 2 (), .clone 1 4, .drawGlobal 3 (), .seedGlobal 3 2] ++ [.call () () 4 (some 3)]) = some 4000 := by decide +kernel
example :
    observe [⟨.priv, true⟩] toyOps (fun (_ : Unit) (_ : Unit) => oneKernel true) (toyStateL 9)
      [.call () () 0 (some 8), .drawGlobal 3 (), .call () () 1 (some 3)] =
    observe [⟨.priv, true⟩] toyOps (fun (_ : Unit) (_ : Unit) => oneKernel true) (toyStateL 77)
      [.call () () 0 (some 3)] := by decide +kernel
example :
    globals (run [⟨.priv, true⟩] toyOps (fun (_ : Unit) (_ : Unit) => oneDraw) (toyState 10)
      [.call () () 0 none, .drawGlobal 0 (), .call () () 1 (some 8), .seedGlobal 1 9]).1 =
    globals (run [⟨.priv, true⟩] toyOps (fun (_ : Unit) (_ : Unit) => oneDraw) (toyState 10)
      [.drawGlobal 0 (), .seedGlobal 1 9]).1 := by decide +kernel

end DirectVerif.C05
