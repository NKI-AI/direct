import DirectVerif.Lemmas.C07
/-!
C07, `EquispacedMaskFunc`.  For `a > 1` the rounded grid `np.around(np.arange(offset, N - 1, a))` is strictly increasing and
inside the row, so the count is `#ACS + #(grid points outside the ACS block)` (`equi_count_decomp`) and the points left
of a column `t` are the first `equiBelow t` ones.  The last of them and the first one after them bracket `equiBelow t · a`;
the budget bounds are linear arithmetic on these brackets at the two ends of the ACS block.
-/
namespace DirectVerif.MaskBudget

theorem countP_mem_nodup (Q : List Int) (n : Nat) (hn : Q.Nodup) (hr : ∀ q ∈ Q, 0 ≤ q ∧ q < n) :
    (List.range n).countP (fun (i : Nat) => Q.contains (i : Int)) = Q.length := by
  -- the indices counted are, up to order, the members of `Q` read as naturals
  rw [List.countP_eq_length_filter, ← List.length_map (f := Int.toNat) (as := Q)]
  apply List.Perm.length_eq
  refine (List.perm_ext_iff_of_nodup (List.nodup_range.filter _) ?_).mpr fun i => ?_
  · refine List.pairwise_map.mpr (List.Pairwise.imp_of_mem (fun {a b} ha hb hne h => hne ?_) hn)
    have := hr a ha
    have := hr b hb
    omega
  · simp only [List.mem_filter, List.mem_range, List.contains_iff_mem, List.mem_map]
    constructor
    · rintro ⟨_, hi⟩
      exact ⟨i, hi, Int.toNat_natCast i⟩
    · rintro ⟨q, hq, rfl⟩
      have := hr q hq
      exact ⟨by omega, by rwa [Int.toNat_of_nonneg this.1]⟩

theorem countP_mono' {α} (p q : α → Bool) (l : List α) (h : ∀ x ∈ l, p x = true → q x = true) :
    l.countP p ≤ l.countP q := List.countP_mono_left h

theorem arangeLen_lower (start stop step : ℚ) : (stop - start) / step ≤ (arangeLen start stop step : ℚ) := by
  unfold arangeLen
  have h1 : (stop - start) / step ≤ ((((stop - start) / step).ceil : ℤ) : ℚ) := by rw [ceil_eq]; exact Int.le_ceil _
  have h2 : ((((stop - start) / step).ceil : ℤ) : ℚ) ≤ ((((stop - start) / step).ceil.toNat : ℕ) : ℚ) := by
    exact_mod_cast Int.self_le_toNat _
  exact h1.trans h2

theorem arangeLen_bounds (start stop step : ℚ) (hs : 0 < step) (h : start ≤ stop) :
    (stop - start) / step ≤ (arangeLen start stop step : ℚ) ∧
    (arangeLen start stop step : ℚ) < (stop - start) / step + 1 := by
  refine ⟨arangeLen_lower start stop step, ?_⟩
  unfold arangeLen
  have hc : 0 ≤ ((stop - start) / step).ceil := by
    rw [ceil_eq]; exact Int.ceil_nonneg (div_nonneg (by linarith) hs.le)
  rw [toNat_cast hc, ceil_eq]
  exact Int.ceil_lt_add_one _

theorem grid_lt (N : Int) (a : ℚ) (off : Int) (ha : 0 < a) (j : Nat)
    (hj : j < arangeLen off (N - 1) a) : (off : ℚ) + (j : ℚ) * a < (N : ℚ) - 1 := by
  unfold arangeLen at hj
  have hj' : (j : ℤ) < (((N : ℚ) - 1 - off) / a).ceil := by omega
  rw [ceil_eq, Int.lt_ceil, lt_div_iff₀ ha] at hj'
  push_cast at hj'
  linarith

/-- for `a > 1` consecutive grid points are more than one column apart, so rounding keeps their order -/
theorem grid_strict (a : ℚ) (off : Int) (ha : 1 < a) (i j : ℕ) (hij : i < j) :
    roundHalfEven ((off : ℚ) + (i : ℚ) * a) < roundHalfEven ((off : ℚ) + (j : ℚ) * a) := by
  have hlo := rnd_lower ((off : ℚ) + (j : ℚ) * a)
  have hup := rnd_upper ((off : ℚ) + (i : ℚ) * a)
  have hij' : (i : ℚ) + 1 ≤ (j : ℚ) := by exact_mod_cast hij
  have h3 : ((i : ℚ) + 1) * a ≤ (j : ℚ) * a := mul_le_mul_of_nonneg_right hij' (by linarith)
  have : ((roundHalfEven ((off : ℚ) + (i : ℚ) * a) : ℤ) : ℚ) < ((roundHalfEven ((off : ℚ) + (j : ℚ) * a) : ℤ) : ℚ) := by
    linarith
  exact_mod_cast this

theorem positions_length (N : Int) (a : ℚ) (off : Int) :
    (equiPositions N a off).length = arangeLen off (N - 1) a := by
  simp [equiPositions]

theorem positions_get (N : Int) (a : ℚ) (off : Int) (j : Nat) (hj : j < arangeLen off (N - 1) a) :
    (equiPositions N a off)[j]? = some (roundHalfEven ((off : ℚ) + (j : ℚ) * a)) := by
  simp [equiPositions, hj]

theorem positions_range (N : Int) (a : ℚ) (off : Int) (ha : 0 < a) :
    ∀ p ∈ equiPositions N a off, off ≤ p ∧ p ≤ N - 1 := by
  intro p hp
  simp only [equiPositions, List.mem_map, List.mem_range] at hp
  obtain ⟨j, hj, rfl⟩ := hp
  have hlt := grid_lt N a off ha j hj
  have hja : 0 ≤ (j : ℚ) * a := by positivity
  constructor
  · by_contra h
    have := le_of_rnd_lt (not_le.mp h)
    linarith
  · by_contra h
    have := le_of_le_rnd (q := (off : ℚ) + (j : ℚ) * a) (t := N) (by omega)
    linarith

theorem positions_strict (N : Int) (a : ℚ) (off : Int) (ha : 1 < a) :
    (equiPositions N a off).Pairwise (· < ·) := by
  unfold equiPositions
  rw [List.pairwise_map]
  exact List.Pairwise.imp (grid_strict a off ha _ _) List.pairwise_lt_range

theorem equi_count_decomp (N L : Int) (a : ℚ) (off : Int) (hL0 : 0 ≤ L) (hLN : L ≤ N) (ha : 1 < a)
    (hoff : 0 ≤ off) :
    countTrue (equiMask N L a off) = equiCountFast N L a off := by
  unfold equiMask equiCountFast
  rw [countTrue_map_range, countP_or_disj, countP_inAcs N L hL0 hLN]
  congr 1
  have hnd : ((equiPositions N a off).filter fun p => !inAcs N L p).Nodup :=
    ((positions_strict N a off ha).imp (fun h => ne_of_lt h)).filter _
  have hr : ∀ q ∈ (equiPositions N a off).filter (fun p => !inAcs N L p), 0 ≤ q ∧ q < (N.toNat : Int) := by
    intro q hq
    have := positions_range N a off (by linarith) q (List.mem_filter.mp hq).1
    omega
  rw [← countP_mem_nodup _ N.toNat hnd hr]
  apply List.countP_congr
  intro i _
  simp only [List.contains_iff_mem, List.mem_filter, Bool.and_eq_true, Bool.not_eq_true']
  exact and_comm

/-- grid points whose rounded value is a column left of `t` -/
def equiBelow (N : Int) (a : ℚ) (off t : Int) : Nat :=
  (List.range (arangeLen off (N - 1) a)).countP fun (j : Nat) => decide (roundHalfEven ((off : ℚ) + (j : ℚ) * a) < t)

theorem equiBelow_le (N : Int) (a : ℚ) (off t : Int) : equiBelow N a off t ≤ arangeLen off (N - 1) a := by
  unfold equiBelow
  exact List.countP_le_length.trans_eq List.length_range

theorem equiBelow_mono (N : Int) (a : ℚ) (off : Int) {t t' : Int} (h : t ≤ t') :
    equiBelow N a off t ≤ equiBelow N a off t' := by
  apply List.countP_mono_left
  intro j _ hj
  simp only [decide_eq_true_eq] at hj ⊢
  omega

theorem equiBelow_iff (N : Int) (a : ℚ) (off t : Int) (ha : 1 < a) (j : Nat) (hj : j < arangeLen off (N - 1) a) :
    roundHalfEven ((off : ℚ) + (j : ℚ) * a) < t ↔ j < equiBelow N a off t := by
  rw [equiBelow, ← countP_prefix _ _ _ j hj, decide_eq_true_eq]
  intro i j hij h
  simp only [decide_eq_true_eq] at h ⊢
  rcases Nat.eq_or_lt_of_le hij with rfl | hlt
  · exact h
  · exact (grid_strict a off ha i j hlt).trans h

theorem equiBelow_last (N : Int) (a : ℚ) (off t : Int) (ha : 1 < a) (h : 0 < equiBelow N a off t) :
    (equiBelow N a off t : ℚ) * a ≤ (t : ℚ) - 1 / 2 - off + a := by
  obtain ⟨c, hc⟩ : ∃ c, equiBelow N a off t = c + 1 := ⟨_, (Nat.succ_pred_eq_of_pos h).symm⟩
  have hcm := equiBelow_le N a off t
  have := le_of_rnd_lt ((equiBelow_iff N a off t ha c (by omega)).mpr (by omega))
  rw [hc]
  push_cast
  linarith

theorem equiBelow_first (N : Int) (a : ℚ) (off t : Int) (ha : 1 < a)
    (h : equiBelow N a off t < arangeLen off (N - 1) a) :
    (t : ℚ) - 1 / 2 - off ≤ (equiBelow N a off t : ℚ) * a := by
  have := le_of_le_rnd (not_lt.mp (mt (equiBelow_iff N a off t ha _ h).mp (lt_irrefl _)))
  linarith

theorem countP_outside (g : ℕ → ℤ) (lo hi : ℤ) (h : lo ≤ hi) (l : List ℕ) :
    l.countP (fun j => !(decide (lo ≤ g j) && decide (g j < hi))) + l.countP (fun j => decide (g j < hi)) =
      l.countP (fun j => decide (g j < lo)) + l.length := by
  induction l with
  | nil => rfl
  | cons x l ih =>
    simp only [List.countP_cons, List.length_cons]
    by_cases h1 : g x < lo
    · have h2 : g x < hi := by omega
      simp [h1, h2] at ih ⊢
      omega
    · by_cases h2 : g x < hi
      · simp [h1, h2] at ih ⊢
        omega
      · simp [h1, h2] at ih ⊢
        omega

theorem acsPad_centred (N L : Int) : 2 * acsPad N L - 1 ≤ N - L ∧ N - L ≤ 2 * acsPad N L := by
  unfold acsPad; omega

/-- all the budget proofs use about a frame: `A` grid points left of the ACS block, `J` left of its end, `m` in all -/
theorem equi_count_shape (N L : Int) (a : ℚ) (off : Int) (hL0 : 0 ≤ L) (hLN : L ≤ N) (ha : 1 < a) (hoff : 0 ≤ off) :
    ∃ A J m : ℕ, A ≤ J ∧ J ≤ m ∧
      (countTrue (equiMask N L a off) : ℚ) + J = (L : ℚ) + A + m ∧
      (N : ℚ) - 1 - off ≤ (m : ℚ) * a ∧ (0 < m → (m : ℚ) * a < (N : ℚ) - 1 - off + a) ∧
      (0 < A → (A : ℚ) * a ≤ (acsPad N L : ℚ) - 1 / 2 - off + a) ∧
      (A < m → (acsPad N L : ℚ) - 1 / 2 - off ≤ (A : ℚ) * a) ∧
      (0 < J → (J : ℚ) * a ≤ (acsPad N L : ℚ) + L - 1 / 2 - off + a) ∧
      (J < m → (acsPad N L : ℚ) + L - 1 / 2 - off ≤ (J : ℚ) * a) := by
  have ha0 : 0 < a := by linarith
  refine ⟨equiBelow N a off (acsPad N L), equiBelow N a off (acsPad N L + L), arangeLen off (N - 1) a,
    equiBelow_mono N a off (by omega), equiBelow_le N a off _, ?_,
    (div_le_iff₀ ha0).mp (arangeLen_lower (off : ℚ) ((N : ℚ) - 1) a), ?_,
    equiBelow_last N a off _ ha, equiBelow_first N a off _ ha, ?_, ?_⟩
  · -- the grid points outside the block are those left of it and those not left of its end
    have hnat : equiCountFast N L a off + equiBelow N a off (acsPad N L + L) =
        L.toNat + equiBelow N a off (acsPad N L) + arangeLen off (N - 1) a := by
      have h := countP_outside (fun j => roundHalfEven ((off : ℚ) + (j : ℚ) * a)) (acsPad N L) (acsPad N L + L)
        (by omega) (List.range (arangeLen off (N - 1) a))
      rw [List.length_range] at h
      unfold equiCountFast equiPositions equiBelow
      rw [← List.countP_eq_length_filter, List.countP_map]
      simp only [Function.comp_def, inAcs]
      omega
    rw [equi_count_decomp N L a off hL0 hLN ha hoff, ← toNat_cast hL0]
    exact_mod_cast hnat
  · intro hm
    have := grid_lt N a off ha0 (arangeLen off (N - 1) a - 1) (by omega)
    rw [Nat.cast_sub hm, Nat.cast_one] at this
    linarith
  · simpa using equiBelow_last N a off (acsPad N L + L) ha
  · simpa using equiBelow_first N a off (acsPad N L + L) ha

/-- in terms of the adjusted acceleration `a` -/
theorem equi_count_bounds (N L : Int) (a : ℚ) (off : Int) (hL0 : 0 ≤ L) (hLN : L ≤ N) (ha : 1 < a)
    (hoff : 0 ≤ off) :
    (L : ℚ) + ((N : ℚ) - L) / a - 1 - (1 + (off : ℚ)) / a ≤ (countTrue (equiMask N L a off) : ℚ) ∧
    (countTrue (equiMask N L a off) : ℚ) < (L : ℚ) + ((N : ℚ) - L) / a + 2 := by
  have ha0 : 0 < a := by linarith
  obtain ⟨hpad0, hpadN⟩ := acsPad_bounds hLN
  have hpad0q : (0 : ℚ) ≤ (acsPad N L : ℚ) := by exact_mod_cast hpad0
  have hpadNq : (acsPad N L : ℚ) + L ≤ N := by exact_mod_cast hpadN
  have hL0q : (0 : ℚ) ≤ (L : ℚ) := by exact_mod_cast hL0
  have hoffq : (0 : ℚ) ≤ (off : ℚ) := by exact_mod_cast hoff
  obtain ⟨A, J, m, hAJ, hJm, hcount, hm1, hm2, hA1, hA2, hJ1, hJ2⟩ := equi_count_shape N L a off hL0 hLN ha hoff
  constructor
  ·
    have key : (N : ℚ) - L - (1 + off) ≤ ((A : ℚ) + m - J + 1) * a := by
      rcases Nat.eq_or_lt_of_le hAJ with rfl | h
      · linarith
      · have := hA2 (by omega)
        have := hJ1 (by omega)
        linarith
    have := (div_le_iff₀ ha0).mpr key
    rw [sub_div] at this
    linarith
  ·
    have key : ((A : ℚ) + m - J - 2) * a < (N : ℚ) - L := by
      have hA : (A : ℚ) * a < (acsPad N L : ℚ) + a := by
        rcases Nat.eq_zero_or_pos A with rfl | hA
        · rw [Nat.cast_zero, zero_mul]; linarith
        · have := hA1 hA; linarith
      have hJ : (m : ℚ) * a - J * a ≤ (N : ℚ) - L - acsPad N L + a := by
        rcases Nat.eq_or_lt_of_le hJm with rfl | h
        · rw [sub_self]; linarith
        · have := hm2 (by omega)
          have := hJ2 h
          linarith
      linarith
    have := (lt_div_iff₀ ha0).mpr key
    linarith

theorem no_int_multiple_between (d : ℤ) (a : ℚ) (ha : 0 < a) (h1 : 0 < (d : ℚ) * a) (h2 : (d : ℚ) * a < a) : False := by
  rcases le_or_gt d 0 with h | h
  · have : (d : ℚ) ≤ 0 := by exact_mod_cast h
    nlinarith
  · have : (1 : ℚ) ≤ (d : ℚ) := by exact_mod_cast h
    nlinarith

/-- **lower side in full**, for `a ≥ 2` and an admissible offset.

With `A`, `J`, `m` as above, `x_A ≥ pad − ½`, `x_{J−1} ≤ pad + L − ½` and `x_m ≥ N − 1` give
`(A + m − J + 2)·a ≥ N − L − ½ + (a − off − ½)`, short by up to one half when the offset bound `round(a)` was rounded up.
But then the integer `d = m − (J − 1) − A` would satisfy `0 < d·a < a`, because the block is centred
(`2·pad − 1 ≤ N − L ≤ 2·pad`) — impossible. -/
theorem equi_count_lower (N L : Int) (a : ℚ) (off : Int) (hL0 : 0 ≤ L) (hLN : L ≤ N) (ha2 : 2 ≤ a)
    (hoff : 0 ≤ off) (hoffb : off < roundHalfEven a) :
    (L : ℚ) + ((N : ℚ) - L) / a - 2 ≤ (countTrue (equiMask N L a off) : ℚ) := by
  have ha : 1 < a := by linarith
  have ha0 : 0 < a := by linarith
  have hL0q : (0 : ℚ) ≤ (L : ℚ) := by exact_mod_cast hL0
  have ht : (off : ℚ) + 1 ≤ a + 1 / 2 := by
    have := le_of_le_rnd (q := a) (t := off + 1) (by omega)
    push_cast at this
    linarith
  have hε : 2 * (acsPad N L : ℚ) - 1 ≤ (N : ℚ) - L ∧ (N : ℚ) - L ≤ 2 * (acsPad N L : ℚ) := by
    exact_mod_cast acsPad_centred N L
  obtain ⟨A, J, m, hAJ, hJm, hcount, hm1, _, _, hA2, hJ1, _⟩ := equi_count_shape N L a off hL0 hLN ha hoff
  have key : (N : ℚ) - L ≤ ((A : ℚ) + m - J + 2) * a := by
    rcases Nat.eq_or_lt_of_le hAJ with rfl | h
    · -- no grid point inside the block
      linarith
    · have s1 := hA2 (by omega)
      have s2 := hJ1 (by omega)
      by_contra hneg
      rw [not_le] at hneg
      apply no_int_multiple_between ((m : ℤ) + 1 - J - A) a ha0
      · push_cast; linarith
      · push_cast; linarith
  have := (div_le_iff₀ ha0).mpr key
  linarith

end DirectVerif.MaskBudget
