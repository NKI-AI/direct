import DirectVerif.Lemmas.C10Crop
/-!
The bounding-box window `bboxSpec` as a padded slice, and the patch `crop_to_bbox` assembles.

`crop_to_bbox` reads `xs[c + l : c + s - r]` and writes it to `patch[l : s - r]`, with `l`, `r` the amounts by which the box
`[c, c + s)` sticks out of the list on the left and on the right.  Either the box meets the list (`l + r < s`): then none of
the bounds is clamped and the patch is `F.pad` of the slice by `(l, r)`; or it misses it: then both slices are empty.
-/
namespace DirectVerif.C10
open DirectVerif DirectVerif.Crop

theorem bboxSpec_getElem? {α} (fill : α) (xs : List α) (c : Int) (s k : Nat) :
    (bboxSpec fill xs c s)[k]? =
      if k < s then (if 0 ≤ c + k ∧ c + k < xs.length then xs[(c + k).toNat]? else some fill) else none := by
  unfold bboxSpec
  by_cases hk : k < s
  · rw [List.getElem?_map, List.getElem?_range hk, if_pos hk, Option.map_some]
    simp only
    by_cases h : 0 ≤ c + k ∧ c + k < xs.length
    · rw [if_pos h, if_pos h, List.getD_eq_getElem?_getD, List.getElem?_eq_getElem (by omega), Option.getD_some]
    · rw [if_neg h, if_neg h]
  · rw [List.getElem?_eq_none (by rw [List.length_map, List.length_range]; omega), if_neg hk]

/-- if the patch positions `a ≤ k < a + (j - i)` address `xs[i], …, xs[j-1]` and no other position addresses the list -/
theorem bboxSpec_eq_fPad {α} (fill : α) (xs : List α) (c : Int) (s a b i j : Nat)
    (hij : i ≤ j) (hj : j ≤ xs.length) (hs : a + (j - i) + b = s) (hin : i = j ∨ c + a = i)
    (hout : ∀ k : Nat, k < s → 0 ≤ c + k → c + k < xs.length → a ≤ k ∧ k < a + (j - i)) :
    bboxSpec fill xs c s = fPad fill a b (slice xs i j) := by
  apply List.ext_getElem?
  intro k
  rw [bboxSpec_getElem?, fPad_getElem?, slice_getElem?, slice_length xs i j hj]
  generalize xs.length = n at *
  by_cases hk : k < s
  · rw [if_pos hk]
    by_cases hin' : 0 ≤ c + k ∧ c + k < n
    · have := hout k hk hin'.1 hin'.2
      rw [if_pos hin', if_neg (by omega), if_pos (by omega), if_pos (by omega)]
      congr 1; omega
    · rw [if_neg hin']
      by_cases h1 : k < a
      · rw [if_pos h1]
      · rw [if_neg h1, if_neg (by omega), if_pos (by omega)]
  · rw [if_neg hk, if_neg (by omega), if_neg (by omega), if_neg (by omega)]

theorem bboxLOff_eq (c : Int) : bboxLOff c = max (-c) 0 := by
  unfold bboxLOff; split <;> omega

theorem bboxROff_eq (n c s : Int) : bboxROff n c s = max (c + s - n) 0 := by
  unfold bboxROff; split <;> omega

/-- the general path of `crop_to_bbox`: the region fits the slice `patch[lo : hi]` it is assigned to, for every box -/
theorem bbox_patch {α} (fill : α) (xs : List α) (c : Int) (s : Nat) :
    let l := bboxLOff c
    let r := bboxROff xs.length c s
    let lo := (min l s).toNat
    let hi := (min (max l (s - r)) s).toNat
    hi - lo = (bboxRegion xs c s).length ∧
      fPad fill lo (s - lo - (hi - lo)) (bboxRegion xs c s) = bboxSpec fill xs c s := by
  unfold bboxRegion
  simp only
  generalize hl : bboxLOff c = l
  generalize hr : bboxROff xs.length c s = r
  rw [bboxLOff_eq] at hl
  rw [bboxROff_eq] at hr
  rw [pySlice_of_nonneg _ _ _ (by omega) (by omega)]
  generalize hn : xs.length = n at *
  by_cases h : l + r < s
  · rw [Int.max_eq_right (by omega : c + l ≤ c + s - r), Int.min_eq_left (by omega : c + l ≤ n),
      Int.min_eq_left (by omega : c + s - r ≤ n), Int.max_eq_right (by omega : l ≤ s - r),
      Int.min_eq_left (by omega : l ≤ s), Int.min_eq_left (by omega : s - r ≤ (s : Int))]
    obtain ⟨a, rfl⟩ := Int.eq_ofNat_of_zero_le (by omega : 0 ≤ l)
    obtain ⟨b, rfl⟩ := Int.eq_ofNat_of_zero_le (by omega : 0 ≤ r)
    obtain ⟨i, hi⟩ := Int.eq_ofNat_of_zero_le (by omega : 0 ≤ c + a)
    obtain ⟨j, hj⟩ := Int.eq_ofNat_of_zero_le (by omega : 0 ≤ c + s - b)
    rw [hi, hj, Int.toNat_sub, Int.toNat_natCast, Int.toNat_natCast, Int.toNat_natCast,
      slice_length _ _ _ (by omega)]
    refine ⟨by omega, (bboxSpec_eq_fPad fill xs c s _ _ _ _ (by omega) (by omega) (by omega) (by omega) ?_).symm⟩
    intro k hk h0 h1
    omega
  · rw [Int.max_eq_left (by omega : c + s - r ≤ c + l), Int.max_eq_left (by omega : s - r ≤ l),
      slice_eq_nil _ _ _ (Nat.le_refl _)]
    refine ⟨by simp, ?_⟩
    rw [bboxSpec_eq_fPad fill xs c s _ _ 0 0 (Nat.le_refl _) (Nat.zero_le _) ?_ (.inl rfl) ?_,
      slice_eq_nil _ _ _ (Nat.le_refl _)]
    · omega
    · intro k hk h0 h1
      omega

end DirectVerif.C10
