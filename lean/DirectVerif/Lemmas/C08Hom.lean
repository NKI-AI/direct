import DirectVerif.Model.Pipeline
import Mathlib.Algebra.Order.Field.Power
import Mathlib.Tactic.FieldSimp
import Mathlib.Tactic.Ring
/-!
# C08 — homogeneity of the list primitives over an ordered field

`fieldOps sqrt` reads the scalar-operation record of `Model/Pipeline.lean` in a linearly ordered field, with a square
root of which only `SqrtHom` is assumed.  Each `*_scale` lemma moves a factor `q` through one list primitive of
`evalOp`; those that compare or test for zero need `q > 0`.
-/
set_option linter.unusedSectionVars false
namespace DirectVerif.Pipeline
variable {K : Type} [Field K] [LinearOrder K] [IsStrictOrderedRing K]

def fieldOps (sqrt : K → K) : Ops K where
  zero := 0
  one := 1
  add := (· + ·)
  mul := (· * ·)
  div := (· / ·)
  neg := (- ·)
  lt := fun a b => decide (a < b)
  isZero := fun a => decide (a = 0)
  sqrt := sqrt
  ofNat := fun n => (n : K)

section proj
variable (sqrt : K → K) (a b : K) (n : Nat)
@[simp] theorem fo_zero : (fieldOps sqrt).zero = 0 := rfl
@[simp] theorem fo_one : (fieldOps sqrt).one = 1 := rfl
@[simp] theorem fo_add : (fieldOps sqrt).add a b = a + b := rfl
@[simp] theorem fo_mul : (fieldOps sqrt).mul a b = a * b := rfl
@[simp] theorem fo_div : (fieldOps sqrt).div a b = a / b := rfl
@[simp] theorem fo_neg : (fieldOps sqrt).neg a = -a := rfl
@[simp] theorem fo_lt : (fieldOps sqrt).lt a b = decide (a < b) := rfl
@[simp] theorem fo_isZero : (fieldOps sqrt).isZero a = decide (a = 0) := rfl
@[simp] theorem fo_sqrt : (fieldOps sqrt).sqrt a = sqrt a := rfl
@[simp] theorem fo_ofNat : (fieldOps sqrt).ofNat n = (n : K) := rfl
end proj

/-- the only property of the square root the theorems use -/
def SqrtHom (sqrt : K → K) : Prop := ∀ q : K, 0 < q → ∀ x, sqrt (q * q * x) = q * sqrt x

def scaleV (q : K) (v : Val K) : Val K := v.map (q * ·)

@[simp] theorem scaleV_one (v : Val K) : scaleV 1 v = v := by
  cases v; simp [scaleV, Val.map]

@[simp] theorem scaleV_nc (q : K) (v : Val K) : (scaleV q v).nc = v.nc := rfl
@[simp] theorem scaleV_ns (q : K) (v : Val K) : (scaleV q v).ns = v.ns := rfl
@[simp] theorem scaleV_cplx (q : K) (v : Val K) : (scaleV q v).cplx = v.cplx := rfl
@[simp] theorem scaleV_stride (q : K) (v : Val K) : (scaleV q v).stride = v.stride := rfl
@[simp] theorem scaleV_data (q : K) (v : Val K) : (scaleV q v).data = v.data.map (q * ·) := rfl

section lists
variable (sqrt : K → K)
local notation "S" => fieldOps sqrt

theorem mapIdxAux_map (f : Nat → K → K) (g : K → K) (n : Nat) (xs : List K) :
    mapIdxAux f n (xs.map g) = mapIdxAux (fun i a => f i (g a)) n xs := by
  induction xs generalizing n with
  | nil => rfl
  | cons a t ih => simp [mapIdxAux, ih]

theorem map_mapIdxAux (f : Nat → K → K) (g : K → K) (n : Nat) (xs : List K) :
    (mapIdxAux f n xs).map g = mapIdxAux (fun i a => g (f i a)) n xs := by
  induction xs generalizing n with
  | nil => rfl
  | cons a t ih => simp [mapIdxAux, ih]

theorem mapIdxAux_congr {f g : Nat → K → K} (h : ∀ i a, f i a = g i a) (n : Nat) (xs : List K) :
    mapIdxAux f n xs = mapIdxAux g n xs := by
  induction xs generalizing n with
  | nil => rfl
  | cons a t ih => simp [mapIdxAux, ih, h]

theorem mapIdx_scale {f g : Nat → K → K} {q r : K} (h : ∀ i a, f i (q * a) = r * g i a) (xs : List K) :
    mapIdx f (xs.map (q * ·)) = (mapIdx g xs).map (r * ·) := by
  simp only [mapIdx, mapIdxAux_map, map_mapIdxAux]
  exact mapIdxAux_congr h 0 xs

theorem getD_map {α : Type} (g : α → α) (d : α) (hg : g d = d) (xs : List α) (i : Nat) :
    (xs.map g).getD i d = g (xs.getD i d) := by
  rw [List.getD_eq_getElem?_getD, List.getD_eq_getElem?_getD, List.getElem?_map]
  cases xs[i]? <;> simp [hg]

theorem bget_scale (q : K) (ys : List K) (st i : Nat) :
    bget S (ys.map (q * ·)) st i = q * bget S ys st i := by
  unfold bget
  rw [List.length_map]
  exact getD_map _ _ (mul_zero q) _ _

theorem pairs_map (g : K → K) (xs : List K) :
    pairs (xs.map g) = (pairs xs).map fun (a, b) => (g a, g b) := by
  induction xs using pairs.induct with
  | case1 a b t ih => simp [pairs, ih]
  | case2 xs h =>
    match xs, h with
    | [], _ => simp [pairs]
    | [a], _ => simp [pairs]
    | a :: b :: t, h => exact absurd rfl (h a b t)

theorem sqAbs_scale (q : K) (xs : List K) :
    sqAbs S (xs.map (q * ·)) = (sqAbs S xs).map (q * q * ·) := by
  simp only [sqAbs, pairs_map, List.map_map]
  apply List.map_congr_left
  rintro ⟨a, b⟩ _
  simp; ring

theorem modulusL_scale (hs : SqrtHom sqrt) (q : K) (hq : 0 < q) (xs : List K) :
    modulusL S (xs.map (q * ·)) = (modulusL S xs).map (q * ·) := by
  simp only [modulusL, sqAbs_scale, List.map_map]
  apply List.map_congr_left
  intro a _
  simp [hs q hq]

theorem addLists_scale (q : K) (xs ys : List K) :
    addLists S (xs.map (q * ·)) (ys.map (q * ·)) = (addLists S xs ys).map (q * ·) := by
  induction xs generalizing ys with
  | nil => cases ys <;> simp [addLists]
  | cons a t ih =>
    cases ys with
    | nil => simp [addLists]
    | cons b u => simp [addLists, ih, mul_add]

theorem sumBlocksAux_scale (q : K) (len n : Nat) (xs : List K) :
    sumBlocksAux S len n (xs.map (q * ·)) = (sumBlocksAux S len n xs).map (q * ·) := by
  induction n generalizing xs with
  | zero => simp [sumBlocksAux]
  | succ n ih =>
    simp only [sumBlocksAux]
    rw [← List.map_take, ← List.map_drop, ih, addLists_scale]

theorem sumBlocks_scale (q : K) (n : Nat) (xs : List K) :
    sumBlocks S n (xs.map (q * ·)) = (sumBlocks S n xs).map (q * ·) := by
  simp [sumBlocks, sumBlocksAux_scale]

theorem sumList_scale (q : K) (xs : List K) :
    sumList S (xs.map (q * ·)) = q * sumList S xs := by
  induction xs with
  | nil => simp [sumList]
  | cons a t ih =>
    simp only [sumList, List.map_cons, List.foldr_cons] at ih ⊢
    rw [ih]; simp [mul_add]

theorem maxL_scale (q : K) (hq : 0 < q) (xs : List K) :
    maxL S (xs.map (q * ·)) = q * maxL S xs := by
  induction xs with
  | nil => simp [maxL]
  | cons a t ih =>
    cases t with
    | nil => simp [maxL]
    | cons b u =>
      simp only [List.map_cons, maxL] at ih ⊢
      rw [ih]
      simp only [fo_lt, mul_lt_mul_iff_right₀ hq, decide_eq_true_eq]
      split <;> rfl

theorem insertDesc_scale (q : K) (hq : 0 < q) (a : K) (xs : List K) :
    insertDesc S (q * a) (xs.map (q * ·)) = (insertDesc S a xs).map (q * ·) := by
  induction xs with
  | nil => simp [insertDesc]
  | cons b t ih =>
    simp only [List.map_cons, insertDesc, fo_lt, mul_lt_mul_iff_right₀ hq, decide_eq_true_eq] at ih ⊢
    split
    · simp
    · simp [ih]

theorem sortDesc_scale (q : K) (hq : 0 < q) (xs : List K) :
    sortDesc S (xs.map (q * ·)) = (sortDesc S xs).map (q * ·) := by
  induction xs with
  | nil => rfl
  | cons a t ih => simp only [List.map_cons, sortDesc, ih, insertDesc_scale sqrt q hq]

theorem nonzeroCoils_scale (q : K) (hq : 0 < q) (chunk n : Nat) (xs : List K) :
    nonzeroCoils S chunk n (xs.map (q * ·)) = (nonzeroCoils S chunk n xs).map (q * ·) := by
  induction n generalizing xs with
  | zero => rfl
  | succ n ih =>
    -- `q * a = 0 ↔ a = 0`: a coil is dropped after scaling iff it was dropped before
    have hz : ∀ c : List K, (c.map (q * ·)).all (fieldOps sqrt).isZero = c.all (fieldOps sqrt).isZero := fun c => by
      rw [List.all_map]
      congr 1
      funext a
      simp [hq.ne']
    simp only [nonzeroCoils, ← List.map_take, ← List.map_drop, ih, List.map_append, hz]
    split <;> simp

theorem conjMul_scale (p q : K) : ∀ (s x : List K),
    conjMul S (s.map (p * ·)) (x.map (q * ·)) = (conjMul S s x).map (p * q * ·)
  | sr :: si :: s, xr :: xi :: x => by
      simp only [List.map_cons, conjMul, conjMul_scale p q s x, fo_add, fo_mul, fo_neg, List.cons.injEq, and_true]
      constructor <;> ring
  | [], _ => by simp [conjMul]
  | [_], _ => by simp [conjMul]
  | _ :: _ :: _, [] => by simp [conjMul]
  | _ :: _ :: _, [_] => by simp [conjMul]

theorem evalTE_scale (eps : K) (q v m : K) (e : TE) (d : Nat) (h : e.deg = some d) :
    evalTE S eps (q * v) (q * m) e = q ^ d * evalTE S eps v m e := by
  induction e generalizing d with
  | x => simp [TE.deg] at h; subst h; simp [evalTE]
  | mean => simp [TE.deg] at h; subst h; simp [evalTE]
  | eps => simp [TE.deg] at h; subst h; simp [evalTE]
  | lit n => simp [TE.deg] at h; subst h; simp [evalTE]
  | mul a b iha ihb =>
    simp only [TE.deg] at h
    split at h
    · rename_i p r ha hb
      cases h
      simp only [evalTE, iha p ha, ihb r hb, fo_mul]
      ring
    · cases h
  | add a b iha ihb =>
    simp only [TE.deg] at h
    split at h
    · rename_i p r ha hb
      split at h
      · rename_i hpr
        cases h
        subst hpr
        simp only [evalTE, iha _ ha, ihb _ hb, fo_add]
        ring
      · cases h
    · cases h

theorem evalThr_scale (eps : K) (q : K) (hq : 0 < q) (p : ThrPred) (hp : p.homogeneous = true) (v m : K) :
    evalThr S eps p (q * v) (q * m) = evalThr S eps p v m := by
  unfold ThrPred.homogeneous at hp
  split at hp
  · rename_i a b hl hr
    rw [beq_iff_eq] at hp
    subst hp
    simp only [evalThr, evalTE_scale sqrt eps q v m _ a hl, evalTE_scale sqrt eps q v m _ a hr, fo_lt,
      mul_lt_mul_iff_right₀ (pow_pos hq a)]
  · cases hp

end lists
end DirectVerif.Pipeline
