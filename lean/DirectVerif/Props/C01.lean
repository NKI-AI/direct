import DirectVerif.Model.Shift
import DirectVerif.Model.Fft
import DirectVerif.Lemmas.C01Shift
import DirectVerif.Lemmas.C01Validate
import Mathlib.Algebra.BigOperators.Group.List.Basic
/-!
# C01 — Fourier operators are exact inverse pairs; shift helpers are mutual inverses and equal the
reference shift for odd and even lengths

Part 1: `Model/Shift.lean` (the one-axis list functions the driver applies along every requested axis).  Part 2:
`Model/Fft.lean` (`fft2`, `ifft2` = interpretation of the plan the translator regenerates from the source), over an
abstract per-axis transform pair.  The same on the tensors the driver runs: `Lemmas/TensorLiftC01.lean`; with Mathlib's
`ZMod.dft` as the transform: `Lemmas/C01Dft.lean`, `C01DftND.lean`, `C01Sum.lean`.
-/
namespace DirectVerif.C01
open DirectVerif DirectVerif.Shift DirectVerif.Fft

/-! ## Part 1: roll / fftshift / ifftshift on one axis -/

/-- `C01L.rollOne_length`, under the name that the index bound inside `rollOne_getElem`'s statement is written with -/
theorem rollOne_length {α} (s : Int) (xs : List α) : (rollOne s xs).length = xs.length :=
  C01L.rollOne_length s xs

theorem rollOne_getElem {α} (s : Int) (xs : List α) (i : Nat) (hi : i < xs.length) :
    (rollOne s xs)[i]'(by rw [rollOne_length]; exact hi) =
      xs[(i + xs.length - (s % (xs.length : Int)).toNat) % xs.length]'(Nat.mod_lt _ (by omega)) := by
  have h := C01L.rollOne_getElem? s xs i hi
  rw [List.getElem?_eq_getElem (by rw [rollOne_length]; exact hi),
    List.getElem?_eq_getElem (Nat.mod_lt _ (by omega))] at h
  exact Option.some.inj h

/-- `roll_one_dim` equals the reference (numpy) roll `out[j] = x[(j - shift) mod n]`. -/
theorem rollOne_eq_rollRef {α} [Inhabited α] (s : Int) (xs : List α) : rollOne s xs = rollRef s xs := by
  apply List.ext_getElem?
  intro i
  by_cases hi : i < xs.length
  · rw [C01L.rollOne_getElem?_int s xs i hi]
    have hn : 0 < xs.length := by omega
    simp only [rollRef, List.getElem?_map, List.getElem?_range hi, Option.map_some,
      Int.fmod_eq_emod_of_nonneg _ (Int.natCast_nonneg xs.length), List.getD_eq_getElem?_getD]
    have := C01L.srcIdx_lt s xs.length i hn
    rw [List.getElem?_eq_getElem this]
    rfl
  · rw [List.getElem?_eq_none (by rw [rollOne_length]; omega),
      List.getElem?_eq_none (by simp [rollRef]; omega)]

theorem rollOne_of_emod_zero {α} (s : Int) (xs : List α) (h : s % (xs.length : Int) = 0) :
    rollOne s xs = xs := by
  simp only [rollOne]
  split
  · rfl
  · rw [Int.fmod_eq_emod_of_nonneg _ (Int.natCast_nonneg xs.length), h]; rfl

/-- **composition of rolls adds the shifts** (mod `n`) -/
theorem rollOne_add {α} (s t : Int) (xs : List α) : rollOne s (rollOne t xs) = rollOne (s + t) xs := by
  apply List.ext_getElem?
  intro i
  by_cases hi : i < xs.length
  · have hn : 0 < xs.length := by omega
    have hl := rollOne_length t xs
    rw [C01L.rollOne_getElem?_int s _ i (by omega), hl]
    have hj := C01L.srcIdx_lt s xs.length i hn
    rw [C01L.rollOne_getElem?_int t xs _ hj, C01L.rollOne_getElem?_int (s + t) xs i hi]
    have h0 : 0 ≤ ((i : Int) - s) % (xs.length : Int) := Int.emod_nonneg _ (by omega)
    rw [Int.toNat_of_nonneg h0, Int.emod_sub_emod, Int.sub_sub]
  · rw [List.getElem?_eq_none (by simp only [rollOne_length]; omega),
      List.getElem?_eq_none (by simp only [rollOne_length]; omega)]

theorem rollOne_perm {α} (s : Int) (xs : List α) : (rollOne s xs).Perm xs := by
  simp only [rollOne]
  split
  · exact List.Perm.refl _
  · split
    · exact List.Perm.refl _
    · exact List.perm_append_comm.trans (by rw [List.take_append_drop])

theorem shift_amounts_sum (n : Int) : fftshiftAmount n + ifftshiftAmount n = n := by
  unfold fftshiftAmount ifftshiftAmount; omega

/-- **C01: fftshift ∘ ifftshift = id** for every length (odd and even) -/
theorem fftshift_ifftshift_id {α} (xs : List α) : fftshift1 (ifftshift1 xs) = xs := by
  unfold fftshift1 ifftshift1
  rw [rollOne_length, rollOne_add, shift_amounts_sum]
  exact rollOne_of_emod_zero _ xs Int.emod_self

theorem ifftshift_fftshift_id {α} (xs : List α) : ifftshift1 (fftshift1 xs) = xs := by
  unfold fftshift1 ifftshift1
  rw [rollOne_length, rollOne_add, Int.add_comm, shift_amounts_sum]
  exact rollOne_of_emod_zero _ xs Int.emod_self

theorem fftshift1_length {α} (xs : List α) : (fftshift1 xs).length = xs.length := rollOne_length _ xs
theorem ifftshift1_length {α} (xs : List α) : (ifftshift1 xs).length = xs.length := rollOne_length _ xs

theorem rollOne_sends {α} (c : Nat) (xs : List α) (i : Nat) (hi : i < xs.length) :
    (rollOne (c : Int) xs)[(i + c) % xs.length]? = xs[i]? := by
  have hn : 0 < xs.length := by omega
  rw [C01L.rollOne_getElem?_int _ xs _ (Nat.mod_lt _ hn), Int.natCast_emod, Int.emod_sub_emod]
  congr 1
  rw [Int.natCast_add, Int.add_sub_cancel, Int.emod_eq_of_lt (by omega) (by omega)]
  rfl

/-- **`fftshift` is numpy's `fftshift`**: entry `i` moves to `(i + n / 2) mod n`, odd and even `n` -/
theorem fftshift1_eq_ref {α} (xs : List α) (i : Nat) (hi : i < xs.length) :
    (fftshift1 xs)[(i + xs.length / 2) % xs.length]? = xs[i]? := by
  -- `fftshift1` rolls by `(n : ℤ) / 2`, which is the cast of the natural number `n / 2`
  have hamt : fftshiftAmount (xs.length : Int) = ((xs.length / 2 : Nat) : Int) := by
    unfold fftshiftAmount; omega
  rw [fftshift1, hamt]
  exact rollOne_sends (xs.length / 2) xs i hi

/-- **`ifftshift` is numpy's `ifftshift`**: entry `i` moves to `(i - n / 2) mod n = (i + (n+1)/2) mod n` -/
theorem ifftshift1_eq_ref {α} (xs : List α) (i : Nat) (hi : i < xs.length) :
    (ifftshift1 xs)[(i + (xs.length + 1) / 2) % xs.length]? = xs[i]? := by
  have hamt : ifftshiftAmount (xs.length : Int) = (((xs.length + 1) / 2 : Nat) : Int) := by
    unfold ifftshiftAmount; omega
  rw [ifftshift1, hamt]
  exact rollOne_sends ((xs.length + 1) / 2) xs i hi

/-- the two shifts differ exactly for odd lengths (why swapping them is invisible on even sizes) -/
theorem shifts_agree_iff_even (n : Nat) : fftshiftAmount n = ifftshiftAmount n ↔ n % 2 = 0 := by
  unfold fftshiftAmount ifftshiftAmount; omega

example : fftshift1 [0, 1, 2, 3, 4] = [3, 4, 0, 1, 2] := by decide
example : ifftshift1 [0, 1, 2, 3, 4] = [2, 3, 4, 0, 1] := by decide
example : fftshift1 [0, 1, 2, 3] = [2, 3, 0, 1] ∧ ifftshift1 [0, 1, 2, 3] = [2, 3, 0, 1] := by decide
example : fftshift1 (fftshift1 [0, 1, 2]) ≠ [0, 1, 2] := by decide   -- the wrong pairing fails on odd n
example : rollOne (-7) [0, 1, 2, 3, 4] = rollOne 3 [0, 1, 2, 3, 4] := by decide

/-! ## Part 2: `fft2` / `ifft2` as interpreted plans

`Backend` abstracts what the plan calls: the two shifts, `torch.fft.fftn/ifftn` for a given `norm`,
and the two layout views.  `Lawful` lists the laws; they are *proved* for the one-axis list backend
(from Part 1, for every length) and for the n-D per-axis backend (from per-axis laws), and *assumed*
only for `torch.fft` itself (`inv_fwd`/`fwd_inv`: `ifftn(norm) ∘ fftn(norm) = id`). -/

structure Lawful {X} (B : Backend X) : Prop where
  fshift_ishift : ∀ x, B.fshift (B.ishift x) = x
  ishift_fshift : ∀ x, B.ishift (B.fshift x) = x
  inv_fwd : ∀ nm x, B.transform true nm (B.transform false nm x) = x
  fwd_inv : ∀ nm x, B.transform false nm (B.transform true nm x) = x
  viewC_viewR : ∀ x, B.viewComplex (B.viewReal x) = x
  viewR_viewC : ∀ x, B.viewReal (B.viewComplex x) = x

theorem fft2_def {X} (B : Backend X) (cfg : Cfg) (x : X) :
    fft2 B cfg x = runData B cfg (stdPlan false .ortho .backward) x := rfl

theorem ifft2_def {X} (B : Backend X) (cfg : Cfg) (x : X) :
    ifft2 B cfg x = runData B cfg (stdPlan true .ortho .backward) x := rfl

/-- the transform, wrapped in the shifts when `centered` and in the two views when `complex_input` -/
theorem runData_stdPlan {X} (B : Backend X) (cfg : Cfg) (inv : Bool) (nT nF : Norm) (x : X) :
    runData B cfg (stdPlan inv nT nF) x =
      (if cfg.complexInput then B.viewReal else id)
        ((if cfg.centered then B.fshift else id)
          (B.transform inv (if cfg.normalized then nT else nF)
            ((if cfg.centered then B.ishift else id) ((if cfg.complexInput then B.viewComplex else id) x)))) := by
  obtain ⟨c, n, ci⟩ := cfg
  cases c <;> cases ci <;> rfl

/-- when the two views are the identity (one axis of complex numbers; the tensors the driver runs) -/
theorem runData_stdPlan_noViews {X} (B : Backend X) (hC : B.viewComplex = id) (hR : B.viewReal = id) (cfg : Cfg)
    (inv : Bool) (nT nF : Norm) (x : X) :
    runData B cfg (stdPlan inv nT nF) x =
      if cfg.centered then B.fshift (B.transform inv (if cfg.normalized then nT else nF) (B.ishift x))
      else B.transform inv (if cfg.normalized then nT else nF) x := by
  rw [runData_stdPlan, hC, hR]
  cases cfg.centered <;> cases cfg.complexInput <;> rfl

/-- **C01: `ifft2 ∘ fft2 = id`** for every `centered`, `normalized`, `complex_input` — for any lawful backend -/
theorem ifft2_fft2_id_of_lawful {X} {B : Backend X} (h : Lawful B) (cfg : Cfg) (x : X) :
    ifft2 B cfg (fft2 B cfg x) = x := by
  simp only [fft2_def, ifft2_def, runData_stdPlan]
  cases cfg.centered <;> cases cfg.complexInput <;>
    simp only [↓reduceIte, Bool.false_eq_true, id, h.fshift_ishift, h.ishift_fshift, h.inv_fwd, h.viewC_viewR, h.viewR_viewC]

theorem fft2_ifft2_id_of_lawful {X} {B : Backend X} (h : Lawful B) (cfg : Cfg) (x : X) :
    fft2 B cfg (ifft2 B cfg x) = x := by
  simp only [fft2_def, ifft2_def, runData_stdPlan]
  cases cfg.centered <;> cases cfg.complexInput <;>
    simp only [↓reduceIte, Bool.false_eq_true, id, h.fshift_ishift, h.ishift_fshift, h.fwd_inv, h.viewC_viewR, h.viewR_viewC]

/-- for **every length** (odd, even, 1, 0) -/
theorem listBackend_lawful {α} (F : Bool → Norm → List α → List α)
    (hif : ∀ nm xs, F true nm (F false nm xs) = xs) (hfi : ∀ nm xs, F false nm (F true nm xs) = xs) :
    Lawful (listBackend F) where
  fshift_ishift := fftshift_ifftshift_id
  ishift_fshift := ifftshift_fftshift_id
  inv_fwd := hif
  fwd_inv := hfi
  viewC_viewR := fun _ => rfl
  viewR_viewC := fun _ => rfl

theorem ifft2_fft2_id {α} (F : Bool → Norm → List α → List α)
    (hif : ∀ nm xs, F true nm (F false nm xs) = xs) (hfi : ∀ nm xs, F false nm (F true nm xs) = xs)
    (cfg : Cfg) (xs : List α) :
    ifft2 (listBackend F) cfg (fft2 (listBackend F) cfg xs) = xs :=
  ifft2_fft2_id_of_lawful (listBackend_lawful F hif hfi) cfg xs

theorem fft2_ifft2_id {α} (F : Bool → Norm → List α → List α)
    (hif : ∀ nm xs, F true nm (F false nm xs) = xs) (hfi : ∀ nm xs, F false nm (F true nm xs) = xs)
    (cfg : Cfg) (xs : List α) :
    fft2 (listBackend F) cfg (ifft2 (listBackend F) cfg xs) = xs :=
  fft2_ifft2_id_of_lawful (listBackend_lawful F hif hfi) cfg xs

theorem applyAxes_cons {X} (op : Nat → X → X) (d : Nat) (ds : List Nat) (x : X) :
    applyAxes op (d :: ds) x = applyAxes op ds (op d x) := rfl

theorem applyAxes_comm_on {X} (P : X → Prop) (f : X → X) (g : Nat → X → X) (ds : List Nat)
    (hPg : ∀ d' ∈ ds, ∀ x, P x → P (g d' x))
    (hc : ∀ d' ∈ ds, ∀ x, P x → f (g d' x) = g d' (f x)) (x : X) (hx : P x) :
    f (applyAxes g ds x) = applyAxes g ds (f x) := by
  induction ds generalizing x with
  | nil => rfl
  | cons d ds ih =>
    have hd := List.mem_cons_self (a := d) (l := ds)
    rw [applyAxes_cons, applyAxes_cons,
      ih (fun d' hd' => hPg d' (List.mem_cons_of_mem _ hd')) (fun d' hd' => hc d' (List.mem_cons_of_mem _ hd'))
        _ (hPg d hd x hx), hc d hd x hx]

/-- on the elements satisfying an invariant `P` that the operators preserve -/
theorem applyAxes_cancel_on {X} (P : X → Prop) (f g : Nat → X → X) (dims : List Nat) (hnd : dims.Nodup)
    (hPg : ∀ d ∈ dims, ∀ x, P x → P (g d x))
    (hinv : ∀ d ∈ dims, ∀ x, P x → f d (g d x) = x)
    (hcomm : ∀ d ∈ dims, ∀ d' ∈ dims, d ≠ d' → ∀ x, P x → f d (g d' x) = g d' (f d x))
    (x : X) (hx : P x) : applyAxes f dims (applyAxes g dims x) = x := by
  induction dims generalizing x with
  | nil => rfl
  | cons d ds ih =>
    rw [List.nodup_cons] at hnd
    have hd := List.mem_cons_self (a := d) (l := ds)
    rw [applyAxes_cons, applyAxes_cons,
      applyAxes_comm_on P (f d) g ds (fun d' hd' => hPg d' (List.mem_cons_of_mem _ hd'))
        (fun d' hd' => hcomm d hd d' (List.mem_cons_of_mem _ hd') (fun e => hnd.1 (e ▸ hd'))) _ (hPg d hd x hx),
      hinv d hd x hx]
    exact ih hnd.2 (fun d' hd' => hPg d' (List.mem_cons_of_mem _ hd'))
      (fun d' hd' => hinv d' (List.mem_cons_of_mem _ hd'))
      (fun a ha b hb => hcomm a (List.mem_cons_of_mem _ ha) b (List.mem_cons_of_mem _ hb)) x hx

theorem applyAxes_cancel {X} (f g : Nat → X → X) (dims : List Nat) (hnd : dims.Nodup)
    (hinv : ∀ d x, f d (g d x) = x)
    (hcomm : ∀ d d', d ≠ d' → ∀ x, f d (g d' x) = g d' (f d x)) (x : X) :
    applyAxes f dims (applyAxes g dims x) = x :=
  applyAxes_cancel_on (fun _ => True) f g dims hnd (fun _ _ _ _ => trivial) (fun d _ x _ => hinv d x)
    (fun d _ d' _ hne x _ => hcomm d d' hne x) x trivial

/-- per-axis laws.  `comm_F` / `comm_F'` (the per-axis factors of `torch.fft.fftn` / `ifftn` commute — true of the DFT,
which is linear on fibres, not of arbitrary list functions: `TensorLift.alongAxis_comm_fails_in_general`) are hypotheses
about the external transform, like `inv_fwd` / `fwd_inv`.
The laws are asked of *every* `x`.  The `alongAxis` liftings satisfy them on well-formed tensors only (the lifting of an
ill-formed tensor is well-formed, hence different), so the tensor theorems go through `TensorLift.LawfulOn` /
`TransformLaws` and not through this structure. -/
structure AxisLaws {X} (sI sF : Nat → X → X) (F : Bool → Norm → Nat → X → X) (vC vR : X → X) : Prop where
  sF_sI : ∀ d x, sF d (sI d x) = x
  sI_sF : ∀ d x, sI d (sF d x) = x
  inv_fwd : ∀ nm d x, F true nm d (F false nm d x) = x
  fwd_inv : ∀ nm d x, F false nm d (F true nm d x) = x
  comm_sF_sI : ∀ d d', d ≠ d' → ∀ x, sF d (sI d' x) = sI d' (sF d x)
  comm_sI_sF : ∀ d d', d ≠ d' → ∀ x, sI d (sF d' x) = sF d' (sI d x)
  comm_F : ∀ nm d d', d ≠ d' → ∀ x, F true nm d (F false nm d' x) = F false nm d' (F true nm d x)
  comm_F' : ∀ nm d d', d ≠ d' → ∀ x, F false nm d (F true nm d' x) = F true nm d' (F false nm d x)
  vC_vR : ∀ x, vC (vR x) = x
  vR_vC : ∀ x, vR (vC x) = x

theorem axesBackend_lawful {X} {sI sF : Nat → X → X} {F : Bool → Norm → Nat → X → X} {vC vR : X → X}
    (h : AxisLaws sI sF F vC vR) (dims : List Nat) (hnd : dims.Nodup) :
    Lawful (axesBackend sI sF F vC vR dims) where
  fshift_ishift := applyAxes_cancel sF sI dims hnd h.sF_sI h.comm_sF_sI
  ishift_fshift := applyAxes_cancel sI sF dims hnd h.sI_sF h.comm_sI_sF
  inv_fwd := fun nm => applyAxes_cancel (F true nm) (F false nm) dims hnd (h.inv_fwd nm) (h.comm_F nm)
  fwd_inv := fun nm => applyAxes_cancel (F false nm) (F true nm) dims hnd (h.fwd_inv nm) (h.comm_F' nm)
  viewC_viewR := h.vC_vR
  viewR_viewC := h.vR_vC

theorem ifft2_fft2_id_axes {X} {sI sF : Nat → X → X} {F : Bool → Norm → Nat → X → X} {vC vR : X → X}
    (h : AxisLaws sI sF F vC vR) (dims : List Nat) (hnd : dims.Nodup) (cfg : Cfg) (x : X) :
    ifft2 (axesBackend sI sF F vC vR dims) cfg (fft2 (axesBackend sI sF F vC vR dims) cfg x) = x ∧
    fft2 (axesBackend sI sF F vC vR dims) cfg (ifft2 (axesBackend sI sF F vC vR dims) cfg x) = x :=
  ⟨ifft2_fft2_id_of_lawful (axesBackend_lawful h dims hnd) cfg x,
   fft2_ifft2_id_of_lawful (axesBackend_lawful h dims hnd) cfg x⟩

/-- **energy preservation** on an invariant `P`, given that the shifts, the views and the `norm="ortho"` transform
preserve `E` there -/
theorem fft2_energy_on {X R} (P : X → Prop) (B : Backend X) (E : X → R)
    (pI : ∀ x, P x → P (B.ishift x)) (pS : ∀ x, P x → P (B.fshift x))
    (pF : ∀ inv nm x, P x → P (B.transform inv nm x)) (pC : ∀ x, P x → P (B.viewComplex x))
    (hI : ∀ x, P x → E (B.ishift x) = E x) (hS : ∀ x, P x → E (B.fshift x) = E x)
    (hF : ∀ inv x, P x → E (B.transform inv .ortho x) = E x)
    (hC : ∀ x, P x → E (B.viewComplex x) = E x) (hR : ∀ x, P x → E (B.viewReal x) = E x)
    (cfg : Cfg) (hn : cfg.normalized = true) (x : X) (hx : P x) :
    E (fft2 B cfg x) = E x ∧ E (ifft2 B cfg x) = E x := by
  simp only [fft2_def, ifft2_def, runData_stdPlan, hn]
  cases cfg.centered <;> cases cfg.complexInput <;>
    simp (maxDischargeDepth := 12) only [↓reduceIte, Bool.false_eq_true, id, hI, hS, hF, hC, hR, pI, pS, pF, pC, hx, and_self]

/-- any additive weight of the entries (e.g. `|·|²`) -/
def energy {α M} [AddCommMonoid M] (w : α → M) (xs : List α) : M := (xs.map w).sum

theorem energy_rollOne {α M} [AddCommMonoid M] (w : α → M) (s : Int) (xs : List α) :
    energy w (rollOne s xs) = energy w xs :=
  ((rollOne_perm s xs).map w).sum_eq

/-- **C01: `fft2_energy`** on one axis: shifts never change the energy, so the normalised transforms preserve it as soon
as the orthonormal per-axis transform is an isometry -/
theorem fft2_energy {α M} [AddCommMonoid M] (w : α → M) (F : Bool → Norm → List α → List α)
    (hF : ∀ inv xs, energy w (F inv .ortho xs) = energy w xs)
    (cfg : Cfg) (hn : cfg.normalized = true) (xs : List α) :
    energy w (fft2 (listBackend F) cfg xs) = energy w xs ∧
    energy w (ifft2 (listBackend F) cfg xs) = energy w xs :=
  fft2_energy_on (fun _ => True) (listBackend F) (energy w) (fun _ _ => trivial) (fun _ _ => trivial) (fun _ _ _ _ => trivial)
    (fun _ _ => trivial) (fun x _ => energy_rollOne w _ x) (fun x _ => energy_rollOne w _ x) (fun inv xs _ => hF inv xs)
    (fun _ _ => rfl) (fun _ _ => rfl) cfg hn xs trivial

/-- `TypeError` before anything else -/
theorem fft2_rejects_negative_dim (cfg : Cfg) (dims : List Int) (s : VState) (h : ∃ d ∈ dims, d < 0) :
    validate cfg dims fft2Plan s = .error .typeError ∧ validate cfg dims ifft2Plan s = .error .typeError := by
  have hall : dims.all dimOk = false := by
    obtain ⟨d, hd, hneg⟩ := h
    exact List.all_eq_false.mpr ⟨d, hd, by simp [dimOk]; omega⟩
  rw [← C01Validate.fft2_ifft2_same_errors, and_self]
  exact (C01Validate.typeError_iff cfg dims s).mpr hall

/-- float16 / float64 → complex32 / complex128 fail `verify_fft_dtype_possible`: `ValueError` -/
theorem fft2_rejects_non_single (c n : Bool) (dims : List Int) (shape : List Nat) (dt : DType)
    (hdt : dt = .float16 ∨ dt = .float64) (hd : dims.all dimOk = true)
    (hs : validateShift dims ⟨shape, (dt.viewComplex).getD .other⟩ = .ok ⟨shape, (dt.viewComplex).getD .other⟩) :
    validate ⟨c, n, true⟩ dims fft2Plan ⟨shape ++ [2], dt⟩ = .error .valueError := by
  -- `hs` says that the two checks of a shift pass; what then fires first in the glue's list is the dtype test
  rw [C01Validate.validateShift_eq] at hs
  simp only [C01Validate.firstError_cons_eq_ok] at hs
  obtain ⟨h2, h4, -⟩ := hs
  rw [C01Validate.validate_fft2_eq_spec, C01Validate.validateSpec_eq]
  simp only [C01Validate.firstError_cons_eq_error, C01Validate.firstError_nil, reduceCtorEq, and_false, and_true, or_false,
    false_or, Bool.not_eq_false', Bool.not_eq_true', Bool.true_and, List.getLast?_append, List.getLast?_singleton,
    List.dropLast_concat, ↓reduceIte, hd, h2, h4, Bool.and_false, true_and, Option.some_or]
  -- left: the last axis is 2, `dt` has a complex view, and that view fails `dtypeOk`; all three by evaluation
  rcases hdt with rfl | rfl
  · exact ⟨rfl, rfl, rfl⟩
  · exact ⟨rfl, rfl, rfl⟩

example : validate ⟨true, true, true⟩ [1, 2] fft2Plan ⟨[2, 3, 5, 2], .float32⟩ = .ok ⟨[2, 3, 5, 2], .float32⟩ := by decide
example : validate ⟨true, true, true⟩ [1, -2] fft2Plan ⟨[2, 3, 5, 2], .float32⟩ = .error .typeError := by decide
example : validate ⟨true, true, true⟩ [1, 2] fft2Plan ⟨[2, 3, 5, 2], .float64⟩ = .error .valueError := by decide
example : validate ⟨false, true, false⟩ [0, 1] ifft2Plan ⟨[3, 5], .float32⟩ = .error .valueError := by decide
example : validate ⟨false, true, false⟩ [0, 1] ifft2Plan ⟨[4, 8], .float32⟩ = .ok ⟨[4, 8], .complex64⟩ := by decide
example : Lawful (listBackend (α := Nat) fun _ _ xs => xs) := listBackend_lawful _ (fun _ _ => rfl) (fun _ _ => rfl)
example : AxisLaws (X := Nat) (fun _ x => x) (fun _ x => x) (fun _ _ _ x => x) id id := by
  constructor <;> intros <;> rfl
example : fft2 (listBackend fun _ _ xs => xs) ⟨true, true, true⟩ [0, 1, 2, 3, 4] = [0, 1, 2, 3, 4] := by decide


/-! ## Part 3: re-implementations outside `transforms.py`, and the pinned `SheppLoganDataset.fft` -/

/-- a re-implementation that passes `Reimpl.ok` is `fft2` / `ifft2` with `centered=True, normalized=True,
complex_input=False` — on every backend -/
theorem reimpl_eq_fft2 {X} (B : Backend X) (r : Reimpl) (h : r.ok = true) (x : X) :
    runData B ⟨true, true, false⟩ r.steps x = (if r.inverse then ifft2 else fft2) B ⟨true, true, false⟩ x := by
  have hs : r.steps = centredPlan r.inverse := by
    simp only [Reimpl.ok, Bool.and_eq_true] at h
    exact eq_of_beq h.1
  rw [hs]
  cases r.inverse <;> rfl

theorem reimpl_inverse_pair {X} {B : Backend X} (hB : Lawful B) (f g : Reimpl) (hf : f.ok = true) (hg : g.ok = true)
    (hfi : f.inverse = false) (hgi : g.inverse = true) (x : X) :
    runData B ⟨true, true, false⟩ g.steps (runData B ⟨true, true, false⟩ f.steps x) = x := by
  rw [reimpl_eq_fft2 B f hf, reimpl_eq_fft2 B g hg, hfi, hgi]
  exact ifft2_fft2_id_of_lawful hB _ x

/-- the pinned `SheppLoganDataset.fft` (`fftshift` before, `ifftshift` after the transform) fails the predicate … -/
theorem shepp_fft_pinned_violates : sheppPinned.ok = false := by decide

/-- … and really computes something else: on the unit impulse of length 3 (exact symbolic DFT) -/
theorem shepp_fft_pinned_differs :
    runData (listBackend fun inv _ => symDft inv 0) ⟨true, true, false⟩ sheppPinned.steps [some [0], none, none] ≠
      fft2 (listBackend fun inv _ => symDft inv 0) ⟨true, true, false⟩ [some [0], none, none] := by decide

/-- … while on every *even* length the two shifts coincide, so the pinned order was invisible there -/
theorem shepp_fft_pinned_agrees_on_even {α} (F : Bool → Norm → List α → List α)
    (hF : ∀ inv nm xs, (F inv nm xs).length = xs.length) (xs : List α) (he : xs.length % 2 = 0) :
    runData (listBackend F) ⟨true, true, false⟩ sheppPinned.steps xs = fft2 (listBackend F) ⟨true, true, false⟩ xs := by
  have hsame : ∀ ys : List α, ys.length % 2 = 0 → fftshift1 ys = ifftshift1 ys := fun ys h => by
    unfold fftshift1 ifftshift1; rw [(shifts_agree_iff_even ys.length).mpr h]
  have e1 : fftshift1 xs = ifftshift1 xs := hsame xs he
  have e2 : ifftshift1 (F false .ortho (ifftshift1 xs)) = fftshift1 (F false .ortho (ifftshift1 xs)) :=
    (hsame _ (by rw [hF, ifftshift1_length]; exact he)).symm
  show ifftshift1 (F false .ortho (fftshift1 xs)) = fftshift1 (F false .ortho (ifftshift1 xs))
  rw [e1, e2]

example : (⟨false, centredPlan false, [some [1, 2], some [1, 2], some [1, 2]]⟩ : Reimpl).ok = true := by decide

end DirectVerif.C01
