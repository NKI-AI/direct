import DirectVerif.Lemmas.C08Enum
import DirectVerif.Lemmas.C08Consist
/-!
# C08 — `build_pre_mri_transforms` ++ `build_post_mri_transforms`

The pair reconstructs *before* it normalises.  Its degree check reuses the stage groups of `Lemmas/C08Enum.lean`;
the symbolic execution of its core gives the target as `safeDiv(sf, ComputeImage(kfull))`.
-/
set_option linter.unusedSimpArgs false
namespace DirectVerif.Pipeline

/-- the quantifier of the property for the pre/post pair (it has no SSL variant) -/
def Config.validPP (c : Config) : Bool :=
  c.maskFunc
  && (c.scalingKey == .key .maskedKspace || c.scalingKey == .key .kspace)
  && (!(c.recon == .sense || c.recon == .senseMod) || c.estimateSmaps)
  && (!c.estimateSmaps || c.smapType != .espirit)

/-- a mask function is configured; the ACS mask is always requested -/
def choicesPP (es : Bool) : List (List (List Stage)) :=
  [ [[.toTensor]], gCrop, both [.rescaleKspace .kspace], both [.padKspace .kspace], both [.randomRotation],
    both [.randomFlip],
    both [.computeZeroPadding .kspace .padding thrCurrent, .applyZeroPadding .kspace .padding],
    gMask true true, [[.padCoilDimension .kspace]], gBody true, gSmap es true, both [.deleteKeys [.acsMask]],
    gRecon es [.applyMask .samplingMask .kspace .maskedKspace], gScale defaultNormKeys,
    both [.deleteKeys [.kspace]] ]

theorem prepost_covers (c : Config) (hv : c.validPP = true) : Covers (choicesPP c.estimateSmaps) (buildPrePost c) := by
  obtain ⟨crop, center, rescale, pad, rot, flip, rev, pe, mf, cc, pc, bc, es, st, sg, da, dk, recon, sk, pct,
    us, ssl, split, ka⟩ := c
  simp only [Config.validPP, Bool.and_eq_true] at hv
  obtain ⟨⟨⟨hmf, hsk⟩, hr⟩, hst⟩ := hv
  subst hmf
  simp only [buildPrePost, buildPre, buildPost, choicesPP, List.append_assoc]
  exact .cons (List.mem_singleton_self _) <| .cons (mem_gCrop ..) <| .cons (opt_mem_both ..) <|
    .cons (opt_mem_both ..) <| .cons (opt_mem_both ..) <| .cons (opt_mem_both ..) <| .cons (opt_mem_both ..) <|
    .cons (mem_gMask ..) <| .cons (List.mem_singleton_self _) <| .cons (mem_gBody ..) <|
    .cons (mem_gSmap _ _ _ _ hst (Bool.or_true _)) <| .cons (opt_mem_both ..) <| .cons (mem_gRecon _ _ _ hr) <|
    .cons (mem_gScale _ _ _ hsk) <| .single (opt_mem_both ..)

theorem check_prepost (es : Bool) : checkFrom initEnv false (choicesPP es) = true := by
  revert es; decide +kernel

variable {K : Type} (S : Ops K) (X : Ext K) (m : Meta)

theorem post_core_exec (r : Recon) (nk : Key) (pct : Bool) (s s' : Store K)
    (hnk : nk = .kspace ∨ nk = .maskedKspace)
    (h : exec S X m (program [.computeImage .kspace .target r, .applyMask .samplingMask .kspace .maskedKspace,
                              .computeScalingFactor (.key nk) pct .scalingFactor,
                              .normalize .scalingFactor defaultNormKeys]) s = .ok s') :
    ∃ k mk sf, s' .scalingFactor = some sf
      ∧ s' .kspace = some (evalOp S X m .safeDiv [sf, k])
      ∧ s' .maskedKspace = some (evalOp S X m .safeDiv [sf, evalOp S X m .applyMask [mk, k]])
      ∧ s' .target = some (evalOp S X m .safeDiv [sf, reconVal S X m r k ((s .sensitivityMap).getD Val.empty)])
      ∧ s' .samplingMask = some mk ∧ s' .sensitivityMap = s .sensitivityMap := by
  have hsplit : program [Stage.computeImage .kspace .target r, .applyMask .samplingMask .kspace .maskedKspace,
        .computeScalingFactor (.key nk) pct .scalingFactor, .normalize .scalingFactor defaultNormKeys]
      = compile (.computeImage .kspace .target r)
        ++ program [.applyMask .samplingMask .kspace .maskedKspace,
                    .computeScalingFactor (.key nk) pct .scalingFactor, .normalize .scalingFactor defaultNormKeys] := by
    simp [program]
  rw [hsplit, exec_append] at h
  cases hk : s .kspace with
  | none => cases r <;> simp [compile, exec, execInstr, getAll, hk] at h
  | some k =>
    cases h1 : exec S X m (compile (.computeImage .kspace .target r)) s with
    | error e => simp [h1] at h
    | ok s1 =>
      simp only [h1] at h
      obtain ⟨b1, b2⟩ := computeImage_exec S X m r s s1 k hk h1
      have hk1 : s1 .kspace = some k := by rw [b2 _ (by decide) (by decide), hk]
      have hsm1 : s1 .sensitivityMap = s .sensitivityMap := b2 _ (by decide) (by decide)
      cases hm1 : s1 .samplingMask with
      | none => simp [program, compile, exec, execInstr, hk1, hm1] at h
      | some mk =>
        -- `Normalize` touches the body-coil image only when it is there
        cases hb : s1 .bodyCoilImage <;> rcases hnk with rfl | rfl <;> cases pct <;>
        · simp [program, compile, exec, execInstr, getAll, hk1, hm1, b1, hb, Store.set, defaultNormKeys] at h
          subst h
          refine ⟨k, mk, _, by simp [Store.set_apply]; rfl, by simp [Store.set_apply], by simp [Store.set_apply],
            by simp [Store.set_apply], by simp [Store.set_apply, hm1], by simp [Store.set_apply, hsm1]⟩

def ppPrefix (c : Config) : List Stage :=
  buildPre c ++ (opt c.estimateSmaps [.estimateSensitivityMap .kspace c.smapType c.smapGaussian]
    ++ opt c.deleteAcsMask [.deleteKeys [.acsMask]])

def ppCore (c : Config) : List Stage :=
  [.computeImage .kspace .target c.recon, .applyMask .samplingMask .kspace .maskedKspace,
   .computeScalingFactor c.scalingKey c.percentile .scalingFactor, .normalize .scalingFactor defaultNormKeys]

/-- `kfull`: what reached `ComputeImage` / `ApplyMask` -/
theorem prepost_final (c : Config) (hv : c.validPP = true) (x : Val K) (out : Store K)
    (h : run S X m (buildPrePost c) x = .ok out) :
    ∃ kfull mask sf, out .samplingMask = some mask ∧ out .scalingFactor = some sf
      ∧ out .maskedKspace = some (evalOp S X m .safeDiv [sf, evalOp S X m .applyMask [mask, kfull]])
      ∧ out .target = some (evalOp S X m .safeDiv [sf, reconVal S X m c.recon kfull ((out .sensitivityMap).getD Val.empty)])
      ∧ (out .kspace = some (evalOp S X m .safeDiv [sf, kfull]) ∨ (c.deleteKspace = true ∧ out .kspace = none)) := by
  have hsk : ∃ nk, c.scalingKey = .key nk ∧ (nk = .kspace ∨ nk = .maskedKspace) := by
    simp only [Config.validPP, Bool.and_eq_true, Bool.or_eq_true, beq_iff_eq] at hv
    rcases hv.1.1.2 with h | h
    · exact ⟨_, h, Or.inr rfl⟩
    · exact ⟨_, h, Or.inl rfl⟩
  obtain ⟨nk, hnk, hnk'⟩ := hsk
  unfold run at h
  have hsplit : buildPrePost c = ppPrefix c ++ (ppCore c ++ opt c.deleteKspace [.deleteKeys [.kspace]]) := by
    simp [buildPrePost, buildPost, ppPrefix, ppCore, List.append_assoc]
  rw [hsplit, program_append, exec_append] at h
  cases h0 : exec S X m (program (ppPrefix c)) (fun k => if k = .kspace then some x else none) with
  | error e => simp [h0] at h
  | ok s0 =>
    simp only [h0] at h
    rw [program_append, exec_append] at h
    cases h1 : exec S X m (program (ppCore c)) s0 with
    | error e => simp [h1] at h
    | ok s1 =>
      simp only [h1] at h
      simp only [ppCore, hnk] at h1
      obtain ⟨kfull, mask, sf, a1, a2, a3, a4, a5, a6⟩ := post_core_exec S X m c.recon nk c.percentile s0 s1 hnk' h1
      cases hdk : c.deleteKspace
      · simp [hdk, opt, program, exec] at h
        subst h
        exact ⟨kfull, mask, sf, a5, a1, a3, by rw [a4, a6], Or.inl a2⟩
      · simp [hdk, opt, program, compile, exec, execInstr] at h
        subst h
        refine ⟨kfull, mask, sf, ?_, ?_, ?_, ?_, Or.inr ⟨rfl, by simp [Store.set_apply]⟩⟩
        · simpa [Store.set_apply] using a5
        · simpa [Store.set_apply] using a1
        · simpa [Store.set_apply] using a3
        · simp only [Store.set_apply]
          simp only [show (Key.target = Key.kspace) = False by simp, show (Key.sensitivityMap = Key.kspace) = False by simp, if_false]
          rw [a4, a6]

end DirectVerif.Pipeline
