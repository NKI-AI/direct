import DirectVerif.Lemmas.C15Wf
/-!
# Save routines that delete older checkpoints (`wfSaveX`) — no Mathlib

A well-formed core followed by deletions only.  Once the core is complete `last_model.txt` names the new checkpoint, and
unlinking other `model_<j>.pt` files does not change what `load('latest')` returns (`loadLatest_ok_unlinks`); a crash
inside the core is the case without pruning (`Lemmas/C15Wf.lean`).
-/
namespace DirectVerif.Ckpt

theorem wfTables_no_prune : wfTables.all (fun t => !t.contains Stmt.prune) = true := by decide +kernel

/-- a well-formed table (it has no pruning statement) is a well-formed table with pruning -/
theorem wfSaveX_of_wfSave {t : List Stmt} (h : wfSave t = true) : wfSaveX t = true := by
  have hnp : Stmt.prune ∉ t := fun hm => by
    have := List.all_eq_true.mp wfTables_no_prune t (List.contains_iff_mem.mp h)
    rw [List.contains_iff_mem.mpr hm] at this
    cases this
  have hf : t.filter (· != .prune) = t := List.filter_eq_self.mpr fun s hs => bne_iff_ne.mpr fun e => hnp (e ▸ hs)
  simp only [wfSaveX, hf, h, Nat.sub_self, List.replicate_zero, List.append_nil, beq_self_eq_true, Bool.and_self]

theorem opsOfX_of_no_prune (t : List Stmt) (it : Int) (chunks : List Bytes) (dels : List Int)
    (h : ∀ s ∈ t, s ≠ Stmt.prune) : opsOfX t it chunks dels = opsOf t it chunks := by
  unfold opsOfX opsOf
  induction t with
  | nil => rfl
  | cons a r ih =>
    have ha : instStmtX it chunks dels a = instStmt it chunks a := by
      cases a <;> first | rfl | exact absurd rfl (h _ List.mem_cons_self)
    rw [List.flatMap_cons, List.flatMap_cons, ha, ih fun s hs => h s (List.mem_cons_of_mem _ hs)]

theorem opsOfX_append (a b : List Stmt) (it : Int) (chunks : List Bytes) (dels : List Int) :
    opsOfX (a ++ b) it chunks dels = opsOfX a it chunks dels ++ opsOfX b it chunks dels := by
  simp [opsOfX, List.flatMap_append]

/-- the operations of `n` pruning statements only unlink `model_<j>.pt` files with `j ∈ dels` -/
theorem prune_ops_touch (n : Nat) (it : Int) (chunks : List Bytes) (dels : List Int) :
    ∀ o ∈ opsOfX (List.replicate n Stmt.prune) it chunks dels, ∀ g, touches o g → ∃ j ∈ dels, g = .model j := by
  intro o ho g hg
  simp only [opsOfX, List.mem_flatMap, List.mem_replicate] at ho
  obtain ⟨st, ⟨_, rfl⟩, ho⟩ := ho
  simp only [instStmtX, List.mem_map] at ho
  obtain ⟨j, hj, rfl⟩ := ho
  exact ⟨j, hj, hg⟩

theorem wfSaveX_decomp {t : List Stmt} (h : wfSaveX t = true) :
    ∃ core n, wfSave core = true ∧ t = core ++ List.replicate n Stmt.prune ∧ ∀ s ∈ core, s ≠ Stmt.prune := by
  simp only [wfSaveX, Bool.and_eq_true, beq_iff_eq] at h
  refine ⟨t.filter (· != .prune), _, h.1, h.2, ?_⟩
  intro s hs
  simp only [List.mem_filter, bne_iff_ne, ne_eq] at hs
  exact hs.2

/-- deleting checkpoints other than the one `last_model.txt` names does not change what `load('latest')` returns -/
theorem loadLatest_ok_unlinks {S} (decode : Bytes → Option S) (d : Dir) (it : Int) (s : S)
    (h : loadLatest decode d = .ok it s) (dels : List Int) (hd : it ∉ dels) (q : List FsOp)
    (hq : ∀ o ∈ q, ∀ g, touches o g → ∃ j ∈ dels, g = .model j) : loadLatest decode (run d q) = .ok it s := by
  obtain ⟨txt, b, h1, h2, h3, h4⟩ := loadLatest_ok_inv h
  refine loadLatest_ok_of ((run_frame _ q _ fun o ho ht => ?_).trans h1) h2 ((run_frame _ q _ fun o ho ht => ?_).trans h3) h4
  · obtain ⟨j, _, e⟩ := hq o ho _ ht; cases e
  · obtain ⟨j, hj, e⟩ := hq o ho _ ht; cases e; exact hd hj

/-- **Crash safety of a save that prunes older checkpoints after the pointer moved**: for every well-formed table with
pruning (`wfSaveX`), every directory, label, chunking, every set `dels` of deleted labels that does not contain the new
label, and every crash point — including between and after the deletions — `load('latest')` gives what it gave before
the save or the new checkpoint. -/
theorem crash_safe_of_wfX {S} (decode : Bytes → Option S) (t : List Stmt) (hwf : wfSaveX t = true)
    (d : Dir) (it : Nat) (chunks : List Bytes) (s : S) (hdec : decode chunks.flatten = some s)
    (dels : List Int) (hd : (it : Int) ∉ dels) (p : List FsOp) (hp : CrashOf (opsOfX t it chunks dels) p) :
    loadLatest decode (run d p) = loadLatest decode d ∨ loadLatest decode (run d p) = .ok it s := by
  obtain ⟨core, n, hcore, rfl, hnp⟩ := wfSaveX_decomp hwf
  rw [opsOfX_append, opsOfX_of_no_prune core it chunks dels hnp] at hp
  rcases hp.append_cases with h1 | ⟨q, rfl, hq⟩
  · exact crash_safe_of_wf decode core hcore d it chunks s hdec p h1
  · rw [run_append]
    exact Or.inr (loadLatest_ok_unlinks decode _ it s (save_then_load_of_wf decode core hcore d it chunks s hdec) dels hd q
      fun o ho g hg => let ⟨o', ho', hg'⟩ := hq.touches o ho g hg; prune_ops_touch n it chunks dels o' ho' g hg')

end DirectVerif.Ckpt
