import DirectVerif.Model.Sampler
import DirectVerif.Lemmas.Basic
/-!
`chunks xs k` (`direct.utils.chunks`, which deals the volumes out to the ranks) is read through its boundary
sequence `chunkStart n k 0 … k`: it rises from `0` to `n` in steps `chunkLen`, so the chunks are the windows
of `xs` between consecutive boundaries.  Concatenation, sizes and "each position in exactly one chunk"
(`exists_unique_window`) follow from that alone.
-/
namespace DirectVerif.Sampler

theorem chunkStart_eq (n k idx : Nat) : chunkStart n k idx = (n / k) * idx + min idx (n % k) := by
  unfold chunkStart
  by_cases h : idx < n % k
  · rw [if_pos h, if_pos h, Nat.succ_mul, Nat.mul_zero, Nat.add_zero, Nat.min_eq_left (Nat.le_of_lt h)]
  · have hle : n % k ≤ idx := Nat.le_of_not_lt h
    rw [if_neg h, if_neg h, Nat.succ_mul, Nat.min_eq_right hle, Nat.add_right_comm, ← Nat.mul_add,
      Nat.add_sub_of_le hle]

theorem chunkStart_zero (n k : Nat) : chunkStart n k 0 = 0 := by
  rw [chunkStart_eq, Nat.mul_zero, Nat.zero_min]

theorem chunkStart_succ (n k idx : Nat) :
    chunkStart n k (idx + 1) = chunkStart n k idx + chunkLen n k idx := by
  rw [chunkStart_eq, chunkStart_eq, chunkLen, Nat.mul_succ]
  by_cases h : idx < n % k
  · rw [if_pos h, Nat.min_eq_left (show idx + 1 ≤ n % k from h), Nat.min_eq_left (Nat.le_of_lt h)]
    exact Nat.add_add_add_comm _ _ _ _
  · have hle : n % k ≤ idx := Nat.le_of_not_lt h
    rw [if_neg h, Nat.min_eq_right hle, Nat.min_eq_right (Nat.le_succ_of_le hle)]
    exact Nat.add_right_comm _ _ _

theorem chunkStart_last (n k : Nat) (hk : 0 < k) : chunkStart n k k = n := by
  rw [chunkStart_eq, Nat.min_eq_right (Nat.le_of_lt (Nat.mod_lt _ hk))]
  exact Nat.div_add_mod' n k

theorem chunkStart_mono (n k : Nat) {i j : Nat} (h : i ≤ j) : chunkStart n k i ≤ chunkStart n k j := by
  induction h with
  | refl => exact Nat.le_refl _
  | step _ ih => exact Nat.le_trans ih (by rw [chunkStart_succ]; exact Nat.le_add_right _ _)

theorem exists_unique_window (s : Nat → Nat) (hmono : ∀ {a b}, a ≤ b → s a ≤ s b) (h0 : s 0 = 0) (i : Nat) :
    ∀ k, i < s k → ∃ r, r < k ∧ s r ≤ i ∧ i < s (r + 1) ∧ ∀ r', s r' ≤ i → i < s (r' + 1) → r' = r := by
  intro k
  induction k with
  | zero => intro h; rw [h0] at h; exact absurd h (Nat.not_lt_zero i)
  | succ k ih =>
    intro h
    by_cases hc : s k ≤ i
    · refine ⟨k, Nat.lt_succ_self k, hc, h, fun r' h1 h2 => ?_⟩
      rcases Nat.lt_trichotomy r' k with hlt | heq | hgt
      · exact absurd (Nat.lt_of_lt_of_le h2 (hmono hlt)) (Nat.not_lt_of_le hc)
      · exact heq
      · exact absurd (Nat.lt_of_lt_of_le h (hmono hgt)) (Nat.not_lt_of_le h1)
    · obtain ⟨r, hr, h1, h2, hu⟩ := ih (Nat.lt_of_not_le hc)
      exact ⟨r, Nat.lt_succ_of_lt hr, h1, h2, hu⟩

theorem chunkStart_le (n k idx : Nat) (hk : 0 < k) (h : idx ≤ k) : chunkStart n k idx ≤ n := by
  have := chunkStart_mono n k h
  rwa [chunkStart_last n k hk] at this

theorem chunkLen_bounds (n k i : Nat) : n / k ≤ chunkLen n k i ∧ chunkLen n k i ≤ n / k + 1 := by
  unfold chunkLen
  split
  · exact ⟨Nat.le_succ _, Nat.le_refl _⟩
  · exact ⟨Nat.le_refl _, Nat.le_succ _⟩

theorem chunkLen_antitone (n k : Nat) {i j : Nat} (h : i ≤ j) : chunkLen n k j ≤ chunkLen n k i := by
  by_cases hj : j < n % k
  · rw [chunkLen, chunkLen, if_pos hj, if_pos (Nat.lt_of_le_of_lt h hj)]
    exact Nat.le_refl _
  · rw [chunkLen, if_neg hj]
    exact (chunkLen_bounds n k i).1

theorem chunks_eq_boundaries {α} (xs : List α) (k : Nat) :
    chunks xs k = (List.range k).map fun i =>
      slice xs (chunkStart xs.length k i) (chunkStart xs.length k (i + 1)) := by
  unfold chunks
  apply List.map_congr_left
  intro i _
  rw [chunkStart_succ]

theorem flatten_windows {α} (xs : List α) (k j : Nat) :
    ((List.range j).map fun i =>
      slice xs (chunkStart xs.length k i) (chunkStart xs.length k (i + 1))).flatten =
      xs.take (chunkStart xs.length k j) := by
  induction j with
  | zero => rw [chunkStart_zero]; rfl
  | succ j ih =>
    rw [List.range_succ, List.map_append, List.flatten_append, ih, List.map_singleton, List.flatten_singleton]
    exact take_append_slice xs (chunkStart_mono _ _ (Nat.le_succ j))

theorem chunks_flatten' {α} (xs : List α) (k : Nat) (hk : 0 < k) : (chunks xs k).flatten = xs := by
  rw [chunks_eq_boundaries, flatten_windows, chunkStart_last _ _ hk, List.take_length]

theorem chunks_length' {α} (xs : List α) (k : Nat) : (chunks xs k).length = k := by
  rw [chunks, List.length_map, List.length_range]

theorem chunks_getD {α} (xs : List α) (k r : Nat) (hr : r < k) :
    (chunks xs k).getD r [] =
      slice xs (chunkStart xs.length k r) (chunkStart xs.length k (r + 1)) := by
  rw [chunks_eq_boundaries, List.getD_eq_getElem?_getD, List.getElem?_map, List.getElem?_range hr]
  rfl

theorem chunks_getD_of_le {α} (xs : List α) (k r : Nat) (hr : k ≤ r) : (chunks xs k).getD r [] = [] := by
  rw [List.getD_eq_getElem?_getD, List.getElem?_eq_none (by rw [chunks_length']; exact hr)]
  rfl

theorem chunks_getD_length {α} (xs : List α) (k r : Nat) (hr : r < k) :
    ((chunks xs k).getD r []).length = chunkLen xs.length k r := by
  rw [chunks_getD xs k r hr, slice_length _ _ _ (chunkStart_le _ _ _ (Nat.zero_lt_of_lt hr) hr),
    chunkStart_succ, Nat.add_sub_cancel_left]

end DirectVerif.Sampler
