import DirectVerif.Lemmas.C08Static
/-!
# C08 — mask seeds

`seedsOk` (every sampling-mask / ACS-mask generation is seeded, by the file name only) distributes over `++`
(`seedsOk_append`), so `mask_seeds_filename_only` (Props/C08) evaluates it on each stage group of `build` for the
few flags that group reads.
-/
namespace DirectVerif.Pipeline

theorem seedsOk_append (p q : List Instr) : seedsOk (p ++ q) = (seedsOk p && seedsOk q) := by
  induction p using seedsOk.induct with
  | case1 => simp [seedsOk]
  | case2 g dst src fields fc args r ih => simp [seedsOk, ih, Bool.and_assoc]
  | case3 g dst src fc args r ih => simp [seedsOk, ih, Bool.and_assoc]
  | case4 i r h1 h2 ih =>
    have : ∀ l, seedsOk (i :: l) = seedsOk l := by
      intro l
      cases i with
      | assign g dst op args =>
        cases op <;> first | rfl | skip
        rename_i src seed fc
        cases seed
        · exact absurd rfl (h2 g dst src fc args)
        · rename_i f; exact absurd rfl (h1 g dst src f fc args)
      | _ => rfl
    simp [this, ih]

end DirectVerif.Pipeline
