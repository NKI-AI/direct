import DirectVerif.Gen.C07
import DirectVerif.Model.MaskBudget
import DirectVerif.Model.C07Magic
import DirectVerif.Model.C07Bisect
import DirectVerif.Model.C07State
import DirectVerif.Model.C07Circus
import DirectVerif.Lemmas.C07State
import DirectVerif.Props.C07
/-!
# Bridge C07 — the budget expressions translated from `/repo` equal the hand-written model

Rational expressions are closed by `unfold …; ring`, the rounded requests by `congr 1; ring` under `roundHalfEven`; the
source skeletons are literal tables, equal by `rfl`.
-/
-- the second alternative of `first | rfl | …` and the `try (congr 1; ring)` steps only run when a regeneration writes an
-- expression in another (equal) form; while `rfl` closes the goal the linters below would report them as unused
set_option linter.unusedSimpArgs false
set_option linter.unusedTactic false
set_option linter.unreachableTactic false
namespace DirectVerif.Bridge.C07
open DirectVerif DirectVerif.MaskBudget DirectVerif.Gen.C07

theorem acs_pad_eq (n l : Int) : acs_pad n l = acsPad n l := by
  first
  | rfl
  | simp only [acs_pad, acsPad, fdiv_two]

theorem random_prob_eq (N R L : ℚ) : random_prob N R L = randomProb N R L := by
  first | rfl | (unfold random_prob randomProb; ring)

theorem equispaced_adjusted_accel_eq (N R L : ℚ) : equispaced_adjusted_accel N R L = adjAccel N R L := by
  first | rfl | (unfold equispaced_adjusted_accel adjAccel; ring)

theorem equispaced_offset_bound_eq (a : ℚ) : equispaced_offset_bound a = offsetBound a := by
  first | rfl | (unfold equispaced_offset_bound offsetBound; rfl)

/-- `np.arange(offset, num_cols - 1, adjusted_accel)`: the grid of `equiPositions` -/
theorem equispaced_arange_eq (off N a : ℚ) :
    equispaced_arange_start off N a = off ∧ equispaced_arange_stop off N a = N - 1 ∧
    equispaced_arange_step off N a = a := by
  unfold equispaced_arange_start equispaced_arange_stop equispaced_arange_step
  exact ⟨by ring, by ring, by ring⟩

theorem gaussian1d_request_eq (N R : ℚ) (L : Int) :
    gaussian1d_request N R L = gaussianRequest (N / R) L := by
  simp only [gaussian1d_request, gaussianRequest, Rat.floor_intCast]
  try (congr 1; ring)

theorem gaussian2d_request_eq (rows cols R : ℚ) (L : Int) :
    gaussian2d_request rows cols R L = gaussianRequest (rows * cols / R) L := by
  simp only [gaussian2d_request, gaussianRequest, Rat.floor_intCast]
  try (congr 1; ring)

theorem magic_target_eq (N : Int) (R : ℚ) : magic_target (N : ℚ) R = magicTarget N R := by
  first | rfl | (unfold magic_target magicTarget; rfl)

theorem magic_adjusted_eq (N rest : Int) : magic_adjusted (N : ℚ) (rest : ℚ) = magicAdj N rest := by
  unfold magic_adjusted magicAdj
  by_cases h : rest > 0
  · have h' : (rest : ℚ) > 0 := by exact_mod_cast h
    simp only [h, h', if_true]
  · have h' : ¬ (rest : ℚ) > 0 := by exact_mod_cast h
    simp only [h, h', if_false]

theorem magic_low_eq (l t : Int) : magic_low l t = magicLow l t := by
  first
  | rfl
  | (unfold magic_low magicLow pyMax pyMin; split_ifs <;> omega)

theorem magic_rest_eq (t l : Int) : magic_rest t l = magicRest t l := by
  first | rfl | (unfold magic_rest magicRest; rfl)

theorem magic_off_pos_eq (offset : Int) : magic_off_pos offset = magicOffPos offset := by
  first
  | rfl
  | simp only [magic_off_pos, magicOffPos, fmod_two, beq_iff_eq]

theorem magic_off_neg_eq (offset : Int) : magic_off_neg offset = magicOffNeg offset := by
  first
  | rfl
  | simp only [magic_off_neg, magicOffNeg, fmod_two, beq_iff_eq]

theorem magic_poslen_eq (n : Int) : magic_poslen n = magicPosLen n := by
  first
  | rfl
  | simp only [magic_poslen, magicPosLen, fdiv_two]

theorem magic_neglen_eq (n : Int) : magic_neglen n = magicNegLen n := by
  first
  | rfl
  | simp only [magic_neglen, magicNegLen, fdiv_two]

/-- the frame loop: draw, two strided assignments, flip, concatenate, shift, union with the ACS row -/
theorem magic_plan_eq : magicPlan = expectedMagicPlan := rfl

/-- the call's parameters computed with the **translated** expressions -/
theorem magic_params_eq (N lRaw : Int) (R : ℚ) :
    (magic_target (N : ℚ) R, magic_low lRaw (magic_target (N : ℚ) R),
      magic_adjusted (N : ℚ) ((magic_rest (magic_target (N : ℚ) R) (magic_low lRaw (magic_target (N : ℚ) R)) : Int) : ℚ)) =
    magicParams N lRaw R := by
  simp only [magic_target_eq, magic_low_eq, magic_rest_eq, magic_adjusted_eq, magicParams]

theorem gaussian_loops_eq : gaussianLoops = expectedGaussianLoops := rfl

theorem poisson_skeleton_eq : poissonSkeleton = expectedPoissonSkeleton := rfl

/-- `choose_acceleration`: one index draw for acceleration and centre fraction; `uniform_range` raises -/
theorem choose_skeleton_eq : chooseSkeleton = expectedChooseSkeleton := rfl

/-- `slope = (slope_max + slope_min) / 2` -/
theorem poisson_mid_eq (lo hi : ℚ) : poisson_mid lo hi = exactMid lo hi := by
  first | rfl | (unfold poisson_mid exactMid; ring)

/-- the binary64 midpoint the driver executes: sum rounded, halving exact -/
theorem poisson_float_mid_eq (lo hi : ℚ) : floatMid lo hi = rnd53 (2 * poisson_mid lo hi) / 2 := by
  unfold floatMid poisson_mid; congr 2; ring

/-- `actual < acceleration` moves the lower end, otherwise the upper end -/
theorem poisson_update_eq : poissonUpdate = expectedPoissonUpdate := rfl

theorem poisson_init_eq : poissonInit = expectedPoissonInit := rfl

/-- `tol` is the bound of both tolerance tests, `max_attempts` reaches the kernel, `crop_corner` crops before the
acceleration is evaluated -/
theorem poisson_options_eq : poissonOptions = expectedPoissonOptions := rfl

/-- nothing between the last tolerance test and `return mask` modifies `mask`, and `mask` itself is returned -/
theorem poisson_post_ok : postOk poissonPost = true := by decide

/-- … for the code as it is -/
theorem code_bisection_post_returned (R tol : ℚ) (ps : List Probe) (effect : ℚ → ℚ) (a : ℚ) (n : Nat)
    (hr : poisson R tol ps (postOfTable poissonPost effect) = .returned a n) : |a - R| < tol :=
  DirectVerif.C07.bisection_post_returned R tol ps _
    (DirectVerif.C07.postOfTable_clean poissonPost poisson_post_ok effect) a n hr

theorem code_bisection_iv_post_returned (mid : ℚ → ℚ → ℚ) (R tol : ℚ) (accs : List ℚ) (lo hi : ℚ) (effect : ℚ → ℚ)
    (a : ℚ) (n : Nat) (s : ℚ) (hr : poissonIv mid R tol accs lo hi (postOfTable poissonPost effect) = .returned a n s) :
    |a - R| < tol :=
  DirectVerif.C07.bisection_iv_post_returned mid R tol accs lo hi _
    (DirectVerif.C07.postOfTable_clean poissonPost poisson_post_ok effect) a n s hr

theorem circus_M_radial_eq (prod a maxd mind : ℚ) : circus_M_radial prod a maxd mind = circusM prod a maxd mind := by
  first | rfl | (unfold circus_M_radial circusM circusDenom; rfl)

theorem circus_M_spiral_eq (prod a maxd mind : ℚ) : circus_M_spiral prod a maxd mind = circusM prod a maxd mind := by
  first | rfl | (unfold circus_M_spiral circusM circusDenom; rfl)

/-- with a centre disc: the ACS-adjusted acceleration of the equispaced lines, over `rows·cols` cells -/
theorem circus_adjusted_accel_eq (rows cols R L : ℚ) : circus_adjusted_accel rows cols R L = adjAccel (rows * cols) R L := by
  first | rfl | (unfold circus_adjusted_accel adjAccel; ring)

/-- no memoising decorator, no mutable default argument, no module- or class-level container in `subsample.py` -/
theorem no_process_state : noProcessState moduleCaches mutableDefaults moduleState = true := by decide

/-- every in-place kernel call gets an array bound to a fresh object in the same call -/
theorem kernel_arrays_ok : kernelArraysOk kernelArrays = true := by decide +kernel

theorem code_kernel_arrays_not_shared : ∀ r ∈ kernelArrays, rowShared r = false :=
  DirectVerif.C07.kernel_arrays_not_shared kernelArrays kernel_arrays_ok

end DirectVerif.Bridge.C07
