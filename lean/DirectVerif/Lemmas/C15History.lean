import DirectVerif.Lemmas.C15Wf
import DirectVerif.Lemmas.C16
/-!
# Histories of interrupted training processes keep the experiment directory consistent — no Mathlib
One iteration of `Run.loop` has the form `Run.loop_succ`: the kill path leaves `Run.killDir`, any other end of the iteration
`Run.after`.  Each keeps the invariant `Run.Inv` on the uninterrupted trajectory (`inv_after` is the one place where crash
safety of the save is used); hence the loop, a process and a history of processes do.
-/
namespace DirectVerif.Train
open DirectVerif.Ckpt
variable {P O G B L Sc : Type}

/-- the state of the uninterrupted run after `n` iterations -/
def Run.U (r : Run P O G B L Sc) (n : Nat) : St P O G Sc := runRange r.ops r.lrAt r.cfg r.batch r.init 0 n

/-- loop table and kill label of the repaired tree, a well-formed save routine, a faithful serialisation, a fresh
process starts with empty gradients -/
structure Run.Ok (r : Run P O G B L Sc) : Prop where
  table : r.table = loopTable
  label : r.killLabel = Train.killLabel
  save : wfSave r.saveTbl = true
  codec : ∀ c, r.decode (r.encode c).flatten = some c
  init : r.init.grad = r.ops.zero

/-- the directory invariant: 'latest' is absent, or is the uninterrupted run's state after iteration `t`
under label `t` -/
def Run.Inv (r : Run P O G B L Sc) (d : Dir) : Prop :=
  loadLatest r.decode d = .none ∨ ∃ t : Nat, t + 1 ≤ r.total ∧ loadLatest r.decode d = .ok t (snapshot (r.U (t + 1)))

/-- 'latest' (if any) is at a window boundary: nothing was pending in `.grad` when it was written -/
def Run.Aligned (r : Run P O G B L Sc) (d : Dir) : Prop :=
  ∀ t c, loadLatest r.decode d = .ok t c → (resumeStart t).toNat % r.cfg.k = 0

def Run.AlignedHist (r : Run P O G B L Sc) : List Stop → Dir → Prop
  | [], d => r.Aligned d
  | st :: rest, d => r.Aligned d ∧ match r.process st d with
    | some (_, d') => r.AlignedHist rest d'
    | none => True

theorem Run.U_succ (r : Run P O G B L Sc) (h : r.Ok) (it : Nat) :
    iterT r.table r.ops r.lrAt r.cfg (r.U it) it (r.batch it) = r.U (it + 1) := by
  rw [h.table]
  show iter _ _ _ _ _ _ = _
  unfold Run.U
  rw [runRange_succ, Nat.zero_add]

theorem Run.U_grad (r : Run P O G B L Sc) (h : r.Ok) (n : Nat) (hn : n % r.cfg.k = 0) : (r.U n).grad = r.ops.zero := by
  cases n with
  | zero => exact h.init
  | succ n =>
    unfold Run.U
    exact runRange_grad_zero _ _ _ _ _ 0 (n + 1) (by simpa using hn) (by omega)

theorem resumeStart_toNat (t : Nat) : (resumeStart (t : Int)).toNat = t + 1 := by unfold resumeStart; omega

theorem restore_snapshot (zero : G) (s : St P O G Sc) (h : s.grad = zero) : restore zero (snapshot s) = s := by
  cases s; simp_all [restore, snapshot]

theorem runRange_resume (ops : Ops P O G B L Sc) (lrAt : Nat → L) (cfg : Cfg) (batch : Nat → B) (init : St P O G Sc)
    (n m : Nat) (hn : 0 < n) (hb : n % cfg.k = 0) :
    runRange ops lrAt cfg batch (restore ops.zero (snapshot (runRange ops lrAt cfg batch init 0 n))) n m
      = runRange ops lrAt cfg batch init 0 (n + m) := by
  rw [restore_snapshot _ _ (runRange_grad_zero ops lrAt cfg batch init 0 n (by rwa [Nat.zero_add]) hn),
    runRange_add ops lrAt cfg batch init 0 n m, Nat.zero_add]

/-- the directory after the periodic checkpoint of iteration `it` (if one is due) -/
def Run.ckpt (r : Run P O G B L Sc) (it : Nat) (s : St P O G Sc) (d : Dir) : Dir :=
  if ckptGuard it r.ckSteps r.total then r.save d it (snapshot s) else d

def Run.killDir (r : Run P O G B L Sc) (it : Nat) (s : St P O G Sc) (d : Dir) : Dir :=
  if killGuard it then r.save d (r.killLabel it) (snapshot s) else d

/-- how iteration `it` ends once the loop body has produced `s`: the directory, and whether the process goes on -/
def Run.after (r : Run P O G B L Sc) (stop : Stop) (it : Nat) (s : St P O G Sc) (d : Dir) : Dir × Bool :=
  match stop with
  | .crashInSave j n m =>
    if j = it ∧ ckptGuard it r.ckSteps r.total = true then
      (run d (crashAt (opsOf r.saveTbl it (r.encode (snapshot s))) n m), false)
    else (r.ckpt it s d, true)
  | _ => (r.ckpt it s d, !decide (stop = .vanishAfter it))

theorem Run.loop_succ (r : Run P O G B L Sc) (stop : Stop) (fuel it : Nat) (s : St P O G Sc) (d : Dir)
    {s' : St P O G Sc} (e : iterT r.table r.ops r.lrAt r.cfg s it (r.batch it) = s') :
    r.loop stop (fuel + 1) it s d =
      if it ≥ r.total then (s, d) else
      if stop = .killDuring it then (s, r.killDir it s d) else
      if (r.after stop it s' d).2 = true then r.loop stop fuel (it + 1) s' (r.after stop it s' d).1
      else (s', (r.after stop it s' d).1) := by
  subst e
  rw [Run.loop]
  by_cases hge : it ≥ r.total
  · rw [if_pos hge, if_pos hge]
  rw [if_neg hge, if_neg hge]
  by_cases hk : stop = .killDuring it
  · rw [if_pos hk, if_pos hk]; rfl
  rw [if_neg hk, if_neg hk]
  -- `Run.loop` asks first whether a checkpoint is due, `Run.after` first how the process stops
  by_cases hck : ckptGuard it r.ckSteps r.total = true
  · cases stop with
    | crashInSave j n m =>
      by_cases hj : j = it
      · -- the process dies inside this iteration's save
        simp [Run.after, hck, hj]
      · simp [Run.after, Run.ckpt, hck, hj]
    | _ => simp [Run.after, Run.ckpt, hck]
  · -- no checkpoint is due: the directory stays, and only `vanishAfter it` stops the process
    cases stop <;> simp [Run.after, Run.ckpt, hck]

theorem Run.inv_save (r : Run P O G B L Sc) (h : r.Ok) (d : Dir) (t : Nat) (ht : t + 1 ≤ r.total) :
    r.Inv (r.save d t (snapshot (r.U (t + 1)))) :=
  Or.inr ⟨t, ht, save_then_load_of_wf r.decode r.saveTbl h.save d t _ _ (h.codec _)⟩

theorem Run.inv_ckpt (r : Run P O G B L Sc) (h : r.Ok) (d : Dir) (it : Nat) (ht : it < r.total) (hd : r.Inv d) :
    r.Inv (r.ckpt it (r.U (it + 1)) d) := by
  unfold Run.ckpt
  split
  · exact r.inv_save h d it ht
  · exact hd

theorem Run.killDir_eq (r : Run P O G B L Sc) (h : r.Ok) (it : Nat) (s : St P O G Sc) (d : Dir) (h5 : 5 ≤ it) :
    r.killDir it s d = r.save d ((it - 1 : Nat) : Int) (snapshot s) := by
  have hg : killGuard (it : Int) = true := decide_eq_true (by omega)
  have hl : r.killLabel (it : Int) = ((it - 1 : Nat) : Int) := by rw [h.label]; unfold Train.killLabel; omega
  rw [Run.killDir, if_pos hg, hl]

theorem Run.inv_killDir (r : Run P O G B L Sc) (h : r.Ok) (d : Dir) (it : Nat) (ht : it < r.total) (hd : r.Inv d) :
    r.Inv (r.killDir it (r.U it) d) := by
  by_cases h5 : 5 ≤ it
  · rw [r.killDir_eq h it _ d h5, show r.U it = r.U (it - 1 + 1) by congr 1; omega]
    exact r.inv_save h d (it - 1) (by omega)
  · rw [Run.killDir, if_neg (by simp only [killGuard, decide_eq_true_eq]; omega)]; exact hd

theorem Run.inv_after (r : Run P O G B L Sc) (h : r.Ok) (stop : Stop) (d : Dir) (it : Nat) (ht : it < r.total)
    (hd : r.Inv d) : r.Inv (r.after stop it (r.U (it + 1)) d).1 := by
  have hck := r.inv_ckpt h d it ht hd
  unfold Run.after
  split
  · split
    · -- a crash inside the save: 'latest' is what it was, or the new checkpoint
      rcases crash_safe_of_wf r.decode r.saveTbl h.save d it (r.encode (snapshot (r.U (it + 1)))) _ (h.codec _) _
        (crashAt_crashOf _ _ _) with e | e
      · unfold Run.Inv; rw [e]; exact hd
      · exact Or.inr ⟨it, ht, e⟩
    · exact hck
  · exact hck

theorem Run.loop_inv (r : Run P O G B L Sc) (h : r.Ok) (stop : Stop) (fuel it : Nat) (d : Dir)
    (hd : r.Inv d) : r.Inv (r.loop stop fuel it (r.U it) d).2 := by
  induction fuel generalizing it d with
  | zero => exact hd
  | succ fuel ih =>
    rw [Run.loop_succ (e := r.U_succ h it)]
    by_cases hge : it ≥ r.total
    · rw [if_pos hge]; exact hd
    rw [if_neg hge]
    by_cases hk : stop = .killDuring it
    · rw [if_pos hk]; exact r.inv_killDir h d it (by omega) hd
    rw [if_neg hk]
    have ha := r.inv_after h stop d it (by omega) hd
    split
    · exact ih _ _ ha
    · exact ha

theorem Run.loop_finish (r : Run P O G B L Sc) (h : r.Ok) (fuel it : Nat) (d : Dir)
    (hit : it ≤ r.total) (hf : r.total - it ≤ fuel) : (r.loop .finish fuel it (r.U it) d).1 = r.U r.total := by
  induction fuel generalizing it d with
  | zero => rw [show it = r.total by omega]; rfl
  | succ fuel ih =>
    rw [Run.loop_succ (e := r.U_succ h it)]
    by_cases hge : it ≥ r.total
    · rw [if_pos hge, show it = r.total by omega]
    · have go : (r.after .finish it (r.U (it + 1)) d).2 = true := rfl
      rw [if_neg hge, if_neg Stop.noConfusion, if_pos go]
      exact ih _ _ (by omega) (by omega)

theorem Run.process_eq (r : Run P O G B L Sc) (h : r.Ok) (stop : Stop) (d : Dir) (hd : r.Inv d)
    (ha : r.Aligned d) :
    ∃ start, start ≤ r.total ∧ r.process stop d = some (r.loop stop r.total start (r.U start) d) := by
  rcases hd with e | ⟨t, ht, e⟩
  · exact ⟨0, Nat.zero_le _, by rw [Run.process, e]; rfl⟩
  · have hal := ha _ _ e
    rw [resumeStart_toNat] at hal
    refine ⟨t + 1, ht, ?_⟩
    rw [Run.process, e]
    simp only [resumeStart_toNat, restore_snapshot _ _ (r.U_grad h (t + 1) hal)]

/-- aligned or not, a resume continues **with an empty accumulator** -/
theorem Run.process_start (r : Run P O G B L Sc) (stop : Stop) (d : Dir) (t : Nat)
    (e : loadLatest r.decode d = .ok t (snapshot (r.U (t + 1)))) :
    r.process stop d = some (r.loop stop r.total (t + 1) { r.U (t + 1) with grad := r.ops.zero } d) := by
  -- the state is made opaque: comparing `restore` of its snapshot with it would unfold the run that produced it
  generalize r.U (t + 1) = u at e ⊢
  rw [Run.process, e]
  simp only [resumeStart_toNat]
  rfl

theorem Run.history_inv (r : Run P O G B L Sc) (h : r.Ok) (stops : List Stop) (d : Dir) (hd : r.Inv d)
    (ha : r.AlignedHist stops d) :
    ∃ d', r.history stops d = some d' ∧ r.Inv d' ∧ r.Aligned d' := by
  induction stops generalizing d with
  | nil => exact ⟨d, rfl, hd, ha⟩
  | cons st rest ih =>
    obtain ⟨start, _, e⟩ := r.process_eq h st d hd ha.1
    have ha2 := ha.2
    rw [e] at ha2
    rw [Run.history, e]
    exact ih _ (r.loop_inv h st _ _ d hd) ha2

theorem Run.alignedHist_of_k1 (r : Run P O G B L Sc) (hk : r.cfg.k = 1) (stops : List Stop) (d : Dir) :
    r.AlignedHist stops d := by
  have aligned : ∀ d, r.Aligned d := fun d t c _ => by rw [hk]; exact Nat.mod_one _
  induction stops generalizing d with
  | nil => exact aligned d
  | cons st rest ih =>
    refine ⟨aligned d, ?_⟩
    cases r.process st d with
    | none => trivial
    | some x => exact ih _

end DirectVerif.Train
