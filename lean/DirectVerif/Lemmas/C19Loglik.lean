import DirectVerif.Lemmas.C19Ops
/-!
# C19 — `MRILogLikelihood` is the gradient of the data-fidelity term

`A = M ∘ F ∘ E` (mask, Fourier, coil expansion), `A† = R ∘ Fb ∘ M` when `Fb` is the adjoint of `F`,
`R` the adjoint of `E` and `M` an orthogonal projection.
-/
open ComplexInnerProductSpace DirectVerif.DataConsistency
open scoped ComplexConjugate

namespace DirectVerif.C19
variable {E : Type*} [NormedAddCommGroup E] [InnerProductSpace ℂ E]
variable {G : Type*} [NormedAddCommGroup G] [InnerProductSpace ℂ G]

/-- what the theorems assume about the five operators -/
structure Physics (F Fb : G →ₗ[ℂ] G) (Ex : E →ₗ[ℂ] G) (R : G →ₗ[ℂ] E) (M : G →ₗ[ℂ] G) : Prop where
  /-- true for the default normalised `fft2`/`ifft2` pair (unitary, `F† = F⁻¹`; property C01) -/
  bwd_adjoint : ∀ u v, ⟪F u, v⟫ = ⟪u, Fb v⟫
  /-- `reduce_operator` / `expand_operator` (property C02) -/
  reduce_adjoint : ∀ x w, ⟪Ex x, w⟫ = ⟪x, R w⟫
  /-- masking is an orthogonal projection (property C03) -/
  mask_sa : ∀ u v, ⟪M u, v⟫ = ⟪u, M v⟫
  mask_idem : ∀ u, M (M u) = M u

section
variable (F Fb : G →ₗ[ℂ] G) (Ex : E →ₗ[ℂ] G) (R : G →ₗ[ℂ] E) (M : G →ₗ[ℂ] G)

def fwdModel : E →ₗ[ℂ] G := M ∘ₗ F ∘ₗ Ex
def adjModel : G →ₗ[ℂ] E := R ∘ₗ Fb ∘ₗ M

noncomputable def dataFit (x : E) (y : G) : ℝ := ‖fwdModel F Ex M x - M y‖ ^ 2 / 2

/-- no assumption on the operators: both terms masked, one scaling -/
theorem loglik_eq (s : ℂ) (x : E) (y : G) :
    loglik (mathOps F Fb Ex R M) s x y = s • R (Fb (M (F (Ex x)) - M y)) := by
  show R (Fb (M (F (s • Ex x)) - s • M y)) = _
  simp only [map_smul, ← smul_sub]

variable {F Fb Ex R M}

theorem adjModel_is_adjoint (P : Physics F Fb Ex R M) (x : E) (w : G) :
    ⟪fwdModel F Ex M x, w⟫ = ⟪x, adjModel Fb R M w⟫ := by
  simp only [fwdModel, adjModel, LinearMap.comp_apply]
  rw [P.mask_sa, P.bwd_adjoint, P.reduce_adjoint]

/-- C19 for `MRILogLikelihood.forward`: it equals `s · A†(A x − M y)`, the analytic gradient of `s · ½‖M F E x − M y‖²`,
for every image, data, sensitivity map and mask -/
theorem loglik_eq_gradient (P : Physics F Fb Ex R M) (s : ℂ) (x : E) (y : G) :
    loglik (mathOps F Fb Ex R M) s x y = s • adjModel Fb R M (fwdModel F Ex M x - M y) := by
  rw [loglik_eq]
  simp only [fwdModel, adjModel, LinearMap.comp_apply, map_sub, P.mask_idem]

/-- the linear term of the exact expansion is the block's output, so the block is the gradient (`gradient_unique`) -/
theorem dataFit_expansion (P : Physics F Fb Ex R M) (x h : E) (y : G) :
    dataFit F Ex M (x + h) y =
      dataFit F Ex M x y + (⟪loglik (mathOps F Fb Ex R M) 1 x y, h⟫).re + ‖fwdModel F Ex M h‖ ^ 2 / 2 := by
  rw [loglik_eq_gradient P, one_smul]
  unfold dataFit
  have e : fwdModel F Ex M (x + h) - M y = (fwdModel F Ex M x - M y) + fwdModel F Ex M h := by
    rw [map_add]; abel
  rw [e, norm_add_sq (𝕜 := ℂ), ← inner_re_symm, adjModel_is_adjoint P, ← inner_re_symm]
  simp only [RCLike.re_to_complex]
  ring

/-- the un-masked data term of the property statement differs from `dataFit` by the constant `½‖y − M y‖²` (Pythagoras
for the projection `M`) -/
theorem dataFit_unmasked (P : Physics F Fb Ex R M) (x : E) (y : G) :
    ‖fwdModel F Ex M x - y‖ ^ 2 / 2 = dataFit F Ex M x y + ‖M y - y‖ ^ 2 / 2 := by
  unfold dataFit
  have e : fwdModel F Ex M x - y = (fwdModel F Ex M x - M y) + (M y - y) := by abel
  have orth : ⟪fwdModel F Ex M x - M y, M y - y⟫ = 0 := by
    have : fwdModel F Ex M x - M y = M (F (Ex x) - y) := by
      simp only [fwdModel, LinearMap.comp_apply, map_sub]
    rw [this, P.mask_sa, map_sub, P.mask_idem, sub_self, inner_zero_right]
  rw [e, norm_add_sq (𝕜 := ℂ), orth]
  simp only [map_zero, mul_zero, add_zero]
  ring

theorem gradient_unique (g g' : E) (hg : ∀ h : E, (⟪g, h⟫).re = (⟪g', h⟫).re) : g = g' := by
  have h : ‖g - g'‖ ^ 2 = 0 := by rw [← re_inner_self, inner_sub_left, Complex.sub_re, hg, sub_self]
  exact sub_eq_zero.mp (norm_eq_zero.mp ((pow_eq_zero_iff two_ne_zero).mp h))

theorem loglik_zero_of_masked_consistent (s : ℂ) (x₀ : E) (y : G)
    (hy : M y = M (F (Ex x₀))) : loglik (mathOps F Fb Ex R M) s x₀ y = 0 := by
  rw [loglik_eq, hy, sub_self, map_zero, map_zero, smul_zero]

/-- `ifftn` without `norm="ortho"` is `F*/N`: `c = 1/N` -/
theorem loglik_scaled_backward (Fa : G →ₗ[ℂ] G) (c s : ℂ) (hFb : ∀ v, Fb v = c • Fa v) (x : E) (y : G) :
    loglik (mathOps F Fb Ex R M) s x y = c • loglik (mathOps F Fa Ex R M) s x y := by
  rw [loglik_eq, loglik_eq, hFb, map_smul, smul_comm]

end
end DirectVerif.C19
