import DirectVerif.Lemmas.C03
/-!
# C03 — under-sampling never leaks or alters k-space

Statements about the definitions of `Model/Mask.lean` that the driver executes.  Values are `FVal` constructors, so
`= .posZero` is "exactly +0 (not −0)" and `= srcAt k …` is "bit-identical to the input entry", for ±0, ±∞ and finite
extremes alike; `srcAt t d sR fl` is the entry of `t` that flat output position `fl` reads under numpy broadcasting.
Every masked operator is `whereWith` with a kernel (`whereZero`, `wherePad`, a site's kernel, `mulPlusZero`) inside a
composition; the facts are those of `Lemmas/C03.lean` at that kernel, carried through the composition.
-/
namespace DirectVerif.C03
open DirectVerif DirectVerif.Mask

theorem whereZero_of_unset {μ} [MaskVal μ] {mv : μ} (h : MaskVal.eqConst mv 0 = false) (kv : FVal) :
    whereZero mv kv = kv := by rw [whereZero, h]; rfl

theorem whereZero_of_set {μ} [MaskVal μ] {mv : μ} (h : MaskVal.eqConst mv 0 = true) (kv : FVal) :
    whereZero mv kv = .posZero := by rw [whereZero, h]; rfl

theorem whereZero_idem {μ} [MaskVal μ] (mv : μ) (kv : FVal) : whereZero mv (whereZero mv kv) = whereZero mv kv := by
  cases h : MaskVal.eqConst mv 0
  · rw [whereZero_of_unset h]
  · rw [whereZero_of_set h, whereZero_of_set h]

theorem whereZero_congr {μ} [MaskVal μ] (mv : μ) (a b : FVal) (h : MaskVal.eqConst mv 0 = false → a = b) :
    whereZero mv a = whereZero mv b := by
  cases hm : MaskVal.eqConst mv 0
  · rw [whereZero_of_unset hm, whereZero_of_unset hm, h hm]
  · rw [whereZero_of_set hm, whereZero_of_set hm]

theorem eqConst_int (a c : Int) : MaskVal.eqConst a c = (a == c) := rfl

theorem applyMask_ok {μ} [Inhabited μ] [MaskVal μ] (m : Tensor μ) (k o : Tensor FVal) :
    applyMask m k = .ok o ↔ k.shape.getLast? = some 2 ∧ whereWith whereZero m k = some o := by
  unfold applyMask
  split
  · next h2 => exact ⟨(nomatch ·), fun h => (h2 h.1).elim⟩
  · next h2 =>
    split
    · next hw => exact ⟨(nomatch ·), fun h => nomatch hw.symm.trans h.2⟩
    · next o' hw =>
      exact ⟨fun h => ⟨Decidable.not_not.mp h2, by rw [hw, Res.ok.inj h]⟩,
        fun h => by rw [Option.some.inj (hw.symm.trans h.2)]⟩

theorem Res.toOption_eq_some {α} {r : Res α} {a : α} : r.toOption = some a ↔ r = .ok a := by
  cases r <;> simp [Res.toOption]

theorem mask_entry {μ} [Inhabited μ] [MaskVal μ] (m : Tensor μ) (k o : Tensor FVal)
    (h : applyMask m k = .ok o) (fl : Nat) (hfl : fl < prodR o.shape.reverse) :
    o.data[fl]? = some (whereZero (srcAt m default o.shape.reverse fl) (srcAt k .posZero o.shape.reverse fl)) :=
  (whereWith_entry _ m k o ((applyMask_ok m k o).mp h).2).2.2 fl hfl

/-- **On the support the masked k-space is the input k-space, bit-identical** (−0, ±∞, ±3.4e38 alike), for every mask
element type and every broadcastable mask shape. -/
theorem mask_on_support {μ} [Inhabited μ] [MaskVal μ] (m : Tensor μ) (k o : Tensor FVal)
    (h : applyMask m k = .ok o) (fl : Nat) (hfl : fl < prodR o.shape.reverse)
    (hm : MaskVal.eqConst (srcAt m default o.shape.reverse fl) 0 = false) :
    o.data[fl]? = some (srcAt k .posZero o.shape.reverse fl) := by
  rw [mask_entry m k o h fl hfl, whereZero_of_unset hm]

/-- **Off the support the masked k-space is exactly `+0`** whatever the input entry is. -/
theorem mask_off_support {μ} [Inhabited μ] [MaskVal μ] (m : Tensor μ) (k o : Tensor FVal)
    (h : applyMask m k = .ok o) (fl : Nat) (hfl : fl < prodR o.shape.reverse)
    (hm : MaskVal.eqConst (srcAt m default o.shape.reverse fl) 0 = true) :
    o.data[fl]? = some .posZero := by
  rw [mask_entry m k o h fl hfl, whereZero_of_set hm]

/-- integer / boolean masks: "set" means `≠ 0` -/
theorem mask_on_support_int (m : Tensor Int) (k o : Tensor FVal) (h : applyMask m k = .ok o)
    (fl : Nat) (hfl : fl < prodR o.shape.reverse) (hm : srcAt m default o.shape.reverse fl ≠ 0) :
    o.data[fl]? = some (srcAt k .posZero o.shape.reverse fl) :=
  mask_on_support m k o h fl hfl (by rw [eqConst_int]; exact beq_false_of_ne hm)

theorem mask_off_support_int (m : Tensor Int) (k o : Tensor FVal) (h : applyMask m k = .ok o)
    (fl : Nat) (hfl : fl < prodR o.shape.reverse) (hm : srcAt m default o.shape.reverse fl = 0) :
    o.data[fl]? = some .posZero :=
  mask_off_support m k o h fl hfl (by rw [eqConst_int, hm]; rfl)

/-- float masks: an entry is "unset" exactly when it is `+0` or `−0` -/
theorem float_mask_off_iff (v : FVal) (hv : v.wf = true) :
    MaskVal.eqConst v 0 = true ↔ (v = .posZero ∨ v = .negZero) := by
  cases v <;> simp_all [MaskVal.eqConst, FVal.eqInt, FVal.wf]

theorem mask_shape {μ} [Inhabited μ] [MaskVal μ] (m : Tensor μ) (k o : Tensor FVal)
    (h : applyMask m k = .ok o) :
    outShapeR m.shape.reverse k.shape.reverse = some o.shape.reverse ∧
    o.data.length = prodR o.shape.reverse ∧ o.shape.getLast? = some 2 := by
  obtain ⟨h2, hw⟩ := (applyMask_ok m k o).mp h
  obtain ⟨hs, hl, _⟩ := whereWith_entry _ m k o hw
  refine ⟨hs, hl, ?_⟩
  rw [List.getLast?_eq_head?_reverse] at h2 ⊢
  cases hk : k.shape.reverse with
  | nil => rw [hk] at h2; cases h2
  | cons a t =>
    rw [hk] at h2 hs
    cases h2
    exact outShapeR_head_two _ _ _ hs

/-- multi-index form; `bIdx` is numpy's index map (extra leading axes dropped, length-1 axes read entry 0) -/
theorem mask_pointwise_idx {μ} [Inhabited μ] [MaskVal μ] (m : Tensor μ) (k o : Tensor FVal)
    (h : applyMask m k = .ok o) (idx : List Nat) (hi : inRange o.shape idx) :
    getIdx o .posZero idx =
      whereZero (getIdx m default (bIdx m.shape idx)) (getIdx k .posZero (bIdx k.shape idx)) := by
  have h := mask_entry m k o h _ (ravelR_lt _ _ hi)
  simp only [getIdx, bIdx, List.reverse_reverse, List.getD_eq_getElem?_getD, h, Option.getD_some,
    srcAt, unravelR_ravelR _ _ hi]

theorem bIdxR_one (s : List Nat) (i : Nat) (is : List Nat) :
    bIdxR (1 :: s) (i :: is) = 0 :: bIdxR s is := rfl
theorem bIdxR_full (n : Nat) (hn : n ≠ 1) (s : List Nat) (i : Nat) (is : List Nat) :
    bIdxR (n :: s) (i :: is) = i :: bIdxR s is := by
  show (if n = 1 then 0 else i) :: _ = _
  rw [if_neg hn]
theorem bIdxR_extra (is : List Nat) : bIdxR [] is = [] := bIdxR_nil_left is

/-- **Idempotence**: masking an already masked k-space changes nothing (not even a sign bit). -/
theorem mask_idempotent {μ} [Inhabited μ] [MaskVal μ] (m : Tensor μ) (k o : Tensor FVal)
    (h : applyMask m k = .ok o) : applyMask m o = .ok o := by
  rw [applyMask_ok]
  exact ⟨(mask_shape m k o h).2.2, whereWith_idem _ m whereZero_idem k o ((applyMask_ok m k o).mp h).2⟩

/-- the bare `torch.where` used by `MRILogLikelihood` / `ConjGrad` (no complex assert) does not depend on
entries of its operand off the support -/
theorem where_noninterference {μ} [Inhabited μ] [MaskVal μ] (m : Tensor μ) (k k' : Tensor FVal)
    (h : agreeOnSupport m k k') : whereWith whereZero m k = whereWith whereZero m k' :=
  whereWith_congr _ m k k' h.1 fun sR hs fl hfl => whereZero_congr _ _ _ (h.2 sR hs fl hfl)

/-- **Non-interference**: two k-spaces that agree on the support give the same masked k-space —
no unsampled value reaches the output. -/
theorem mask_noninterference {μ} [Inhabited μ] [MaskVal μ] (m : Tensor μ) (k k' : Tensor FVal)
    (h : agreeOnSupport m k k') : applyMask m k = applyMask m k' := by
  unfold applyMask
  rw [where_noninterference m k k' h, h.1]

theorem applyPadding_ok {μ} [Inhabited μ] [MaskVal μ] {p : Tensor μ} {d o : Tensor FVal} :
    applyPadding (some p) d = .ok o ↔ whereWith wherePad p d = some o := by
  show (match whereWith wherePad p d with | none => Res.runtimeError | some o => Res.ok o) = .ok o ↔ _
  cases whereWith wherePad p d with
  | none => exact ⟨(nomatch ·), (nomatch ·)⟩
  | some o' => exact ⟨fun h => by rw [Res.ok.inj h], fun h => by rw [Option.some.inj h]⟩

/-- `apply_padding`: padded positions (`padding == 1`) become exactly `+0`, all others are
bit-identical; `None` is the identity. -/
theorem padding_pointwise {μ} [Inhabited μ] [MaskVal μ] (p : Tensor μ) (d o : Tensor FVal)
    (h : applyPadding (some p) d = .ok o) (fl : Nat) (hfl : fl < prodR o.shape.reverse) :
    o.data[fl]? = some (if MaskVal.eqConst (srcAt p default o.shape.reverse fl) 1 then .posZero
                        else srcAt d .posZero o.shape.reverse fl) := by
  exact (whereWith_entry _ p d o (applyPadding_ok.mp h)).2.2 fl hfl

theorem padding_none {μ} [Inhabited μ] [MaskVal μ] (d : Tensor FVal) :
    applyPadding (none : Option (Tensor μ)) d = .ok d := rfl

/-- mask given as a mask function: the mask is `mask_func(shape = kspace.shape[1:], seed)` for any
seed, it is returned unchanged, and the k-space is masked with it. -/
theorem mask_func_path {μ} [Inhabited μ] [MaskVal μ] (mf : List Nat → Option Int → Tensor μ)
    (k o : Tensor FVal) (seed : Option Int) (mk : Tensor μ)
    (h : applyMaskFunc mf k seed = .ok (o, mk)) :
    mk = mf (k.shape.drop 1) seed ∧ applyMask mk k = .ok o := by
  unfold applyMaskFunc at h
  split at h
  · cases h
  · next h2 =>
    simp only at h
    split at h
    · cases h
    · next o' hw =>
      cases h
      exact ⟨rfl, (applyMask_ok _ k o).mpr ⟨Decidable.not_not.mp h2, hw⟩⟩

/-- whatever is already stored under the target key (nothing, stale k-space of any shape) has no influence -/
theorem apply_mask_module_ignores_existing_target {μ} [Inhabited μ] [MaskVal μ] (s : Sample μ)
    (t' : Option (Tensor FVal)) : applyMaskModule { s with target := t' } = applyMaskModule s := rfl

theorem apply_mask_module_eq {μ} [Inhabited μ] [MaskVal μ] (k : Tensor FVal) (m : Tensor μ)
    (t : Option (Tensor FVal)) :
    applyMaskModule { input := some k, mask := some m, target := t } = ModRes.ofRes (applyMask m k) := rfl

/-- missing keys are rejected, never defaulted -/
theorem apply_mask_module_missing {μ} [Inhabited μ] [MaskVal μ] (s : Sample μ)
    (h : s.input = none ∨ s.mask = none) : applyMaskModule s = .valueError := by
  unfold applyMaskModule
  rcases h with h | h
  · rw [h]
  · rw [h]; cases s.input <;> rfl

/-- applying the module repeatedly to the same dict with new masks: every step is `apply_mask(input, current mask)` -/
theorem module_history {μ} [Inhabited μ] [MaskVal μ] (k : Tensor FVal) (t : Option (Tensor FVal))
    (ms : List (Tensor μ)) :
    moduleHistory k t ms = ms.map fun m => ModRes.ofRes (applyMask m k) := by
  induction ms generalizing t with
  | nil => rfl
  | cons m ms ih => simp only [moduleHistory, List.map_cons, ih, apply_mask_module_eq]

theorem module_history_step {μ} [Inhabited μ] [MaskVal μ] (k : Tensor FVal) (t : Option (Tensor FVal))
    (ms : List (Tensor μ)) (i : Nat) (m : Tensor μ) (o : Tensor FVal) (hm : ms[i]? = some m)
    (ho : (moduleHistory k t ms)[i]? = some (.ok o)) : applyMask m k = .ok o := by
  rw [module_history, List.getElem?_map, hm, Option.map_some] at ho
  cases ha : applyMask m k <;> rw [ha] at ho <;> cases ho
  rfl

theorem runStages_append {V} (ops : Ops V) (a b : List Stage) (x : V) :
    runStages ops (a ++ b) x = (runStages ops a x).bind (runStages ops b) := by
  induction a generalizing x with
  | nil => simp [runStages]
  | cons st rest ih =>
    cases st <;> simp only [List.cons_append, runStages, ih]
    cases ops.mask x <;> simp [ih]

/-- an operator whose **last** stage is the mask returns a masked tensor, whatever the other stages do -/
theorem last_mask_output {V} (ops : Ops V) (stages : List Stage) (hwf : stages.getLast? = some .mask)
    (x o : V) (h : runStages ops stages x = some o) : ∃ v, ops.mask v = some o := by
  obtain ⟨pre, rfl⟩ : ∃ pre, stages = pre ++ [.mask] := by
    obtain ⟨pre, hpre⟩ := List.getLast?_eq_some_iff.mp hwf
    exact ⟨pre, hpre⟩
  rw [runStages_append, Option.bind_eq_some_iff] at h
  obtain ⟨v, _, hv⟩ := h
  -- the last stage alone is `(ops.mask v).bind some`
  exact ⟨v, (Option.bind_fun_some _).symm.trans hv⟩

/-- any operator whose **first** stage is the mask only sees the masked input -/
theorem first_mask_input {V} (ops : Ops V) (stages : List Stage) (hwf : stages.head? = some .mask)
    (y y' : V) (h : ops.mask y = ops.mask y') : runStages ops stages y = runStages ops stages y' := by
  cases stages with
  | nil => cases hwf
  | cons st rest =>
    cases Option.some.inj hwf
    show (ops.mask y).bind _ = (ops.mask y').bind _
    rw [h]

/-- **The masked forward operator's output is exactly `+0` off the support** for arbitrary
`forward_operator` and `expand_operator`. -/
theorem fwdOp_supported {μ} [Inhabited μ] [MaskVal μ] (expand F : Tensor FVal → Tensor FVal)
    (m : Tensor μ) (x o : Tensor FVal) (h : fwdOp expand F m x = some o) (fl : Nat)
    (hfl : fl < prodR o.shape.reverse)
    (hm : MaskVal.eqConst (srcAt m default o.shape.reverse fl) 0 = true) :
    o.data[fl]? = some .posZero := by
  obtain ⟨v, hv⟩ := last_mask_output _ fwdStages rfl x o h
  exact mask_off_support m v o (Res.toOption_eq_some.mp hv) fl hfl hm

theorem fwdOp_on_support {μ} [Inhabited μ] [MaskVal μ] (expand F : Tensor FVal → Tensor FVal)
    (m : Tensor μ) (x o : Tensor FVal) (h : fwdOp expand F m x = some o) (fl : Nat)
    (hfl : fl < prodR o.shape.reverse)
    (hm : MaskVal.eqConst (srcAt m default o.shape.reverse fl) 0 = false) :
    o.data[fl]? = some (srcAt (F (expand x)) .posZero o.shape.reverse fl) := by
  have hv : (applyMask m (F (expand x))).toOption = some o := (Option.bind_fun_some _).symm.trans h
  exact mask_on_support m _ o (Res.toOption_eq_some.mp hv) fl hfl hm

/-- **The masked backward operator does not depend on unsampled entries of its input** for
arbitrary `backward_operator` and `reduce_operator`. -/
theorem bwdOp_noninterference {μ} [Inhabited μ] [MaskVal μ] (Finv reduce : Tensor FVal → Tensor FVal)
    (m : Tensor μ) (y y' : Tensor FVal) (h : agreeOnSupport m y y') :
    bwdOp Finv reduce m y = bwdOp Finv reduce m y' := by
  unfold bwdOp
  apply first_mask_input _ bwdStages rfl
  simp only [mask_noninterference m y y' h]

/-- same for `ConjGrad._A_star_op` -/
theorem aStarOp_noninterference {μ} [Inhabited μ] [MaskVal μ] (Finv reduce : Tensor FVal → Tensor FVal)
    (m : Tensor μ) (y y' : Tensor FVal) (h : agreeOnSupport m y y') :
    aStarOp Finv reduce m y = aStarOp Finv reduce m y' := by
  unfold aStarOp
  exact first_mask_input _ bwdStages rfl _ _ (where_noninterference m y y' h)

/-- both at once: changing the unsampled entries of the data and of the prediction (through any other forward operator)
leaves `MRILogLikelihood.forward` unchanged -/
theorem loglik_noninterference {μ I O} [Inhabited μ] [MaskVal μ] (pre : I → Tensor FVal)
    (F F' B : Tensor FVal → Tensor FVal) (sub : Tensor FVal → Tensor FVal → Tensor FVal)
    (scale : Tensor FVal → Tensor FVal) (post : Tensor FVal → O) (m : Tensor μ) (x : I)
    (y y' : Tensor FVal) (hy : agreeOnSupport m y y')
    (hf : agreeOnSupport m (F (pre x)) (F' (pre x))) :
    loglik pre F B sub scale post m x y = loglik pre F' B sub scale post m x y' := by
  unfold loglik
  rw [where_noninterference m y y' hy, where_noninterference m _ _ hf]

/-- the concrete `error` tensor the driver computes is an instance of `loglik`, hence inherits both -/
theorem loglikError_noninterference {μ} [Inhabited μ] [MaskVal μ] (m : Tensor μ)
    (fx fx' y y' : Tensor FVal) (s : Int) (h1 : agreeOnSupport m fx fx') (h2 : agreeOnSupport m y y') :
    loglikError m fx y s = loglikError m fx' y' s := by
  unfold loglikError loglik
  simp only [id]
  rw [where_noninterference m fx fx' h1, where_noninterference m y y' h2]

/-! ## every masking site under `direct/nn` (table generated by the AST scan) -/

theorem wf_where_site_kernel {μ} [MaskVal μ] (w : WhereSite) (h : w.wf = true) (mv : μ) (kv : FVal) :
    w.kernel mv kv = whereZero mv kv := by
  obtain ⟨pe, pl, tb, eb⟩ := w
  simp only [WhereSite.wf, Bool.and_eq_true, beq_iff_eq] at h
  obtain ⟨⟨⟨h1, h2⟩, h3⟩, h4⟩ := h
  subst h1 h2 h3 h4
  simp only [WhereSite.kernel, whereZero, Branch.pick, if_true]

/-- hence every well-formed site inherits the facts about `whereZero` -/
theorem wf_site_pointwise {μ} [Inhabited μ] [MaskVal μ] (w : WhereSite) (h : w.wf = true)
    (m : Tensor μ) (k : Tensor FVal) : whereWith w.kernel m k = whereWith whereZero m k := by
  rw [show (w.kernel : μ → FVal → FVal) = whereZero from funext fun mv => funext (wf_where_site_kernel w h mv)]

theorem wf_site_noninterference {μ} [Inhabited μ] [MaskVal μ] (w : WhereSite) (h : w.wf = true)
    (m : Tensor μ) (k k' : Tensor FVal) (hk : agreeOnSupport m k k') :
    whereWith w.kernel m k = whereWith w.kernel m k' := by
  rw [wf_site_pointwise w h, wf_site_pointwise w h]
  exact where_noninterference m k k' hk

theorem wf_site_off_support {μ} [Inhabited μ] [MaskVal μ] (w : WhereSite) (h : w.wf = true)
    (m : Tensor μ) (k o : Tensor FVal) (ho : whereWith w.kernel m k = some o) (fl : Nat)
    (hfl : fl < prodR o.shape.reverse)
    (hm : MaskVal.eqConst (srcAt m default o.shape.reverse fl) 0 = true) :
    o.data[fl]? = some .posZero := by
  rw [wf_site_pointwise w h] at ho
  rw [(whereWith_entry _ m k o ho).2.2 fl hfl, whereZero_of_set hm]

/-- the product form, and a `where` with another predicate or constant, are rejected -/
example : Site.wf { file := "f", func := "g", form := .flagged "multiplication by the mask", operand := "x",
                    mask := "m", zeroDtypeOf := "" } = false := by decide +kernel
example : (WhereSite.wf { predEq := true, predLit := 1, thenB := .const .posZero, elseB := .data }) = false := by decide +kernel
example : (WhereSite.wf { predEq := true, predLit := 0, thenB := .const .negZero, elseB := .data }) = false := by decide +kernel
example : (WhereSite.wf { predEq := true, predLit := 0, thenB := .const .posZero, elseB := .data }) = true := by decide +kernel

/-- why the code must be a `where` and not a product: `kspace * mask` leaves `−0` for negative
entries and NaN for infinite ones at unsampled positions. -/
theorem mul_variant_violates :
    mulMask 0 (.fin (-3)) = some .negZero ∧ mulMask 0 .posInf = none ∧
    whereZero (0 : Int) (.fin (-3)) = .posZero ∧ whereZero (0 : Int) .posInf = .posZero := by decide

/-- mask `(2,1)` broadcast over k-space `(2,2,2)` holding `−0, +∞, −∞, 7 …` -/
def exK : Tensor FVal :=
  { shape := [2, 2, 2], data := [.negZero, .posInf, .fin 3, .fin (-4), .negInf, .fin 7, .negZero, .fin 9] }
def exM : Tensor Int := { shape := [2, 1], data := [0, 1] }
def exO : Tensor FVal :=
  { shape := [2, 2, 2], data := [.posZero, .posZero, .fin 3, .fin (-4), .posZero, .posZero, .negZero, .fin 9] }

example : applyMask exM exK = .ok exO := by decide +kernel
example : applyMask exM exO = .ok exO := mask_idempotent exM exK exO (by decide +kernel)
example : srcAt exM default exO.shape.reverse 6 ≠ 0 ∧ exO.data[6]? = some .negZero := by decide +kernel
example : srcAt exM default exO.shape.reverse 4 = 0 ∧ exO.data[4]? = some .posZero := by decide +kernel
example : fwdOp id id exM exK = some exO := by decide +kernel
example : bwdOp id id exM exK = some exO := by decide +kernel
/-- a stale same-shape target and a second application with another mask -/
def exM2 : Tensor Int := { shape := [2, 1], data := [1, 0] }
example : moduleHistory exK (some exK) [exM, exM2] =
    [.ok exO, ModRes.ofRes (applyMask exM2 exK)] := by decide +kernel
example : applyMaskModule { input := some exK, mask := some exM, target := some exK } = .ok exO := by decide +kernel
example : applyMaskModule ({ input := some exK, mask := none, target := none } : Sample Int) = .valueError := by
  decide +kernel
example : applyMask ({ shape := [3], data := [1, 1, 1] } : Tensor Int) exK = .runtimeError := by decide +kernel
example : applyMask exM ({ shape := [2, 3], data := [] } : Tensor FVal) = .assertionError := by decide +kernel
example : agreeOnSupport exM exK exO := by
  refine ⟨rfl, ?_⟩
  intro sR hs fl hfl hm
  have : sR = [2, 2, 2] := by
    have : outShapeR exM.shape.reverse exK.shape.reverse = some [2, 2, 2] := by decide +kernel
    rw [this] at hs; exact (Option.some.inj hs).symm
  subst this
  have hfl' : fl < 8 := hfl
  have h8 : ∀ fl, fl < 8 → MaskVal.eqConst (srcAt exM default [2, 2, 2] fl) 0 = false →
      srcAt exK .posZero [2, 2, 2] fl = srcAt exO .posZero [2, 2, 2] fl := by decide +kernel
  exact h8 fl hfl' hm

/-! ## hard data consistency of the SSL / JSSL / VSharp engines -/

theorem add_posZero_right (v : FVal) : FVal.add v .posZero = some v.unsign := by cases v <;> rfl
theorem add_posZero_left (v : FVal) : FVal.add .posZero v = some v.unsign := by cases v <;> rfl

theorem notMask_entry (m : Tensor Int) (kR sR : List Nat) (hwf : m.data.length = prodR m.shape.reverse)
    (h : outShapeR m.shape.reverse kR = some sR) (fl : Nat) (hfl : fl < prodR sR) :
    srcAt (notMask m) default sR fl = if srcAt m default sR fl == 0 then 1 else 0 :=
  srcAt_map (fun v : Int => if v == 0 then 1 else 0) m.shape m.data default default kR sR hwf h fl hfl

theorem addT_some (a b o : Tensor FVal) (h : addT a b = some o) :
    a.shape = b.shape ∧ o.shape = a.shape ∧
    o.data = List.zipWith (fun u v => (FVal.add u v).getD (.fin 0)) a.data b.data := by
  unfold addT at h
  split at h
  · next hs => cases h; exact ⟨hs, rfl, rfl⟩
  · cases h

theorem hardDC_some (m : Tensor Int) (y p o : Tensor FVal) (h : hardDC m y p = some o) :
    ∃ q, applyMask (notMask m) p = .ok q ∧ addT y q = some o := by
  unfold hardDC at h
  split at h
  · next q hq => exact ⟨q, hq, h⟩
  · cases h

theorem hardDC_entry (m : Tensor Int) (y p o : Tensor FVal) (h : hardDC m y p = some o)
    (hwf : m.data.length = prodR m.shape.reverse) (fl : Nat) (hfl : fl < prodR o.shape.reverse) :
    o.data[fl]? = (y.data[fl]?).map fun a =>
      (FVal.add a (whereZero (if srcAt m default o.shape.reverse fl == 0 then (1 : Int) else 0)
        (srcAt p .posZero o.shape.reverse fl))).getD (.fin 0) := by
  obtain ⟨q, hq, ha⟩ := hardDC_some m y p o h
  obtain ⟨hs, hos, hd⟩ := addT_some y q o ha
  have hqo : q.shape = o.shape := by rw [hos, hs]
  have hsh := (mask_shape _ p q hq).1
  have hqv := mask_entry _ p q hq fl (hqo ▸ hfl)
  rw [hqo] at hsh hqv
  rw [notMask_entry m p.shape.reverse o.shape.reverse hwf hsh fl hfl] at hqv
  rw [hd, List.getElem?_zipWith, hqv]
  cases y.data[fl]? <;> rfl

/-- **Hard data consistency, sampled positions**: the output is the *measured* value (sign of a zero aside), whatever the
network predicted there. -/
theorem hardDC_sampled (m : Tensor Int) (y p o : Tensor FVal) (h : hardDC m y p = some o)
    (hwf : m.data.length = prodR m.shape.reverse) (fl : Nat) (hfl : fl < prodR o.shape.reverse)
    (hm : srcAt m default o.shape.reverse fl ≠ 0) :
    o.data[fl]? = (y.data[fl]?).map FVal.unsign := by
  rw [hardDC_entry m y p o h hwf fl hfl, whereZero_of_set (by rw [beq_false_of_ne hm]; rfl)]
  cases y.data[fl]? with
  | none => rfl
  | some a => rw [Option.map_some, add_posZero_right]; rfl

/-- **unsampled positions**: `measured + prediction`; for a properly masked measurement (`+0` there) the prediction -/
theorem hardDC_unsampled (m : Tensor Int) (y p o : Tensor FVal) (h : hardDC m y p = some o)
    (hwf : m.data.length = prodR m.shape.reverse) (fl : Nat) (hfl : fl < prodR o.shape.reverse)
    (hm : srcAt m default o.shape.reverse fl = 0) (hy : y.data[fl]? = some .posZero) :
    o.data[fl]? = some (srcAt p .posZero o.shape.reverse fl).unsign := by
  rw [hardDC_entry m y p o h hwf fl hfl, whereZero_of_unset (by rw [hm]; rfl), hy, Option.map_some, add_posZero_left]
  rfl

/-- **the prediction at sampled positions never reaches the data-consistent output** -/
theorem hardDC_prediction_noninterference (m : Tensor Int) (y p p' : Tensor FVal)
    (h : agreeOnSupport (notMask m) p p') : hardDC m y p = hardDC m y p' := by
  unfold hardDC
  rw [mask_noninterference (notMask m) p p' h]

/-- same for the whole SSL / JSSL iteration output (padding and target projection included) -/
theorem sslOutput_prediction_noninterference (m : Tensor Int) (y p p' : Tensor FVal) (pad tgt : Option (Tensor Int))
    (h : agreeOnSupport (notMask m) p p') : sslOutput m y p pad tgt = sslOutput m y p' pad tgt := by
  unfold sslOutput
  rw [hardDC_prediction_noninterference m y p p' h]

theorem sslOutput_some (m : Tensor Int) (y p o : Tensor FVal) (pad tgt : Option (Tensor Int))
    (h : sslOutput m y p pad tgt = some o) :
    ∃ o1 o2, hardDC m y p = some o1 ∧ applyPadding pad o1 = .ok o2 ∧
      (tgt = none ∧ o2 = o ∨ ∃ t, tgt = some t ∧ applyMask t o2 = .ok o) := by
  unfold sslOutput at h
  split at h
  · cases h
  · next o1 h1 =>
    split at h
    · next o2 h2 =>
      refine ⟨o1, o2, h1, h2, ?_⟩
      cases tgt with
      | none => exact Or.inl ⟨rfl, Option.some.inj h⟩
      | some t => exact Or.inr ⟨t, rfl, Res.toOption_eq_some.mp h⟩
    · cases h

/-- SSL training: the output k-space is exactly `+0` off the *target* mask -/
theorem sslOutput_off_target (m t : Tensor Int) (y p o : Tensor FVal) (pad : Option (Tensor Int))
    (h : sslOutput m y p pad (some t) = some o) (fl : Nat) (hfl : fl < prodR o.shape.reverse)
    (ht : srcAt t default o.shape.reverse fl = 0) : o.data[fl]? = some .posZero := by
  obtain ⟨_, o2, _, _, ⟨hn, _⟩ | ⟨t', ht', ha⟩⟩ := sslOutput_some m y p o pad _ h
  · cases hn
  · cases ht'
    exact mask_off_support_int t o2 o ha fl hfl ht

/-- inference: the output k-space is exactly `+0` inside the zero-padding -/
theorem sslOutput_in_padding (m pad : Tensor Int) (y p o : Tensor FVal)
    (h : sslOutput m y p (some pad) none = some o) (fl : Nat) (hfl : fl < prodR o.shape.reverse)
    (hp1 : srcAt pad default o.shape.reverse fl = 1) : o.data[fl]? = some .posZero := by
  obtain ⟨o1, o2, _, hp, ⟨_, rfl⟩ | ⟨_, hn, _⟩⟩ := sslOutput_some m y p o _ none h
  · rw [padding_pointwise pad o1 o2 hp fl hfl, eqConst_int, hp1]
    rfl
  · cases hn

/-! ## the mask-function path of the pipeline: `CreateSamplingMask` → `ApplyMask` -/

theorem create_mask_shape_default (ks : List Nat) : createMaskShape none ks = some (ks.drop 1) := rfl
theorem create_mask_shape_empty (ks : List Nat) : createMaskShape (some []) ks = some (ks.drop 1) := rfl

theorem createSamplingMask_some {π} [Inhabited π] [MaskVal π] (mf : List Nat → Option (List Int) → Tensor FVal)
    (opt : Option (List (Option Nat))) (useSeed : Bool) (fn : List Int) (pad : Option (Tensor π))
    (k m : Tensor FVal) (h : createSamplingMask mf opt useSeed fn pad k = some m) :
    ∃ shp, createMaskShape opt k.shape = some shp ∧ applyPadding pad (mf shp (seedOf useSeed fn)) = .ok m := by
  unfold createSamplingMask at h
  split at h
  · cases h
  · next shp hs => exact ⟨shp, hs, Res.toOption_eq_some.mp h⟩

/-- the pipeline's masked k-space is `apply_mask(kspace, m)` with `m = apply_padding(mask_func(shape, seed(filename)),
padding)` and `shape` as `CreateSamplingMask` computes it -/
theorem pipeline_mask_path {π} [Inhabited π] [MaskVal π] (mf : List Nat → Option (List Int) → Tensor FVal)
    (opt : Option (List (Option Nat))) (useSeed : Bool) (fn : List Int) (pad : Option (Tensor π))
    (k o m : Tensor FVal) (h : pipelineMasked mf opt useSeed fn pad k = some (o, m)) :
    ∃ shp, createMaskShape opt k.shape = some shp ∧
      applyPadding pad (mf shp (seedOf useSeed fn)) = .ok m ∧ applyMask m k = .ok o := by
  unfold pipelineMasked at h
  split at h
  · cases h
  · next m' hm =>
    obtain ⟨o', ho, hom⟩ := Option.map_eq_some_iff.mp h
    cases hom
    obtain ⟨shp, hs, hp⟩ := createSamplingMask_some mf opt useSeed fn pad k m hm
    exact ⟨shp, hs, hp, Res.toOption_eq_some.mp ho⟩

/-- default options, no padding: the mask-function path of `apply_mask` (`mask_func_path`) -/
theorem pipeline_default_is_mask_func_path (mf : List Nat → Option (List Int) → Tensor FVal) (useSeed : Bool)
    (fn : List Int) (k o m : Tensor FVal)
    (h : pipelineMasked mf none useSeed fn (none : Option (Tensor Int)) k = some (o, m)) :
    m = mf (k.shape.drop 1) (seedOf useSeed fn) ∧ applyMask m k = .ok o := by
  obtain ⟨shp, hs, hp, ha⟩ := pipeline_mask_path mf none useSeed fn none k o m h
  rw [create_mask_shape_default] at hs
  injection hs with hs; subst hs
  rw [padding_none] at hp
  injection hp with hp
  exact ⟨hp.symm, ha⟩

theorem seedOf_filename_only (useSeed : Bool) (fn : List Int) :
    seedOf useSeed fn = if useSeed then some fn else none := rfl

theorem sampling_mask_padding_cleared {π} [Inhabited π] [MaskVal π]
    (mf : List Nat → Option (List Int) → Tensor FVal) (opt : Option (List (Option Nat))) (useSeed : Bool)
    (fn : List Int) (pad : Tensor π) (k m : Tensor FVal)
    (h : createSamplingMask mf opt useSeed fn (some pad) k = some m) (fl : Nat)
    (hfl : fl < prodR m.shape.reverse) (hp1 : MaskVal.eqConst (srcAt pad default m.shape.reverse fl) 1 = true) :
    m.data[fl]? = some .posZero := by
  obtain ⟨shp, _, hp⟩ := createSamplingMask_some mf opt useSeed fn (some pad) k m h
  rw [padding_pointwise pad _ m hp fl hfl, hp1]
  rfl

/-- in the documented layout (padding and sampling mask of the same shape) the masked k-space is exactly `+0` inside the
zero-padding, whatever the mask function returned there -/
theorem pipeline_padding_zero {π} [Inhabited π] [MaskVal π] (mf : List Nat → Option (List Int) → Tensor FVal)
    (opt : Option (List (Option Nat))) (useSeed : Bool) (fn : List Int) (pad : Tensor π) (k o m : Tensor FVal)
    (h : pipelineMasked mf opt useSeed fn (some pad) k = some (o, m)) (hlay : m.shape = pad.shape) (fl : Nat)
    (hfl : fl < prodR o.shape.reverse)
    (hp1 : MaskVal.eqConst (srcAt pad default o.shape.reverse fl) 1 = true) :
    o.data[fl]? = some .posZero := by
  obtain ⟨shp, _, hp, ha⟩ := pipeline_mask_path mf opt useSeed fn (some pad) k o m h
  obtain ⟨hsh, _, _⟩ := mask_shape m k o ha
  have hidx := srcAt_index_lt _ _ _ hsh fl hfl
  -- the entry of the stored mask that this output position reads
  have hm' := padding_pointwise pad _ m hp _ hidx
  have hpad : srcAt pad default m.shape.reverse
      (ravelR m.shape.reverse (bIdxR m.shape.reverse (unravelR o.shape.reverse fl))) =
      srcAt pad default o.shape.reverse fl := by
    simp only [srcAt, ← hlay, bIdxR_of_inRange _ _ (unravelR_inRange _ _ hidx), ravelR_unravelR _ _ hidx]
  rw [hpad, hp1] at hm'
  apply mask_off_support m k o ha fl hfl
  simp only [srcAt, List.getD_eq_getElem?_getD, hm']
  rfl

/-! ## the ACS sites of the data pipeline (repaired: `apply_mask`; pinned: `kspace * acs_mask + 0.0`) -/

/-- **as repaired**: the ACS k-space does not depend on any entry outside the ACS mask (±∞ included) … -/
theorem acs_noninterference (m : Tensor Int) (k k' : Tensor FVal) (h : agreeOnSupport m k k') :
    acsKspace m k = acsKspace m k' := mask_noninterference m k k' h

/-- … and is exactly `+0` there -/
theorem acs_off_mask_zero (m : Tensor Int) (k o : Tensor FVal) (h : acsKspace m k = .ok o) (fl : Nat)
    (hfl : fl < prodR o.shape.reverse) (hm : srcAt m default o.shape.reverse fl = 0) :
    o.data[fl]? = some .posZero := mask_off_support_int m k o h fl hfl hm


theorem mulPlusZero_eq (mv : Int) (kv : FVal) :
    mulPlusZero mv kv = ((FVal.mulInt mv kv).map FVal.unsign).getD (.fin 0) := by
  unfold mulPlusZero
  cases FVal.mulInt mv kv with
  | none => rfl
  | some v => rw [Option.bind_some, add_posZero_right]; rfl

/-- for finite k-space values the product form **is** the `where` form (the `+ 0.0` removes the `-0` a product leaves) -/
theorem mul_plus_zero_eq_where_of_finite (mv : Int) (hmv : mv = 0 ∨ mv = 1) (kv : FVal)
    (hf : kv.isFinite = true) : mulPlusZero mv kv = (whereZero mv kv).unsign := by
  rw [mulPlusZero_eq]
  rcases hmv with rfl | rfl
  · -- `0 * kv` is a zero of either sign
    rw [whereZero_of_set (mv := (0 : Int)) rfl]
    cases kv with
    | fin q => show ((some (if q < 0 then FVal.negZero else .posZero)).map FVal.unsign).getD _ = _; split <;> rfl
    | posInf => cases hf
    | negInf => cases hf
    | posZero => rfl
    | negZero => rfl
  · rw [whereZero_of_unset (mv := (1 : Int)) rfl]
    cases kv with
    | fin q => show ((some (FVal.fin (1 * q))).map FVal.unsign).getD _ = _; rw [Int.one_mul]; rfl
    | posInf => cases hf
    | negInf => cases hf
    | posZero => rfl
    | negZero => rfl

/-- **Finding on the pinned tree (repaired in /repo)**: for an infinite entry outside the ACS mask the product form is NaN
(the ill-formed value `fin 0`) where `torch.where(acs_mask == 0, 0, kspace)` gives `+0`: an unsampled value reached the
ACS image, hence the sensitivity map. -/
theorem acs_mul_pinned_violates :
    mulPlusZero 0 .posInf = .fin 0 ∧ mulPlusZero 0 .negInf = .fin 0 ∧ (FVal.fin 0).wf = false ∧
    whereZero (0 : Int) .posInf = .posZero := by decide

/-- on the pinned product form non-interference held only for finite entries -/
theorem acs_pinned_noninterference_partial (m : Tensor Int) (k k' : Tensor FVal) (h : agreeOnSupport m k k')
    (hm : ∀ sR fl, srcAt m default sR fl = 0 ∨ srcAt m default sR fl = 1)
    (hk : ∀ sR fl, (srcAt k .posZero sR fl).isFinite = true ∧ (srcAt k .posZero sR fl).wf = true)
    (hk' : ∀ sR fl, (srcAt k' .posZero sR fl).isFinite = true ∧ (srcAt k' .posZero sR fl).wf = true) :
    acsKspacePinned m k = acsKspacePinned m k' := by
  refine whereWith_congr _ m k k' h.1 fun sR hs fl hfl => ?_
  rw [mul_plus_zero_eq_where_of_finite _ (hm sR fl) _ (hk sR fl).1,
    mul_plus_zero_eq_where_of_finite _ (hm sR fl) _ (hk' sR fl).1,
    whereZero_congr _ _ _ (h.2 sR hs fl hfl)]

def exY : Tensor FVal :=      -- measured k-space, masked with `exM` (rows 0 unsampled)
  { shape := [2, 2, 2], data := [.posZero, .posZero, .fin 3, .fin (-4), .posZero, .posZero, .negZero, .fin 9] }
def exP : Tensor FVal :=      -- a prediction with extreme values at sampled positions
  { shape := [2, 2, 2], data := [.fin 5, .negZero, .posInf, .negInf, .fin (-6), .fin 7, .posInf, .fin 1] }
def exD : Tensor FVal :=
  { shape := [2, 2, 2], data := [.fin 5, .posZero, .fin 3, .fin (-4), .fin (-6), .fin 7, .posZero, .fin 9] }
def exMfull : Tensor Int := { shape := [2, 2, 1], data := [0, 1, 0, 1] }

example : hardDC exMfull exY exP = some exD := by decide +kernel
example : exMfull.data.length = prodR exMfull.shape.reverse := by decide +kernel
example : sslOutput exMfull exY exP none (some { shape := [2, 1, 1], data := [1, 0] }) =
    some { shape := [2, 2, 2], data := [.fin 5, .posZero, .fin 3, .fin (-4), .posZero, .posZero, .posZero, .posZero] } := by
  decide +kernel
example : createMaskShape (some [none, some 4]) [3, 5, 4, 2] = some [5, 4, 2] := by decide +kernel
example : createMaskShape (some [some 5, some 4]) [3, 5, 4, 2] = some [5, 4, 2] := by decide +kernel
example : createMaskShape (some [none, none, none]) [3, 5, 4, 2] = none := by decide +kernel   -- IndexError
def exMf (shp : List Nat) (_ : Option (List Int)) : Tensor FVal :=
  { shape := [shp.getD 0 0, 1, 1], data := [.fin 1, .posZero] }
def exPad : Tensor Int := { shape := [2, 1, 1], data := [1, 0] }
def exZero : Tensor FVal := { shape := [2, 2, 2], data := List.replicate 8 .posZero }
example : pipelineMasked exMf none true [102] (some exPad) exK =
    some (exZero, { shape := [2, 1, 1], data := [.posZero, .posZero] }) := by decide +kernel
def exAcs : Tensor FVal :=    -- `fin 0` = NaN where an infinite entry met a zero mask entry
  { shape := [2, 2, 2], data := [.posZero, .fin 0, .fin 3, .fin (-4), .fin 0, .posZero, .posZero, .fin 9] }
example : acsKspacePinned exM exK = some exAcs := by decide +kernel
example : acsKspace exM exK = .ok exO := by decide +kernel
example : mulPlusZero 1 (.fin (-4)) = (whereZero (1 : Int) (.fin (-4))).unsign := by decide +kernel

/-! ## broadcasting of the documented mask layouts over coil, slice / time frame and complex axis -/

theorem bIdx_of_inRange (shape idx : List Nat) (h : inRange shape idx) : bIdx shape idx = idx := by
  rw [bIdx, bIdxR_of_inRange _ _ h, List.reverse_reverse]

theorem mask_same_shape {μ} [Inhabited μ] [MaskVal μ] (m : Tensor μ) (k o : Tensor FVal)
    (hs : outShapeR m.shape.reverse k.shape.reverse = some k.shape.reverse) (hok : applyMask m k = .ok o)
    (idx : List Nat) (hi : inRange k.shape idx) :
    o.shape = k.shape ∧
    getIdx o .posZero idx = whereZero (getIdx m default (bIdx m.shape idx)) (getIdx k .posZero idx) := by
  have hos : o.shape = k.shape := by
    rw [← List.reverse_reverse o.shape, Option.some.inj ((mask_shape m k o hok).1.symm.trans hs), List.reverse_reverse]
  rw [mask_pointwise_idx m k o hok idx (hos ▸ hi), bIdx_of_inRange k.shape idx hi]
  exact ⟨hos, rfl⟩

/-- 2-D multi-coil data: the same `(h, w)` pattern masks every coil and both complex components -/
theorem mask_canonical_2d {μ} [Inhabited μ] [MaskVal μ] (m : Tensor μ) (k o : Tensor FVal) (c h w : Nat)
    (hm : m.shape = [1, h, w, 1]) (hk : k.shape = [c, h, w, 2]) (hok : applyMask m k = .ok o)
    (ic ih iw ir : Nat) (hc : ic < c) (hh : ih < h) (hw : iw < w) (hr : ir < 2) :
    o.shape = [c, h, w, 2] ∧
    getIdx o .posZero [ic, ih, iw, ir] =
      whereZero (getIdx m default [0, ih, iw, 0]) (getIdx k .posZero [ic, ih, iw, ir]) := by
  have hs : outShapeR m.shape.reverse k.shape.reverse = some k.shape.reverse := by
    rw [hm, hk]
    exact outShapeR_of_bShapeR (bShapeR_cons_of (.inr rfl) (bShapeR_cons_of (.inl rfl) (bShapeR_cons_of (.inl rfl)
      (bShapeR_cons_of (.inr rfl) rfl)))) (List.cons_ne_nil _ _)
  obtain ⟨hos, hv⟩ := mask_same_shape m k o hs hok [ic, ih, iw, ir] (by rw [hk]; exact ⟨hr, hw, hh, hc, trivial⟩)
  rw [hv, hm]
  refine ⟨hos.trans hk, ?_⟩
  show whereZero (getIdx m default (bIdxR [1, w, h, 1] [ir, iw, ih, ic]).reverse) _ = _
  rw [bIdxR_one, bIdxR_cons_of_lt hw, bIdxR_cons_of_lt hh]
  rfl

/-- 3-D / dynamic data `(c, s, h, w, 2)` with a canonical mask `(1, t', h, w, 1)` (`t' = 1`: one pattern for every slice;
`t' = s`: one pattern per slice / time frame) -/
theorem mask_canonical_3d {μ} [Inhabited μ] [MaskVal μ] (m : Tensor μ) (k o : Tensor FVal) (c s h w t' : Nat)
    (ht : t' = 1 ∨ t' = s) (hm : m.shape = [1, t', h, w, 1]) (hk : k.shape = [c, s, h, w, 2])
    (hok : applyMask m k = .ok o) (ic is ih iw ir : Nat) (hc : ic < c) (hs : is < s) (hh : ih < h) (hw : iw < w)
    (hr : ir < 2) :
    o.shape = [c, s, h, w, 2] ∧
    getIdx o .posZero [ic, is, ih, iw, ir] =
      whereZero (getIdx m default [0, if t' = 1 then 0 else is, ih, iw, 0]) (getIdx k .posZero [ic, is, ih, iw, ir]) := by
  have hs' : outShapeR m.shape.reverse k.shape.reverse = some k.shape.reverse := by
    rw [hm, hk]
    exact outShapeR_of_bShapeR (bShapeR_cons_of (.inr rfl) (bShapeR_cons_of (.inl rfl) (bShapeR_cons_of (.inl rfl)
      (bShapeR_cons_of ht.symm (bShapeR_cons_of (.inr rfl) rfl))))) (List.cons_ne_nil _ _)
  obtain ⟨hos, hv⟩ := mask_same_shape m k o hs' hok [ic, is, ih, iw, ir]
    (by rw [hk]; exact ⟨hr, hw, hh, hs, hc, trivial⟩)
  rw [hv, hm]
  refine ⟨hos.trans hk, ?_⟩
  show whereZero (getIdx m default (bIdxR [1, w, h, t', 1] [ir, iw, ih, is, ic]).reverse) _ = _
  rw [bIdxR_one, bIdxR_cons_of_lt hw, bIdxR_cons_of_lt hh]
  rfl

example : applyMask ({ shape := [1, 2, 1, 1, 1], data := [0, 1] } : Tensor Int)
    { shape := [1, 2, 1, 1, 2], data := [.fin 1, .fin 2, .fin 3, .negZero] } =
    .ok { shape := [1, 2, 1, 1, 2], data := [.posZero, .posZero, .fin 3, .negZero] } := by decide +kernel

/-! ## why no state may survive a call -/

theorem memo_transparent {A K R} [DecidableEq K] (key : A → K) (f : A → R)
    (hkey : ∀ a b, key a = key b → f a = f b) (s : Memo A K R)
    (hs : ∀ k r, s.slot = some (k, r) → ∀ a, key a = k → f a = r) (as : List A) :
    Memo.run key f s as = as.map f := by
  induction as generalizing s with
  | nil => rfl
  | cons a as ih =>
    -- a freshly written slot holds `(key a, f a)`, correct for every argument with that key
    have fresh : Memo.run key f ⟨some (key a, f a)⟩ as = as.map f :=
      ih _ fun k r h b hb => by cases h; exact hkey _ _ hb
    unfold Memo.run Memo.call
    cases hslot : s.slot with
    | none => exact congrArg (f a :: ·) fresh
    | some kr =>
      obtain ⟨k, r⟩ := kr
      by_cases hk : k = key a
      · simp only [hk, if_true, List.map_cons, List.cons.injEq]
        exact ⟨(hs k r hslot a hk.symm).symm, ih s hs⟩
      · simp only [hk, if_false, List.map_cons, List.cons.injEq, true_and]
        exact fresh

/-- **a complete key is harmless**: every call history returns what the stateless operator returns -/
theorem memo_complete_key_transparent {A K R} [DecidableEq K] (key : A → K) (f : A → R)
    (hkey : ∀ a b, key a = key b → f a = f b) (as : List A) :
    Memo.run key f ⟨none⟩ as = as.map f :=
  memo_transparent key f hkey ⟨none⟩ (by intro k r h; cases h) as

/-- **an incomplete key leaks**: memoising `apply_mask` under the k-space alone, the second call with another mask
returns the first call's support — an unsampled value of the current mask reaches the output -/
theorem memo_kspace_only_key_violates :
    Memo.run (fun (a : Tensor Int × Tensor FVal) => a.2) (fun a => applyMask a.1 a.2) ⟨none⟩ [(exM, exK), (exM2, exK)] =
      [.ok exO, .ok exO] ∧ applyMask exM2 exK ≠ .ok exO := by decide


/-- the history the driver executes is the stateless map -/
theorem mask_history_stateless (calls : List (Tensor Int × Tensor FVal)) :
    maskHistory calls = calls.map fun a => applyMask a.1 a.2 :=
  memo_complete_key_transparent (fun a => a) _ (by intro a b h; rw [h]) calls

end DirectVerif.C03
