import DirectVerif.Lemmas.C08Hom
/-!
# C08 — soundness of the degree rules

`evalOp_hom`: every primitive is homogeneous of the degree `opDeg` claims, for every `c > 0`; `exec_sound`: the static
environment computed by `typeProgram` says how the run on the scaled input relates to the run on the original one.
-/
set_option linter.unusedSectionVars false
namespace DirectVerif.Pipeline
variable {K : Type} [Field K] [LinearOrder K] [IsStrictOrderedRing K]

/-- the assumption about the external operators (FFT-based crop / pad / rescale, backward operator, rotations, flips,
coil compression, Gaussian weighting); proved in `Lemmas/C08Ext.lean` for linear externals and for the driver's -/
structure ExtHom (X : Ext K) : Prop where
  lin : ∀ (l : Lin) (m : Meta) (q : K) (v : Val K), 0 < q → X.lin l m (scaleV q v) = scaleV q (X.lin l m v)
  crop : ∀ (c : Bool) (sd : Option (List Nat)) (q : K) (v : Val K), 0 < q →
    X.crop c sd (scaleV q v) = scaleV q (X.crop c sd v)

variable (sqrt : K → K)
local notation "S" => fieldOps sqrt

section ops
variable {sqrt}
variable (hs : SqrtHom sqrt) {X : Ext K} (hX : ExtHom X) (c : K) (hc : 0 < c) (m : Meta)
include hs hX hc

omit hs hX hc in
theorem applyMask_hom (mk x : Val K) (q : K) :
    evalOp S X m .applyMask [mk, scaleV q x] = scaleV q (evalOp S X m .applyMask [mk, x]) := by
  simp only [evalOp, scaleV, Val.map]
  exact congrArg _ (mapIdx_scale (fun i a => by simp only [fo_zero, mul_ite, mul_zero]; rfl) _)

omit hs hX hc in
theorem applyPadding_hom (p x : Val K) (q : K) :
    evalOp S X m .applyPadding [p, scaleV q x] = scaleV q (evalOp S X m .applyPadding [p, x]) := by
  simp only [evalOp, scaleV, Val.map]
  exact congrArg _ (mapIdx_scale (fun i a => by simp only [fo_zero, mul_ite, mul_zero]; rfl) _)

omit hs hX hc in
theorem safeDiv_hom (y x : Val K) (p q : K) (hp : 0 < p) :
    evalOp S X m .safeDiv [scaleV p y, scaleV q x] = scaleV (q / p) (evalOp S X m .safeDiv [y, x]) := by
  simp only [evalOp, scaleV, Val.map, Val.stride, bget_scale]
  refine congrArg _ (mapIdx_scale (fun i a => ?_) _)
  simp only [fo_isZero, fo_zero, fo_div, mul_eq_zero, hp.ne', false_or, decide_eq_true_eq, mul_ite, mul_zero]
  exact congrArg _ (mul_div_mul_comm _ _ _ _)

omit hs hX hc in
theorem divUnsafe_hom (y x : Val K) (p q : K) :
    evalOp S X m .divUnsafe [scaleV p y, scaleV q x] = scaleV (q / p) (evalOp S X m .divUnsafe [y, x]) := by
  simp only [evalOp, scaleV, Val.map, Val.stride, bget_scale]
  refine congrArg _ (mapIdx_scale (fun i a => ?_) _)
  exact mul_div_mul_comm _ _ _ _

omit hs hX hc in
theorem threshold_hom (p : ThrPred) (hp : p.homogeneous = true) (x : Val K) (q : K) (hq : 0 < q) :
    evalOp S X m (.threshold p) [scaleV q x] = evalOp S X m (.threshold p) [x] := by
  simp only [evalOp, scaleV, Val.map, List.map_map, List.length_map, sumList_scale, fo_div, fo_ofNat]
  congr 1
  apply List.map_congr_left
  intro a _
  simp only [Function.comp]
  rw [mul_div_assoc, evalThr_scale sqrt X.eps q hq p hp]

omit hX hc in
theorem rss_hom (x : Val K) (q : K) (hq : 0 < q) :
    evalOp S X m .rss [scaleV q x] = scaleV q (evalOp S X m .rss [x]) := by
  obtain ⟨nc, ns, cplx, data⟩ := x
  simp only [evalOp, scaleV, Val.map]
  congr 1
  cases cplx
  · simp only [Bool.false_eq_true, if_false, List.map_map]
    have : (List.map ((fun a => (fieldOps sqrt).mul a a) ∘ fun x => q * x) data)
        = (data.map fun a => (fieldOps sqrt).mul a a).map (q * q * ·) := by
      simp only [List.map_map]; apply List.map_congr_left; intro a _; simp; ring
    rw [this, sumBlocks_scale, List.map_map]
    apply List.map_congr_left; intro a _; simp [hs q hq]
  · simp only [if_true, sqAbs_scale, sumBlocks_scale, List.map_map]
    apply List.map_congr_left; intro a _; simp [hs q hq]

omit hs hX hc in
theorem padCoils_hom (x : Val K) (q : K) :
    evalOp S X m .padCoils [scaleV q x] = scaleV q (evalOp S X m .padCoils [x]) := by
  simp only [evalOp, scaleV, Val.map, List.length_map]
  split
  · rfl
  · simp

omit hs hX hc in
theorem opDeg_arity {op : Op} {ds : List Int} {d : Int} {vs : List (Val K)} (hlen : ds.length = vs.length)
    (h : opDeg op ds = .ok d) : (∃ x v, ds = [x] ∧ vs = [v]) ∨ (∃ x y v w, ds = [x, y] ∧ vs = [v, w]) := by
  rcases ds with _ | ⟨x, _ | ⟨y, _ | ⟨z, t⟩⟩⟩
  · cases op <;> cases h
  · rcases vs with _ | ⟨v, _ | ⟨w, t⟩⟩
    · cases hlen
    · exact Or.inl ⟨x, v, rfl, rfl⟩
    · cases hlen
  · rcases vs with _ | ⟨v, _ | ⟨w, _ | ⟨u, t⟩⟩⟩
    · cases hlen
    · cases hlen
    · exact Or.inr ⟨x, y, v, w, rfl, rfl⟩
    · cases hlen
  · cases op <;> cases h

theorem evalOp_hom (op : Op) (ds : List Int) (vs : List (Val K)) (d : Int)
    (hlen : ds.length = vs.length) (h : opDeg op ds = .ok d) :
    evalOp S X m op (List.zipWith (fun d v => scaleV (c ^ d) v) ds vs) = scaleV (c ^ d) (evalOp S X m op vs) := by
  have pos : ∀ z : Int, 0 < c ^ z := fun z => zpow_pos hc z
  -- `cases h` reads the degree off the rule, or refutes `h` when the rule rejects the arity
  rcases opDeg_arity hlen h with ⟨x, v, rfl, rfl⟩ | ⟨y, x, vy, vx, rfl, rfl⟩
  · cases op with
    | lin l =>
      cases h
      cases l <;> first | exact hX.lin _ m _ v (pos _) | exact hX.crop _ _ _ v (pos _)
    | sumSlices =>
      cases h
      simp only [List.zipWith, evalOp, scaleV, Val.map, sumBlocks_scale]
    | copy =>
      cases h
      rfl
    | threshold p =>
      simp only [opDeg] at h
      split at h
      · rename_i hp
        cases h
        simp only [List.zipWith, zpow_zero, scaleV_one]
        exact threshold_hom m p hp v _ (pos _)
      · cases h
    | extMask src seed fc =>
      cases h
      simp only [List.zipWith, zpow_zero, scaleV_one]
      simp only [evalOp, scaleV, Val.map, List.length_map]
    | rss =>
      cases h
      exact rss_hom hs m v _ (pos _)
    | unitMap =>
      cases h
      simp only [List.zipWith, zpow_zero, scaleV_one]
      simp only [evalOp, scaleV, Val.map, mapIdx, mapIdxAux_map]
    | kthModulus =>
      cases h
      simp only [List.zipWith, evalOp, scaleV, Val.map, List.length_map, nonzeroCoils_scale sqrt _ (pos d),
        modulusL_scale sqrt hs _ (pos d), sortDesc_scale sqrt _ (pos d), List.map_cons, List.map_nil, fo_zero,
        getD_map _ _ (mul_zero (c ^ d))]
    | maxModulus =>
      cases h
      simp only [List.zipWith, evalOp, scaleV, Val.map, modulusL_scale sqrt hs _ (pos d), maxL_scale sqrt _ (pos d),
        List.map_cons, List.map_nil]
    | constOne =>
      cases h
      simp only [List.zipWith, zpow_zero, scaleV_one, evalOp]
    | sumCoils =>
      cases h
      simp only [List.zipWith, evalOp, scaleV, Val.map, sumBlocks_scale]
    | modulus =>
      cases h
      simp only [List.zipWith, evalOp, scaleV, Val.map, modulusL_scale sqrt hs _ (pos d)]
    | padCoils =>
      cases h
      exact padCoils_hom m v _
    | split inp ty seed =>
      simp only [opDeg] at h
      split at h
      · rename_i ha
        cases h
        subst ha
        simp only [List.zipWith, zpow_zero, scaleV_one]
      · cases h
    | _ => cases h
  · cases op with
    | applyMask =>
      simp only [opDeg] at h
      split at h
      · rename_i ha
        cases h
        subst ha
        simp only [List.zipWith, zpow_zero, scaleV_one]
        exact applyMask_hom m vy vx _
      · cases h
    | applyPadding =>
      simp only [opDeg] at h
      split at h
      · rename_i ha
        cases h
        subst ha
        simp only [List.zipWith, zpow_zero, scaleV_one]
        exact applyPadding_hom m vy vx _
      · cases h
    | divUnsafe =>
      cases h
      simp only [List.zipWith, zpow_sub₀ hc.ne']
      exact divUnsafe_hom m vy vx _ _
    | safeDiv =>
      cases h
      simp only [List.zipWith, zpow_sub₀ hc.ne']
      exact safeDiv_hom m vy vx _ _ (pos _)
    | senseCombine =>
      cases h
      simp only [List.zipWith, zpow_add₀ hc.ne', evalOp, scaleV, Val.map, conjMul_scale, sumBlocks_scale]
    | split inp ty seed =>
      simp only [opDeg] at h
      split at h
      · rename_i hab
        cases h
        simp only [Bool.and_eq_true, decide_eq_true_eq] at hab
        obtain ⟨ha, hb⟩ := hab
        subst ha
        subst hb
        simp only [List.zipWith, zpow_zero, scaleV_one]
      · cases h
    | _ => cases h

end ops

theorem mapIdxAux_comp (f g : Nat → K → K) (n : Nat) (xs : List K) :
    mapIdxAux f n (mapIdxAux g n xs) = mapIdxAux (fun i a => f i (g i a)) n xs := by
  induction xs generalizing n with
  | nil => rfl
  | cons a t ih => simp [mapIdxAux, ih]

/-- `where(m, 0, x) / s = where(m, 0, x / s)` -/
theorem safeDiv_applyMask_comm (X : Ext K) (m : Meta) (sf mk k : Val K) :
    evalOp S X m .safeDiv [sf, evalOp S X m .applyMask [mk, k]]
      = evalOp S X m .applyMask [mk, evalOp S X m .safeDiv [sf, k]] := by
  obtain ⟨nc, ns, cplx, data⟩ := k
  cases cplx <;>
  · simp only [evalOp, mapIdx, mapIdxAux_comp, Val.stride, Bool.false_eq_true, ↓reduceIte]
    congr 1
    apply mapIdxAux_congr
    intro i a
    simp only [fo_isZero, fo_zero, fo_div, decide_eq_true_eq]
    split <;> split <;> simp

/-- with `zeroSqrt_hom`: the hypotheses `ExtHom` / `SqrtHom` are satisfiable in every field -/
def idExt : Ext K where
  lin := fun _ _ v => v
  crop := fun _ _ v => v
  mask := fun _ _ _ _ _ len => List.replicate (len / 2) true
  split := fun input _ _ ms => (ms.headD []).map fun b => b && input
  eps := 0
  kOf := fun _ => 1
  padCoilsTo := 0
  espirit := fun v => v

theorem idExt_hom : ExtHom (idExt (K := K)) := ⟨fun _ _ _ _ _ => rfl, fun _ _ _ _ _ => rfl⟩
theorem zeroSqrt_hom : SqrtHom (K := K) (fun _ => 0) := fun _ _ _ => by simp

/-- a key that `e` does not know is *dropped*: the lemmas about `scaleS` need `Agree e s` -/
def scaleS (c : K) (e : TEnv) (s : Store K) : Store K := fun k =>
  match e k, s k with
  | some d, some v => some (scaleV (c ^ d) v)
  | _, _ => none

def Agree (e : TEnv) (s : Store K) : Prop := ∀ k, (e k).isSome = (s k).isSome

theorem scaleS_isSome (c : K) (e : TEnv) (s : Store K) (h : Agree e s) (k : Key) :
    (scaleS c e s k).isSome = (s k).isSome := by
  have := h k
  unfold scaleS
  cases he : e k <;> cases hs : s k <;> simp_all

theorem scaleS_degIs {c : K} {e : TEnv} {s : Store K} (h : Agree e s) {k : Key} {d : Int} (hk : degIs e k d = true) :
    ∃ v, s k = some v ∧ scaleS c e s k = some (scaleV (c ^ d) v) := by
  have := h k
  unfold degIs at hk
  unfold scaleS
  cases he : e k <;> cases hs : s k <;> simp_all

theorem scaleS_degIsOrAbsent {c : K} {e : TEnv} {s : Store K} (h : Agree e s) {k : Key}
    (hk : degIsOrAbsent e k 0 = true) : scaleS c e s k = s k := by
  have := h k
  unfold degIsOrAbsent at hk
  unfold scaleS
  cases he : e k <;> cases hs : s k <;> simp_all

theorem scaleS_set (c : K) (e : TEnv) (s : Store K) (k : Key) (d : Int) (v : Val K) :
    scaleS c (e.set k (some d)) (s.set k (some v)) = (scaleS c e s).set k (some (scaleV (c ^ d) v)) := by
  funext k'
  unfold scaleS AEnv.set Store.set
  by_cases hk : k' = k <;> simp [hk]

theorem scaleS_set_none (c : K) (e : TEnv) (s : Store K) (k : Key) :
    scaleS c (e.set k none) (s.set k none) = (scaleS c e s).set k none := by
  funext k'
  unfold scaleS AEnv.set Store.set
  by_cases hk : k' = k <;> simp [hk]

theorem Agree.set {e : TEnv} {s : Store K} (h : Agree e s) (k : Key) (d : Int) (v : Val K) :
    Agree (e.set k (some d)) (s.set k (some v)) := by
  intro k'; unfold AEnv.set Store.set; by_cases hk : k' = k <;> simp [hk, h k']

theorem Agree.set_none {e : TEnv} {s : Store K} (h : Agree e s) (k : Key) :
    Agree (e.set k none) (s.set k none) := by
  intro k'; unfold AEnv.set Store.set; by_cases hk : k' = k <;> simp [hk, h k']

theorem guards_agree {e : TEnv} {s : Store K} (h : Agree e s) (gs : List Key) :
    gs.all (fun g => (s g).isSome) = gs.all (fun g => (e g).isSome) := by
  induction gs with
  | nil => rfl
  | cons g t ih => simp [List.all_cons, ih, h g]

theorem getAll_sound (c : K) {e : TEnv} {s : Store K} (h : Agree e s) (args : List Key) (ts : List Int)
    (ht : getAllA e args = .ok ts) :
    ∃ vs, getAll s args = .ok vs ∧ ts.length = vs.length ∧
      getAll (scaleS c e s) args = .ok (List.zipWith (fun d v => scaleV (c ^ d) v) ts vs) := by
  induction args generalizing ts with
  | nil => simp only [getAllA, Except.ok.injEq] at ht; subst ht; exact ⟨[], rfl, rfl, rfl⟩
  | cons k ks ih =>
    simp only [getAllA] at ht
    cases hek : e k with
    | none => simp [hek] at ht
    | some d =>
      simp only [hek] at ht
      cases hrest : getAllA e ks with
      | error er => simp [hrest] at ht
      | ok ts' =>
        simp only [hrest, Except.ok.injEq] at ht; subst ht
        obtain ⟨vs, h1, h2, h3⟩ := ih ts' hrest
        have hk := h k
        cases hsk : s k with
        | none => simp [hek, hsk] at hk
        | some v =>
          refine ⟨v :: vs, ?_, ?_, ?_⟩
          · simp [getAll, hsk, h1]
          · simp [h2]
          · simp [getAll, scaleS, hek, hsk, h3]

section exec
variable {sqrt}
variable (hs : SqrtHom sqrt) {X : Ext K} (hX : ExtHom X) (c : K) (hc : 0 < c) (m : Meta)
include hs hX hc

/-- a well-typed instruction never fails -/
theorem execInstr_sound (i : Instr) (e e' : TEnv) (s : Store K) (h : Agree e s)
    (ht : typeInstr i e = .ok e') :
    ∃ s', execInstr S X m i s = .ok s' ∧ Agree e' s' ∧
      execInstr S X m i (scaleS c e s) = .ok (scaleS c e' s') := by
  cases i with
  | assign gs dst op args =>
    simp only [typeInstr, absInstr] at ht
    simp only [execInstr]
    have hg1 := guards_agree h gs
    have hg2 : gs.all (fun g => (scaleS c e s g).isSome) = gs.all (fun g => (e g).isSome) := by
      rw [← hg1]; congr 1; funext g; exact scaleS_isSome c e s h g
    rw [hg1, hg2]
    by_cases hgs : gs.all (fun g => (e g).isSome) = true
    · simp only [hgs, if_true] at ht ⊢
      cases hta : getAllA e args with
      | error er => simp [hta] at ht
      | ok ts =>
        simp only [hta] at ht
        cases hop : opDeg op ts with
        | error er => simp [hop] at ht
        | ok d =>
          simp only [hop, Except.ok.injEq] at ht; subst ht
          obtain ⟨vs, h1, h2, h3⟩ := getAll_sound c h args ts hta
          refine ⟨s.set dst (some (evalOp S X m op vs)), ?_, h.set dst d _, ?_⟩
          · simp [h1]
          · simp only [h3, evalOp_hom hs hX c hc m op ts vs d h2 hop, scaleS_set]
    · simp only [hgs, if_false, Bool.false_eq_true] at ht ⊢
      simp only [Except.ok.injEq] at ht; subst ht
      exact ⟨s, rfl, h, rfl⟩
  | delete k =>
    simp only [typeInstr, absInstr, Except.ok.injEq] at ht; subst ht
    exact ⟨s.set k none, rfl, h.set_none k, by simp [execInstr, scaleS_set_none]⟩
  | move src dst =>
    simp only [typeInstr, absInstr] at ht
    have hk := h src
    cases he : e src with
    | none =>
      simp only [he, Except.ok.injEq] at ht; subst ht
      cases hsk : s src with
      | some v => simp [he, hsk] at hk
      | none =>
        refine ⟨s, by simp [execInstr, hsk], h, ?_⟩
        simp [execInstr, scaleS, he, hsk]
    | some d =>
      simp only [he, Except.ok.injEq] at ht; subst ht
      cases hsk : s src with
      | none => simp [he, hsk] at hk
      | some v =>
        refine ⟨(s.set src none).set dst (some v), by simp [execInstr, hsk], (h.set_none src).set dst d v, ?_⟩
        have : scaleS c e s src = some (scaleV (c ^ d) v) := by simp [scaleS, he, hsk]
        simp only [execInstr, this, scaleS_set, scaleS_set_none]
  | require k =>
    simp only [typeInstr, absInstr] at ht
    have hk := h k
    by_cases hek : (e k).isSome = true
    · simp only [hek, if_true, Except.ok.injEq] at ht; subst ht
      refine ⟨s, ?_, h, ?_⟩
      · simp [execInstr, ← hk, hek]
      · simp [execInstr, scaleS_isSome c e s h k, ← hk, hek]
    · simp [hek] at ht

theorem exec_sound (p : List Instr) (e e' : TEnv) (s : Store K) (h : Agree e s)
    (ht : typeProgram p e = .ok e') :
    ∃ s', exec S X m p s = .ok s' ∧ Agree e' s' ∧ exec S X m p (scaleS c e s) = .ok (scaleS c e' s') := by
  induction p generalizing e s with
  | nil =>
    simp only [typeProgram, absProgram, Except.ok.injEq] at ht; subst ht
    exact ⟨s, rfl, h, rfl⟩
  | cons i is ih =>
    simp only [typeProgram, absProgram] at ht
    cases hi : absInstr opDeg i e with
    | error er => simp [hi] at ht
    | ok e1 =>
      simp only [hi] at ht
      obtain ⟨s1, a1, a2, a3⟩ := execInstr_sound hs hX c hc m i e e1 s h hi
      obtain ⟨s2, b1, b2, b3⟩ := ih e1 s1 a2 ht
      exact ⟨s2, by simp [exec, a1, b1], b2, by simp [exec, a3, b3]⟩

end exec
end DirectVerif.Pipeline
