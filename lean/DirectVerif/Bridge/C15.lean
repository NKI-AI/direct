import DirectVerif.Gen.C15
import DirectVerif.Lemmas.Basic
/-!
# Bridge C15 — what the translator read in `/repo` against the model

Translated functions (labels, guards, schedules, milestones) and the tables `latestAliases`, `initTable`, `valTail` are
proved equal to the model's.  For the statement table of `save`, its unwinding annotations, the `try` region, the API facts
and the checkpointed objects only the decidable well-formedness predicate is evaluated — the one the theorems of
`Props/C15*.lean` quantify over — so a harmless reordering of `save` is accepted.  Nothing here says that `Ckpt.saveTable`
(on which `saveOps` rests) is the table read from /repo; that tie is left to the correspondence run against the
system-call trace of a real `save`.
-/
namespace DirectVerif.Bridge.C15
open DirectVerif DirectVerif.Ckpt DirectVerif.Train DirectVerif.Gen.C15

/-- the statement table of `Checkpointer.save` read from /repo is **well formed**: every final name is only ever the
target of a replace from its completely written, closed temporary; `last_model.txt` is replaced after `model_<it>.pt`;
older checkpoints are deleted, if at all, only after the pointer moved -/
theorem save_table_wf : wfSaveX saveStmts = true := by decide

theorem save_table_core_wf : wfSave (saveStmts.filter (· != .prune)) = true := by decide

theorem save_table_wf_struct : wfSaveStruct (saveStmts.filter (· != .prune)) = true := by decide

/-- `start_iter = checkpoint["iteration"] + 1` -/
theorem start_iter_eq (label : Int) : start_iter label = resumeStart label := by
  simp only [start_iter, resumeStart]

/-- the kill path saves under `iter_idx - 1` … -/
theorem kill_label_eq (it : Int) : kill_label it = killLabel it := by
  simp only [kill_label, killLabel]

/-- … only when `iter_idx >= 5` -/
theorem kill_guard_eq (it : Int) : kill_guard it = killGuard it := by
  simp only [kill_guard, killGuard]

/-- the periodic checkpoint after iteration `i` is labelled `i` -/
theorem ckpt_label_eq (it : Int) : ckpt_label it = it := by
  simp only [ckpt_label]

/-! the guards are written with `Int.fmod` and comparisons on the casts of naturals; the model with `%` and comparisons on
the naturals -/

theorem ge_five_cast (it : Nat) : decide ((it : Int) ≥ 5) = decide (it ≥ 5) := decide_eq_decide.mpr (by omega)

theorem guard_core (it c total : Nat) :
    (decide ((it : Int) ≥ 5) && (Int.fmod (it : Int) (c : Int) == 0 || (it : Int) + 1 == (total : Int)))
      = (decide (it ≥ 5) && (it % c == 0 || it + 1 == total)) := by
  rw [ge_five_cast, fmod_beq_zero, ← Int.natCast_succ, natCast_beq]

/-- `iter_idx >= 5 and (iter_idx % checkpoint_steps == 0 or iter_idx + 1 == total_iter)` -/
theorem ckpt_guard_eq (it ck total : Nat) : ckpt_guard (it : Int) (ck : Int) (total : Int) = ckptGuard it ck total := by
  simp only [ckpt_guard, ckptGuard]
  exact guard_core it ck total

/-- `_get_warmup_factor_at_iter` -/
theorem warmup_factor_at_eq (m : Sched.Warmup) (cur w : Int) (wf : Rat) :
    warmup_factor_at m cur w wf = Sched.warmupFactorAt m cur w wf := by
  cases m <;> simp [warmup_factor_at, Sched.warmupFactorAt]

/-- `WarmupMultiStepLR.get_lr` -/
theorem multistep_lr_eq (c : Sched.MultiStep) (e : Int) :
    c.lr e = (warmup_factor_at c.method e c.warmupIters c.wf).map
      fun w => multistep_lr c.base w c.gamma c.milestones e := by
  simp only [Sched.MultiStep.lr, warmup_factor_at_eq, multistep_lr]

/-- `WarmupCosineLR.get_lr` -/
theorem cosine_lr_eq (cosPi : Int → Int → Rat) (c : Sched.Cosine) (e : Int) :
    c.lr cosPi e = (warmup_factor_at c.method e c.warmupIters c.wf).map
      fun w => cosine_lr cosPi c.base w c.maxIters e := by
  simp only [Sched.Cosine.lr, warmup_factor_at_eq, cosine_lr]

/-! ### the code around the core (`Model/C15Engine.lean`) -/

/-- `if iteration in ("latest", -1)`: the aliases of "the latest checkpoint" (`-1` is the default of `Engine.predict`) -/
theorem latest_aliases_eq : Gen.C15.latestAliases = C15E.latestAliases := by decide

/-- the `if start_iter > 0 and initialization … elif initialization …` chain of `Engine.train` is well formed and is
the chain the model executes -/
theorem init_table_wf : C15E.wfInit Gen.C15.initTable = true := by decide

theorem init_table_eq : Gen.C15.initTable = C15E.initTable := by decide

/-- `validation_loop` ends with `self.models_training_mode()` -/
theorem val_tail_eq : Gen.C15.valTail = C15E.valTail := by decide

/-- constructor unwraps `model` and every `*model` key, `save` is guarded by `save_to_disk`, `Engine.train` writes on the
main process only, `Engine.predict` never writes, no directory listing in the load path, missing keys raise,
`load_models_from_file` passes `only_models=True`, `Engine.train` loads 'latest' only under `if resume:`, the trainer
checkpoints model / optimizer / lr_scheduler / scaler -/
theorem api_facts_wf : C15E.wfApi Gen.C15.apiFacts = true := by decide +kernel

/-- `validate_model_at_interval` -/
theorem val_guard_eq (it vs total : Nat) : val_guard (it : Int) (vs : Int) (total : Int) = C15E.valGuard it vs total := by
  simp only [val_guard, C15E.valGuard]
  exact guard_core it vs total

/-- `write_to_logs_at_interval` -/
theorem log_guard_eq (it vs total : Nat) : log_guard (it : Int) (vs : Int) (total : Int) = C15E.logGuard it vs total := by
  simp only [log_guard, C15E.logGuard]
  rw [ge_five_cast, fmod_beq_zero it vs, ← Int.natCast_succ, natCast_beq, show (Int.fmod (it : Int) 20 == 0) = (it % 20 == 0) from
    fmod_beq_zero it 20]

/-- `list(range(lr_step_size, num_iterations, lr_step_size))` in `direct/train.py` -/
theorem solver_steps_eq (step total : Int) : solver_steps step total = C15E.solverSteps step total := rfl

/-- **every object the real engine hands to its Checkpointer passes the `HasStateDict` filter of `save`** (or is `__meta__`):
nothing of the training state is silently left out of a checkpoint — the gradient scaler the engine constructs itself
included (`Props/C15.lean : full_load_restores_every_object` needs exactly this of every key) -/
theorem train_objects_all_kept : C15E.wfTrainObjects Gen.C15.trainObjects = true := by decide +kernel

/-- the `with` / `try … finally` structure of `save`: **while an exception unwinds only files are closed** (no rename of a
temporary on the exceptional path), and the annotated table is the table (`Props/C15Engine.lean : exception_safe`) -/
theorem save_unwind_wf : wfUnwind Gen.C15.saveStmtsX = true ∧ Gen.C15.saveStmtsX.map (·.stmt) = saveStmts := by decide

/-- of the statements of the loop body **only `_do_iteration` is inside the `try` that routes to the kill path** (which
labels its checkpoint `iter_idx − 1`): nothing that mutates parameters / optimiser / scheduler / scaler
(`Props/C15Engine.lean : kill_path_after_step_violates`) -/
theorem kill_path_try_wf : C15E.wfTry Gen.C15.tryEvents = true := by decide

end DirectVerif.Bridge.C15
