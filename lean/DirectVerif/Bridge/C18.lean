import DirectVerif.Gen.C18
import DirectVerif.Props.C18
/-!
The tables extracted from `/repo` (`Gen/C18.lean`) satisfy the decidable predicates that the theorems of `Props/C18.lean`
take as hypotheses.  The one exception is the known finding: the stopping test of `ConjGrad.cg` averages over the batch.
-/
namespace DirectVerif.Bridge.C18
open DirectVerif DirectVerif.BatchSep DirectVerif.Gen.C18

/-- the anchored normalisation code and the coil reductions: hypothesis of `C18.norm_separable` -/
theorem reductions_wf : Table.wf reductions = true := by decide +kernel

/-- no nn.Module method of the zoo (constructors aside) assigns to `self.*`: hypothesis `ro` of
`C18.no_hidden_state_across_calls` -/
theorem forward_writes_none : Writes.none forwardWrites = true := by decide +kernel

/-- a reduction over all axes is either the warning-only one (`RIM.forward`) or the finding -/
theorem global_reductions_accounted :
    globalReductions.all (fun e => allowedGlobal.contains e || pendingGlobal.contains e) = true := by decide +kernel

/-- the finding: the batch-mean stopping test is present in the tree -/
theorem conjgrad_stop_current_violates : globalReductions.contains ("ConjGrad.cg", "mean") = true := by decide +kernel

/-- every reduction on a forward / reconstruction path of direct/nn names explicit axes none of which is the batch axis,
or is a justified exception (`allowedRows`), or is the finding -/
theorem all_reductions_accounted : allReductions.all Row.accounted = true := by decide +kernel

theorem all_reductions_nonvacuous :
    allReductions.contains ⟨"NormUnetModel2d.norm", "std", 0, [-1]⟩ = true ∧
      allReductions.contains ⟨"Unet2d.forward", "sum", 0, [1]⟩ = true ∧
      allReductions.contains ⟨"ConjGrad.cg", "mean", 1, []⟩ = true := by decide +kernel

/-- every `view(-1, …)` / `reshape(-1, …)` is the per-sample broadcast idiom `(-1, 1, …, 1)`; no `flatten` merges the batch -/
theorem reshapes_keep_batch : reshapeRows.all (fun r => r.2.2 == 1) = true := by decide

/-- coil order: integer index at the coil position, `select(coil, const)`, sort / argmax / flip / cumsum … -/
theorem no_seed_no_random_no_coil_order :
    seedCalls = [] ∧ randomCalls.all (fun r => r.2.2 == 1) = true ∧ coilOrderOps = [] := by decide

def cgIndex : Nat := primTable.findIdx fun f => f.name == "ConjGrad.cg"

/-- the function table is judged once; the statements about the table and the zoo models below are consequences
(`C18.table_all_of_ok_except`, `C18.modelRow_ok_or_contains`) -/
theorem prim_table_ok_except_index : (primTable.zipIdx.all fun fi => fi.1.ok || fi.2 == cgIndex) = true := by
  decide +kernel

/-- every batched primitive of every forward / reconstruction path is per-sample, and every `batch * coil` fold is
un-folded in the same function — or it is the finding -/
theorem prim_table_accounted : primTable.all FuncRow.accounted = true :=
  C18.table_all_of_ok_except FuncRow.accounted (fun _ => C18.funcRow_accounted_of_ok) primTable cgIndex
    prim_table_ok_except_index (by decide +kernel)

theorem prim_table_ok_except_cg : primTable.all (fun f => f.ok || f.name == "ConjGrad.cg") = true :=
  C18.table_all_of_ok_except _ (fun f h => by rw [h, Bool.true_or]) primTable cgIndex
    prim_table_ok_except_index (by decide +kernel)

theorem conjgrad_stop_prim_current_violates :
    (primTable.any fun f => f.prims.any fun p => !p.ok && p.op == "mean" && p.fn == "ConjGrad.cg") = true := by decide +kernel

/-- every model executes something (all indices inside `primTable`), and some model runs `ConjGrad.cg` -/
theorem zoo_models_nonvacuous :
    (modelFuncs.all fun m => !m.2.isEmpty && m.2.all (· < primTable.length)) = true ∧
      (modelFuncs.isEmpty || modelFuncs.any fun m => m.2.contains cgIndex) = true := by decide +kernel

theorem zoo_indices_in_range {m : ModelRow} (hm : m ∈ modelFuncs) : (m.2.all (· < primTable.length)) = true :=
  (Bool.and_eq_true_iff.mp (List.all_eq_true.mp zoo_models_nonvacuous.1 m hm)).2

theorem zoo_models_ok_except_cg : modelFuncs.all (fun m => m.ok primTable || m.2.contains cgIndex) = true :=
  List.all_eq_true.mpr fun m hm =>
    C18.modelRow_ok_or_contains primTable cgIndex m prim_table_ok_except_index (zoo_indices_in_range hm)

theorem zoo_models_accounted : modelFuncs.all (ModelRow.accounted primTable) = true :=
  List.all_eq_true.mpr fun m hm =>
    C18.modelRow_accounted_of_table primTable m prim_table_accounted (zoo_indices_in_range hm)

/-- `C18.stdInterp_sound` gives a sound interpretation -/
theorem zoo_models_separable (m : ModelRow) (_hm : m ∈ modelFuncs) (hok : m.ok primTable = true) (I : Interp)
    (hI : C18.SoundInterp I) (e : Prog) (he : ∀ p ∈ e.prims, p ∈ m.prims primTable) : Separable (e.eval I) :=
  C18.model_separable primTable m hok I hI e he

/-- no forward path writes an attribute chain of `self`, a buffer, a class attribute, a module-level name or memo table,
a process-wide torch switch, has a mutable default argument, or updates a caller's tensor in place (the engines' updates
of their own input dictionary aside): hypothesis of `C18.call_without_writes_is_pure` -/
theorem effects_accounted : effectRows.all EffRow.ok = true := by decide +kernel

/-- batch-statistics layers track running statistics, so that eval mode uses fixed statistics -/
theorem norm_layers_track_running_stats : normCtors.all (fun r => r.2.2 == 0) = true := by decide +kernel

/-- no shape- or mode-dependent branching that changes which elements are reduced: every `if` on `self.training` or on
a tensor extent and every partial / chunked `range` loop of a forward path guards a region that neither reduces, nor slices
the batch / coil axis with computed bounds, nor accumulates -/
theorem control_flow_keeps_reduced_set :
    (primTable.all fun f => f.prims.all fun p => p.family != 8 || p.ok) = true :=
  C18.table_all_of_ok_except _
    (fun f h => List.all_eq_true.mpr fun p hp => by
      rw [List.all_eq_true.mp (Bool.and_eq_true_iff.mp h).1 p hp, Bool.or_true])
    primTable cgIndex prim_table_ok_except_index (by decide +kernel)

/-- the scan sees the eval-mode memory clearing of `RIM.forward`, size tests and the per-coil loops -/
theorem control_flow_rows_nonvacuous :
    (primTable.any fun f => f.prims.any fun p => p.family == 8 && p.form == 0) = true ∧
      (primTable.any fun f => f.prims.any fun p => p.family == 8 && p.form == 1) = true ∧
      (primTable.any fun f => f.prims.any fun p => p.family == 8 && p.form == 3) = true := by decide +kernel

end DirectVerif.Bridge.C18
