import DirectVerif.Lemmas.C12
/-!
# C12 — datasets map every index to exactly one slice of one volume, reproducibly

All statements are about the definitions of `Model/Dataset.lean` that the driver executes (`parseFilenames`,
`sliceList`, `numSlices`, `getSliceWindow`, `h5Item`, `locate`, `fakeItem`, `sheppItem`).  The tie to `/repo` is
`Bridge/C12.lean` + the correspondence check.  `slice.indices`, `range` and `bisect_right` are modelled by hand after
CPython; the numerics of the synthetic items are an uninterpreted `render`.

Specification vocabulary (defined in `Lemmas/C12.lean`):
`readable files` — the files that can be opened, in order; `dataOf filt vs` — volume after volume the
admissible slices in increasing order; `Contiguous s vols e` — consecutive ranges from `s` to `e`;
`entryAt n p` — slice `p` if that lies in the file, else a zero block.
-/
namespace DirectVerif.C12
open DirectVerif DirectVerif.Dataset

/-! ## index ranges of `H5SliceData` -/

/-- for every list of distinct files (readable or not), every slice count and every slice filter -/
theorem ranges_contiguous {φ : Type} [DecidableEq φ] (files : List (φ × Option Nat)) (filt : Option PySliceT)
    (hnd : ((readable files).map (·.1)).Nodup) :
    Contiguous 0 (parseFilenames files filt).vols (parseFilenames files filt).data.length := by
  rw [parse_data_spec, parse_vols_spec files filt hnd]
  simpa using volsFrom_contiguous filt 0 (readable files)

theorem contiguous_partition {φ : Type} {vols : List (φ × Nat × Nat)} {len : Nat} (hc : Contiguous 0 vols len) (i : Nat)
    (hi : i < len) :
    ∃ k, (∃ hk : k < vols.length, (vols[k]).2.1 ≤ i ∧ i < (vols[k]).2.2) ∧
      ∀ k', (∃ hk' : k' < vols.length, (vols[k']).2.1 ≤ i ∧ i < (vols[k']).2.2) → k' = k :=
  contiguous_unique_range hc i (Nat.zero_le i) hi

theorem ranges_partition {φ : Type} [DecidableEq φ] (files : List (φ × Option Nat)) (filt : Option PySliceT)
    (hnd : ((readable files).map (·.1)).Nodup) (i : Nat)
    (hi : i < (parseFilenames files filt).data.length) :
    ∃ k, (∃ hk : k < (parseFilenames files filt).vols.length,
        ((parseFilenames files filt).vols[k]).2.1 ≤ i ∧ i < ((parseFilenames files filt).vols[k]).2.2) ∧
      ∀ k', (∃ hk' : k' < (parseFilenames files filt).vols.length,
        ((parseFilenames files filt).vols[k']).2.1 ≤ i ∧ i < ((parseFilenames files filt).vols[k']).2.2) → k' = k :=
  contiguous_partition (ranges_contiguous files filt hnd) i hi

theorem ranges_files {φ : Type} [DecidableEq φ] (files : List (φ × Option Nat)) (filt : Option PySliceT)
    (hnd : ((readable files).map (·.1)).Nodup) :
    (parseFilenames files filt).vols.map (·.1) = (readable files).map (·.1) := by
  rw [parse_vols_spec files filt hnd, volsFrom_map_fst]

/-- `len(range(*filter.indices(n)))`, which the code uses as the length of the volume's range, is the number of slices
of that file that entered `self.data`; a volume that is empty after filtering gets an empty range -/
theorem range_length_is_admissible_count (filt : Option PySliceT) (n : Nat) :
    numSlices filt n = (sliceList filt n).length := numSlices_eq_length filt n

theorem range_membership (a b st x : Int) :
    (0 < st → (x ∈ pyRange a b st ↔ a ≤ x ∧ x < b ∧ (x - a) % st = 0)) ∧
    (st < 0 → (x ∈ pyRange a b st ↔ b < x ∧ x ≤ a ∧ (a - x) % (-st) = 0)) :=
  ⟨mem_pyRange_pos a b st x, mem_pyRange_neg a b st x⟩

/-- the admitted slices of a file are strictly increasing, lie in the file, and are exactly the
members of `range(*filter.indices(n))` -/
theorem slices_sorted_admissible (filt : Option PySliceT) (n : Nat) :
    (sliceList filt n).Pairwise (· < ·) ∧
    ∀ x, x ∈ sliceList filt n ↔ x < n ∧ ∀ sl, filt = some sl →
      (x : Int) ∈ pyRange (sliceIndices sl n).1 (sliceIndices sl n).2.1 (sliceIndices sl n).2.2 := by
  cases filt with
  | none => exact ⟨List.pairwise_lt_range, fun x => by simp [sliceList]⟩
  | some sl =>
    refine ⟨(List.pairwise_lt_range).filter _, fun x => ?_⟩
    simp [sliceList]

/-- **C12, `H5SliceData`**: item `i` is the slice its volume range designates -/
theorem item_designated {φ : Type} [DecidableEq φ] (files : List (φ × Option Nat)) (filt : Option PySliceT)
    (hnd : ((readable files).map (·.1)).Nodup) (k : Nat) (hk : k < (readable files).length) :
    ∃ a, (parseFilenames files filt).vols[k]? =
        some ((readable files)[k].1, a, a + (sliceList filt (readable files)[k].2).length) ∧
      ∀ r (hr : r < (sliceList filt (readable files)[k].2).length),
        (parseFilenames files filt).data[a + r]? =
          some ((readable files)[k].1, (sliceList filt (readable files)[k].2)[r]) := by
  refine ⟨(((readable files).take k).map fun x => (sliceList filt x.2).length).sum, ?_, fun r hr => ?_⟩
  · rw [parse_vols_spec files filt hnd, volsFrom_getElem? filt 0 _ k hk, Nat.zero_add]
  · rw [parse_data_spec]
    exact dataOf_getElem? filt _ k hk r hr

theorem item_designated_iff {φ : Type} [DecidableEq φ] (files : List (φ × Option Nat)) (filt : Option PySliceT)
    (hnd : ((readable files).map (·.1)).Nodup) (i : Nat) (f : φ) (s : Nat) :
    (parseFilenames files filt).data[i]? = some (f, s) ↔
      ∃ (k a b r : Nat), (parseFilenames files filt).vols[k]? = some (f, a, b) ∧ i = a + r ∧ i < b ∧
        ∃ n : Nat, (readable files)[k]? = some (f, n) ∧ (sliceList filt n)[r]? = some s := by
  constructor
  · intro h
    obtain ⟨k, ⟨hk, g1, g2⟩, _⟩ := ranges_partition files filt hnd i (List.getElem?_eq_some_iff.1 h).1
    have hk' : k < (readable files).length := by
      rw [← volsFrom_length filt 0, ← parse_vols_spec files filt hnd]; exact hk
    obtain ⟨a, ha, hd⟩ := item_designated files filt hnd k hk'
    rw [Option.some.inj ((List.getElem?_eq_getElem hk).symm.trans ha)] at g1 g2
    simp only at g1 g2
    have hr : i - a < (sliceList filt (readable files)[k].2).length := by omega
    have hs := hd (i - a) hr
    rw [Nat.add_sub_cancel' g1, h] at hs
    obtain ⟨rfl, rfl⟩ := Prod.mk.inj (Option.some.inj hs)
    exact ⟨k, a, _, i - a, ha, (Nat.add_sub_cancel' g1).symm, g2, _, List.getElem?_eq_getElem hk',
      List.getElem?_eq_getElem hr⟩
  · rintro ⟨k, a, b, r, hv, rfl, _, n, hn, hs⟩
    obtain ⟨hk', en⟩ := List.getElem?_eq_some_iff.1 hn
    obtain ⟨a', ha, hd⟩ := item_designated files filt hnd k hk'
    rw [hv, en] at ha
    obtain ⟨-, rfl, -⟩ : f = f ∧ a = a' ∧ _ := by simpa using ha
    rw [en] at hd
    obtain ⟨hr, rfl⟩ := List.getElem?_eq_some_iff.1 hs
    exact hd r hr

theorem data_designated_partial {φ : Type} [DecidableEq φ] (files : List (φ × Option Nat)) (filt : Option PySliceT) :
    (parseFilenames files filt).data = dataOf filt (readable files) := parse_data_spec files filt

/-- regression (pinned tree: repeated names reached the fold): `volume_indices` is keyed by file name, so a
name that occurs twice (overlapping `.lst` lists, a repeated entry of `filenames_filter`) kept only its last
range: indices `0 … 2` below belong to no volume although `len(dataset) = 9`.  The current constructors
drop repeated names first (`select_nodup`). -/
theorem duplicate_names_pinned_violates :
    (parseFilenames [((1 : Nat), some 3), (2, some 3), (1, some 3)] none).vols = [(1, 6, 9), (2, 3, 6)] ∧
    (parseFilenames [((1 : Nat), some 3), (2, some 3), (1, some 3)] none).data.length = 9 ∧
    ∀ v ∈ (parseFilenames [((1 : Nat), some 3), (2, some 3), (1, some 3)] none).vols, ¬ (v.2.1 ≤ 0 ∧ 0 < v.2.2) := by
  decide

/-! ## which files: `filenames_filter` / `filenames_lists` / directory listing / `regex_filter` -/

theorem select_filter_wins {φ : Type} [DecidableEq φ] (srt : Bool) (le : φ → φ → Bool) (sel : Selection φ) (fs : List φ)
    (h : sel.filter = some fs) :
    selectFiles srt true le sel =
      .ok (if sel.hasRegex then (dedupFirst fs).filter sel.regexOk else dedupFirst fs) := by
  simp [selectFiles, h]

/-- discharges the distinctness hypothesis of the theorems above for every dataset the constructors build -/
theorem select_nodup {φ : Type} [DecidableEq φ] (srt : Bool) (le : φ → φ → Bool) (sel : Selection φ) (fs : List φ)
    (h : selectFiles srt true le sel = .ok fs) : fs.Nodup := by
  unfold selectFiles at h
  simp only [if_true] at h
  split at h
  · cases h
  · rename_i base hb
    have e := Except.ok.inj h
    rw [← e]
    split
    · exact (dedupFirst_nodup base).sublist List.filter_sublist
    · exact dedupFirst_nodup base

/-- every dataset the constructors build is the fold over a duplicate-free file list -/
theorem build_is_parse {φ : Type} [DecidableEq φ] (srt : Bool) (le : φ → φ → Bool) (sel : Selection φ)
    (nOf : φ → Option Nat) (F : FilterArg) (P : Parsed φ) (h : buildH5 srt true le sel nOf F = .ok P) :
    ∃ fs filt, selectFiles srt true le sel = .ok fs ∧ P = parseFilenames (fs.map fun f => (f, nOf f)) filt ∧
      ((readable (fs.map fun f => (f, nOf f))).map (·.1)).Nodup := by
  unfold buildH5 at h
  split at h
  · cases h
  · rename_i fs hfs
    have hnd := readable_map_nodup fs nOf (select_nodup srt le sel fs hfs)
    unfold parseChecked at h
    cases F with
    | none => exact ⟨fs, none, hfs, (Except.ok.inj h).symm, hnd⟩
    | other =>
      simp only at h
      split at h
      · cases h
      · exact ⟨fs, none, hfs, (Except.ok.inj h).symm, hnd⟩
    | slice sl =>
      simp only at h
      split at h
      · cases h
      · exact ⟨fs, some sl, hfs, (Except.ok.inj h).symm, hnd⟩

/-- no assumption on the constructor arguments -/
theorem build_ranges_contiguous {φ : Type} [DecidableEq φ] (srt : Bool) (le : φ → φ → Bool) (sel : Selection φ)
    (nOf : φ → Option Nat) (F : FilterArg) (P : Parsed φ) (h : buildH5 srt true le sel nOf F = .ok P) :
    Contiguous 0 P.vols P.data.length := by
  obtain ⟨fs, filt, _, rfl, hnd⟩ := build_is_parse srt le sel nOf F P h
  exact ranges_contiguous _ filt hnd

/-! ### the entries as given: spellings of a file name -/

/-- entries that are equal after normalisation (`pathlib.Path(_)`: `str` / `Path`, `dir//f`, `dir/./f`) are merged, first
occurrence kept -/
theorem dedup_merges_normalisation_equal {ρ φ : Type} [DecidableEq φ] (norm : ρ → φ) (raw : List ρ) :
    (dedupFirst (raw.map norm)).Nodup ∧ (∀ x, x ∈ dedupFirst (raw.map norm) ↔ ∃ a ∈ raw, norm a = x) ∧
    ∀ a b, a ∈ raw → b ∈ raw → norm a = norm b →
      norm a ∈ dedupFirst (raw.map norm) ∧ ((dedupFirst (raw.map norm)).filter fun y => y = norm b).length = 1 := by
  refine ⟨dedupFirst_nodup _, fun x => by rw [mem_dedupFirst]; simp, fun a b ha _ hab => ?_⟩
  have hm : norm a ∈ dedupFirst (raw.map norm) := by rw [mem_dedupFirst]; exact List.mem_map_of_mem ha
  refine ⟨hm, ?_⟩
  -- the number of occurrences of a member of a duplicate-free list
  have := (dedupFirst_nodup (raw.map norm)).count (a := norm a)
  rw [if_pos hm, List.count_eq_countP, List.countP_eq_length_filter] at this
  rw [← hab, ← this]
  rfl

/-- on the current tree the selection over entries as given is the selection over their normalised forms -/
theorem select_raw_nodup {ρ φ : Type} [DecidableEq ρ] [DecidableEq φ] (srt : Bool) (norm : ρ → φ) (le : φ → φ → Bool)
    (sel : Selection ρ) (rx : φ → Bool) (fs : List φ) (h : selectFilesRaw srt true true norm le sel rx = .ok fs) :
    fs.Nodup := by
  simp only [selectFilesRaw, if_true] at h
  exact select_nodup srt le _ fs h

theorem build_raw_ranges_contiguous {ρ φ : Type} [DecidableEq ρ] [DecidableEq φ] (srt : Bool) (norm : ρ → φ)
    (le : φ → φ → Bool) (sel : Selection ρ) (rx : φ → Bool) (nOf : φ → Option Nat) (F : FilterArg) (P : Parsed φ)
    (h : buildH5Raw srt true true norm le sel rx nOf F = .ok P) : Contiguous 0 P.vols P.data.length := by
  apply build_ranges_contiguous srt le (sel.mapNorm norm rx) nOf F P
  simpa only [buildH5Raw, selectFilesRaw, if_true, buildH5] using h

/-- regression (seen-set over the entries as given, cast to `Path` afterwards): one file mentioned in two spellings
(`norm` identifies them) is kept twice — its slices are in `data` twice, its range once: indices `0 … 2` belong to no
volume -/
theorem dedup_on_raw_entries_violates :
    selectFilesRaw false true false (fun (x : Nat × Nat) => x.2) (fun a b => decide (a ≤ b))
        ⟨[], some [(0, 5), (1, 5)], none, false, false, fun _ => true⟩ (fun _ => true) = .ok [5, 5] ∧
    (buildH5Raw false true false (fun (x : Nat × Nat) => x.2) (fun a b => decide (a ≤ b))
        ⟨[], some [(0, 5), (1, 5)], none, false, false, fun _ => true⟩ (fun _ => true) (fun _ => some 3) .none).toOption.map
        (fun P => (P.vols, P.data.length)) = some ([(5, 3, 6)], 6) := by
  constructor <;> rfl

/-- **C12, `H5SliceData` and subclasses**: every index lies in the range of exactly one volume, with no hypothesis on
the arguments (repeated names, unreadable files, any filter, any listing order) -/
theorem build_ranges_partition {φ : Type} [DecidableEq φ] (srt : Bool) (le : φ → φ → Bool) (sel : Selection φ)
    (nOf : φ → Option Nat) (F : FilterArg) (P : Parsed φ) (h : buildH5 srt true le sel nOf F = .ok P) (i : Nat)
    (hi : i < P.data.length) :
    ∃ k, (∃ hk : k < P.vols.length, (P.vols[k]).2.1 ≤ i ∧ i < (P.vols[k]).2.2) ∧
      ∀ k', (∃ hk' : k' < P.vols.length, (P.vols[k']).2.1 ≤ i ∧ i < (P.vols[k']).2.2) → k' = k :=
  contiguous_partition (build_ranges_contiguous srt le sel nOf F P h) i hi

/-- `CMRxReconDataset` as its constructor builds it, `num_slices = a·b | a | b` -/
theorem cmr_build_ranges_contiguous {φ : Type} [DecidableEq φ] (srt : Bool) (le : φ → φ → Bool) (sel : Selection φ)
    (ctx : CmrContext) (shapeOf : φ → Option (Nat × Nat)) (P : Parsed φ)
    (h : buildCmr srt true le sel ctx shapeOf = .ok P) : Contiguous 0 P.vols P.data.length := by
  unfold buildCmr at h
  split at h
  · cases h
  · rename_i fs hfs
    rw [← Except.ok.inj h]
    apply ranges_contiguous
    simp only [List.map_map, Function.comp_def]
    exact readable_map_nodup fs _ (select_nodup srt le sel fs hfs)

theorem cmr_build_ranges_partition {φ : Type} [DecidableEq φ] (srt : Bool) (le : φ → φ → Bool) (sel : Selection φ)
    (ctx : CmrContext) (shapeOf : φ → Option (Nat × Nat)) (P : Parsed φ)
    (h : buildCmr srt true le sel ctx shapeOf = .ok P) (i : Nat) (hi : i < P.data.length) :
    ∃ k, (∃ hk : k < P.vols.length, (P.vols[k]).2.1 ≤ i ∧ i < (P.vols[k]).2.2) ∧
      ∀ k', (∃ hk' : k' < P.vols.length, (P.vols[k']).2.1 ≤ i ∧ i < (P.vols[k']).2.2) → k' = k :=
  contiguous_partition (cmr_build_ranges_contiguous srt le sel ctx shapeOf P h) i hi

/-- with the listing sorted, the dataset does not depend on the order in which the operating system lists the directory -/
theorem select_listing_invariant {φ : Type} [DecidableEq φ] (dd : Bool) (le : φ → φ → Bool)
    (htot : ∀ a b, le a b = true ∨ le b a = true)
    (htr : ∀ a b c, le a b = true → le b c = true → le a c = true)
    (hanti : ∀ a b, le a b = true → le b a = true → a = b)
    (sel : Selection φ) (listing' : List φ) (h : sel.listing.Perm listing') :
    selectFiles true dd le { sel with listing := listing' } = selectFiles true dd le sel := by
  simp only [selectFiles, if_true]
  rw [sortFiles_eq_of_perm le htot htr hanti sel.listing listing' h]

theorem build_listing_invariant {φ : Type} [DecidableEq φ] (dd : Bool) (le : φ → φ → Bool)
    (htot : ∀ a b, le a b = true ∨ le b a = true)
    (htr : ∀ a b c, le a b = true → le b c = true → le a c = true)
    (hanti : ∀ a b, le a b = true → le b a = true → a = b)
    (sel : Selection φ) (listing' : List φ) (h : sel.listing.Perm listing') (nOf : φ → Option Nat) (F : FilterArg) :
    (buildH5 true dd le { sel with listing := listing' } nOf F).toOption.map (fun P => (P.data, P.vols)) =
      (buildH5 true dd le sel nOf F).toOption.map (fun P => (P.data, P.vols)) := by
  unfold buildH5
  rw [select_listing_invariant dd le htot htr hanti sel listing' h]

/-- regression (pinned tree: `list(self.root.glob("*.h5"))` unsorted) — two directories with the same
files, listed in different orders by the operating system, gave different datasets -/
theorem listing_order_pinned_violates :
    (selectFiles false false (fun a b => decide (a ≤ b))
        ⟨[(2 : Nat), 1], none, none, false, false, fun _ => true⟩).toOption ≠
      (selectFiles false false (fun a b => decide (a ≤ b))
        ⟨[1, 2], none, none, false, false, fun _ => true⟩).toOption := by
  decide

/-- `FastMRIDataset` / `CalgaryCampinasDataset` never receive a context or a user slice filter -/
theorem class_params_spec (crop : Bool) (sl : FilterArg) (c : Nat) :
    (classParams .fastmri crop sl c).2 = 0 ∧ (classParams .calgary crop sl c).2 = 0 ∧
    (classParams .h5 crop sl c).2 = c := ⟨rfl, rfl, rfl⟩

/-! ## `CMRxReconDataset` -/

theorem cmr_ranges_contiguous {φ : Type} [DecidableEq φ] (ctx : CmrContext) (files : List (φ × Option (Nat × Nat)))
    (hnd : ((readable (files.map fun x => (x.1, x.2.map fun ab => cmrNumSlices ctx ab.1 ab.2))).map (·.1)).Nodup) :
    Contiguous 0 (cmrParse ctx files).vols (cmrParse ctx files).data.length :=
  ranges_contiguous _ none hnd

/-- **2-D items**: `slice_no = s` addresses slice `s / b`, frame `s % b` of the file (`cmr_index_onto`: every `(k, l)` is
addressed, by `s = k·b + l`) -/
theorem cmr_index_spec (a b s : Nat) (h : s < a * b) :
    cmrBlock .none a b s = some [(s / b, s % b)] ∧ s / b < a ∧ s % b < b := by
  have hb : 0 < b := by
    rcases Nat.eq_zero_or_pos b with rfl | h0
    · exact absurd h (Nat.not_lt_zero s)
    · exact h0
  have hk : s / b < a := Nat.div_lt_of_lt_mul (by rw [Nat.mul_comm]; exact h)
  have hl : s % b < b := Nat.mod_lt _ hb
  have e : s / b * b + s % b = s := by rw [Nat.mul_comm]; exact Nat.div_add_mod s b
  refine ⟨?_, hk, hl⟩
  rw [cmrBlock, ← e, cmrPairs_getElem? a b _ _ hk hl, e]
  rfl

theorem cmr_index_onto (a b k l : Nat) (hk : k < a) (hl : l < b) :
    k * b + l < a * b ∧ cmrBlock .none a b (k * b + l) = some [(k, l)] := by
  have hlt : k * b + l < a * b := by
    calc k * b + l < k * b + b := by omega
      _ = (k + 1) * b := by rw [Nat.succ_mul]
      _ ≤ a * b := Nat.mul_le_mul_right b hk
  refine ⟨hlt, ?_⟩
  rw [cmrBlock, cmrPairs_getElem? a b k l hk hl]
  rfl

theorem cmr_block_context (a b s : Nat) :
    (s < a → cmrBlock .slice a b s = some ((List.range b).map fun l => (s, l))) ∧
    (s < b → cmrBlock .time a b s = some ((List.range a).map fun k => (k, s))) := by
  constructor <;> intro h <;> simp [cmrBlock, h]

/-- `H5SliceData.__getitem__`; `nOf f` is the file's slice count as read at access time -/
theorem h5_item_spec {φ : Type} (P : Parsed φ) (nOf : φ → Nat) (c i : Nat) (f : φ) (s : Nat)
    (h : P.data[i]? = some (f, s)) : h5Item P nOf c i = .ok (f, s, sliceStack c (nOf f) s) := by
  rw [h5Item, pyIndex_natCast _ _ _ h]

theorem h5_item_negative {φ : Type} (P : Parsed φ) (nOf : φ → Nat) (c k : Nat) (hk : k < P.data.length) :
    h5Item P nOf c (-((k : Int) + 1)) = h5Item P nOf c ((P.data.length - 1 - k : Nat) : Int) := by
  rw [h5Item, h5Item, pyIndex_neg _ k hk]

/-! ## context windows -/

/-- also when `2c+1 > n` and when both ends stick out -/
theorem window_length (c n s : Nat) (hs : s < n) : (getSliceWindow c n s).length = 2 * c + 1 := by
  rw [getSliceWindow_eq c n s hs, List.length_map, irange_length]
  omega

theorem window_entries (c n s : Nat) (hs : s < n) (j : Nat) (hj : j < 2 * c + 1) :
    (getSliceWindow c n s)[j]? =
      some (if (0 : Int) ≤ (s : Int) - c + j ∧ (s : Int) - c + j < n then
              Entry.slice ((s : Int) - c + j).toNat else Entry.zero) := by
  rw [getSliceWindow_eq c n s hs, List.getElem?_map, irange_getElem?, if_pos (by omega)]
  rfl

theorem window_centre (c n s : Nat) (hs : s < n) : (getSliceWindow c n s)[c]? = some (Entry.slice s) := by
  rw [window_entries c n s hs c (by omega), if_pos (by omega)]
  congr 2
  omega

/-- regression examples: the pinned tree's fill condition `curr_shape[0] < num_slices - 1` returned
2-slice windows at the ends of a 3-slice file (and never padded 2-slice files) -/
theorem window_pinned_violates : (getSliceWindowPinned 1 3 0).length ≠ 2 * 1 + 1 := by decide
theorem window_pinned_violates_two_slices : (getSliceWindowPinned 1 2 1).length ≠ 2 * 1 + 1 := by decide

/-! ## `ConcatDataset` -/

theorem cumsum_sorted (sizes : List Nat) : (cumsum sizes).Pairwise (· ≤ ·) :=
  (cumsumFrom_sorted 0 sizes).1

/-- the binary search of CPython meets the documented contract of `bisect_right` on every non-decreasing list; nothing
about the library function is assumed, the executed `locate` runs the loop -/
theorem bisect_right_contract (xs : List Nat) (x : Int) (hs : xs.Pairwise (· ≤ ·)) :
    bisectRightBin xs x ≤ xs.length ∧
    ∀ i (hi : i < xs.length), (i < bisectRightBin xs x ↔ ((xs[i] : Nat) : Int) ≤ x) := by
  rw [bisectRightBin_eq_count xs x hs]
  exact ⟨bisectRight_le_length xs x, fun i hi => bisectRight_lt_iff xs x hs i hi⟩

theorem bisect_right_on_cumsum (sizes : List Nat) (x : Int) :
    bisectRightBin (cumsum sizes) x = bisectRight (cumsum sizes) x :=
  bisectRightBin_eq_count _ _ (cumsum_sorted sizes)

/-- the binary search does **not** count on unsorted lists (the sortedness of `cumsum` is needed) -/
theorem bisect_unsorted_differs : bisectRightBin [5, 1, 1] 1 ≠ ([5, 1, 1].filter fun v => decide ((v : Int) ≤ 1)).length := by
  decide

/-- **C12, `ConcatDataset`**: members of size 0 allowed -/
theorem concat_locate_spec (sizes : List Nat) (idx : Nat) (h : idx < sizes.sum) :
    ∃ d j, locate sizes idx = .ok (d, j) ∧ ∃ hd : d < sizes.length, j < sizes[d] ∧
      idx = (sizes.take d).sum + j := Dataset.concat_locate_spec sizes idx h

theorem concat_locate_unique (sizes : List Nat) (d d' j j' : Nat) (hd : d < sizes.length)
    (hd' : d' < sizes.length) (hj : j < sizes[d]) (hj' : j' < sizes[d'])
    (h : (sizes.take d).sum + j = (sizes.take d').sum + j') : d = d' ∧ j = j' := by
  -- a block ends before every later block starts
  rcases Nat.lt_trichotomy d d' with hlt | rfl | hgt
  · have := sum_take_block_le sizes hlt (Nat.le_of_lt hd')
    omega
  · omega
  · have := sum_take_block_le sizes hgt (Nat.le_of_lt hd)
    omega

/-- `ConcatDataset[idx]` is entry `idx` of `[(d, j) for d, m in enumerate(members) for j in range(len(m))]` -/
theorem concat_is_flat_enumeration (sizes : List Nat) (idx : Nat) (h : idx < sizes.sum) :
    ∃ p, locate sizes idx = .ok p ∧ (flatPairs sizes)[idx]? = some p := by
  obtain ⟨d, j, h1, hd, hj, e⟩ := Dataset.concat_locate_spec sizes idx h
  refine ⟨(d, j), h1, ?_⟩
  have := flatPairsFrom_getElem? 0 sizes d j hd hj
  rw [e]; simpa [flatPairs] using this

theorem flat_enumeration_length (sizes : List Nat) : (flatPairs sizes).length = sizes.sum :=
  flatPairsFrom_length 0 sizes

theorem concat_negative (sizes : List Nat) (idx : Int) (h0 : idx < 0) (h1 : -(sizes.sum : Int) ≤ idx) :
    locate sizes idx = locate sizes ((sizes.sum : Int) + idx) := Dataset.concat_negative sizes idx h0 h1

theorem concat_out_of_range (sizes : List Nat) (idx : Int) :
    (idx < -(sizes.sum : Int) → locate sizes idx = .error .valueError) ∧
    ((sizes.sum : Int) ≤ idx → locate sizes idx = .error .indexError) :=
  ⟨concat_rejects_below sizes idx, concat_rejects_above sizes idx⟩

/-- with `concat_locate_injective` and `concat_locate_strict_mono`: the index map is an order-preserving bijection -/
theorem concat_locate_onto (sizes : List Nat) (d j : Nat) (hd : d < sizes.length) (hj : j < sizes[d]) :
    (sizes.take d).sum + j < sizes.sum ∧ locate sizes (((sizes.take d).sum + j : Nat) : Int) = .ok (d, j) := by
  have hlt : (sizes.take d).sum + j < sizes.sum := by
    have := sum_take_le sizes (d + 1)
    rw [sum_take_succ sizes d hd] at this
    omega
  refine ⟨hlt, ?_⟩
  obtain ⟨d', j', h1, hd', hj', e⟩ := Dataset.concat_locate_spec sizes _ hlt
  obtain ⟨rfl, rfl⟩ := concat_locate_unique sizes d d' j j' hd hd' hj hj' e
  exact h1

theorem concat_locate_injective (sizes : List Nat) (i i' : Nat) (h : i < sizes.sum) (h' : i' < sizes.sum)
    (e : locate sizes i = locate sizes i') : i = i' := by
  obtain ⟨d, j, h1, _, _, e1⟩ := Dataset.concat_locate_spec sizes i h
  obtain ⟨d', j', h2, _, _, e2⟩ := Dataset.concat_locate_spec sizes i' h'
  obtain ⟨rfl, rfl⟩ : d = d' ∧ j = j' := by simpa only [h1, h2, Except.ok.injEq, Prod.mk.injEq] using e
  omega

theorem concat_locate_strict_mono (sizes : List Nat) (i i' : Nat) (hlt : i < i') (h' : i' < sizes.sum)
    (d j d' j' : Nat) (e : locate sizes i = .ok (d, j)) (e' : locate sizes i' = .ok (d', j')) :
    d < d' ∨ (d = d' ∧ j < j') := by
  obtain ⟨d0, j0, h1, hd, hj, e1⟩ := Dataset.concat_locate_spec sizes i (by omega)
  obtain ⟨d1, j1, h2, hd', hj', e2⟩ := Dataset.concat_locate_spec sizes i' h'
  obtain ⟨rfl, rfl⟩ : d0 = d ∧ j0 = j := by simpa only [h1, Except.ok.injEq, Prod.mk.injEq] using e
  obtain ⟨rfl, rfl⟩ : d1 = d' ∧ j1 = j' := by simpa only [h2, Except.ok.injEq, Prod.mk.injEq] using e'
  rcases Nat.lt_trichotomy d0 d1 with hl | heq | hg
  · exact Or.inl hl
  · subst heq; exact Or.inr ⟨rfl, by omega⟩
  · -- the whole of position `d1` lies before position `d0`
    have := sum_take_block_le sizes hg (Nat.le_of_lt hd)
    omega

theorem concat_locate_bijection (sizes : List Nat) :
    (∀ i, i < sizes.sum → ∃ d j, locate sizes (i : Int) = .ok (d, j) ∧ ∃ hd : d < sizes.length, j < sizes[d] ∧
        (sizes.take d).sum + j = i) ∧
    (∀ d j (hd : d < sizes.length), j < sizes[d] →
        (sizes.take d).sum + j < sizes.sum ∧ locate sizes (((sizes.take d).sum + j : Nat) : Int) = .ok (d, j)) := by
  refine ⟨fun i h => ?_, fun d j hd hj => concat_locate_onto sizes d j hd hj⟩
  obtain ⟨d, j, h1, hd, hj, e⟩ := Dataset.concat_locate_spec sizes i h
  exact ⟨d, j, h1, hd, hj, e.symm⟩

/-- the same object listed several times: the local index is within the length of the object at the located position -/
theorem concat_repeated_objects (objSizes pattern : List Nat) (hp : pattern ≠ []) (i : Nat)
    (h : i < (pattern.map fun p => objSizes.getD p 0).sum) :
    ∃ d j, concatGetRep objSizes pattern i = .ok (d, pattern.getD d 0, j) ∧ d < pattern.length ∧
      j < objSizes.getD (pattern.getD d 0) 0 ∧ ((pattern.take d).map fun p => objSizes.getD p 0).sum + j = i := by
  obtain ⟨d, j, h1, hd, hj, e⟩ := Dataset.concat_locate_spec _ i h
  have hne : (pattern.map fun p => objSizes.getD p 0).isEmpty = false := by
    cases pattern with
    | nil => exact absurd rfl hp
    | cons a as => rfl
  refine ⟨d, j, ?_, by simpa using hd, ?_, ?_⟩
  · simp only [concatGetRep, concatGet, hne, h1]; rfl
  · have hd2 : d < pattern.length := by simpa using hd
    simpa [List.getD_eq_getElem?_getD, List.getElem?_eq_getElem hd2] using hj
  · rw [← List.map_take] at e; exact e.symm

/-! ## reproducibility of the synthetic items -/

/-- **C12, reproducibility**: `FakeMRIBlobsDataset[i]` does not depend on the state of the global RNG when the seed
plumbing table is all-true (`Bridge.C12.fake_table_ok` for the current tree), for every RNG and `render` -/
theorem item_deterministic {G V O : Type} (R : Rng G V) (t : SeedTable) (ht : t.allTrue = true)
    (render : V × Option V → Nat → O) (a : BlobArgs) (coils seed sliceNo : Nat) (g g' : G) :
    (fakeItem R t render a coils seed sliceNo g).1 = (fakeItem R t render a coils seed sliceNo g').1 := by
  obtain ⟨a, b, c, d, e, f⟩ := t
  simp only [SeedTable.allTrue, Bool.and_eq_true] at ht
  obtain ⟨⟨⟨⟨⟨rfl, rfl⟩, rfl⟩, rfl⟩, rfl⟩, rfl⟩ := ht
  simp only [fakeItem, fakeDraws, simSens, Bool.and_self, if_true, Bool.true_or]
  by_cases hc : coils = 1 <;> simp [hc]

/-- an access history: accesses to this or to other dataset objects, interleaved with arbitrary perturbations of the
global stream.  Dataset objects share nothing else (`Bridge.C12.shared_state_table_ok`). -/
def runHistory {G V O : Type} (R : Rng G V) (t : SeedTable) (render : V × Option V → Nat → O) :
    G → List ((BlobArgs × Nat × Nat × Nat) × (G → G)) → G
  | g, [] => g
  | g, ((a, coils, seed, sl), perturb) :: rest =>
    runHistory R t render (perturb (fakeItem R t render a coils seed sl g).2) rest

/-- … nor on the access history (same index twice, permuted orders, other datasets accessed in between) -/
theorem item_history_independent {G V O : Type} (R : Rng G V) (t : SeedTable) (ht : t.allTrue = true)
    (render : V × Option V → Nat → O) (a : BlobArgs) (coils seed sliceNo : Nat) (g g' : G)
    (hist hist' : List ((BlobArgs × Nat × Nat × Nat) × (G → G))) :
    (fakeItem R t render a coils seed sliceNo (runHistory R t render g hist)).1 =
      (fakeItem R t render a coils seed sliceNo (runHistory R t render g' hist')).1 :=
  item_deterministic R t ht render a coils seed sliceNo _ _

/-- regression examples: the pinned tree (seed not handed to `make_blobs`; `if seed:`) returned
items that depend on the global stream -/
theorem fake_pinned_violates :
    (fakeItem toyRng fakeTablePinned (fun d _ => d) ⟨1, 2, 18⟩ 1 5 0 0).1 ≠
      (fakeItem toyRng fakeTablePinned (fun d _ => d) ⟨1, 2, 18⟩ 1 5 0 1).1 := by decide
theorem sens_truthy_seed_violates :
    (fakeItem toyRng ⟨true, true, true, true, true, false⟩ (fun d _ => d) ⟨2, 2, 18⟩ 2 0 0 0).1 ≠
      (fakeItem toyRng ⟨true, true, true, true, true, false⟩ (fun d _ => d) ⟨2, 2, 18⟩ 2 0 0 1).1 := by decide

/-- the same for `SheppLoganDataset[i]` (`Bridge.C12.shepp_table_ok`): the sensitivity offset comes from the global stream
freshly seeded with the slice's seed, the noise of all-zero outer slices from a private stream seeded with it -/
theorem shepp_item_deterministic {G V O : Type} (R : Rng G V) (t : SheppTable) (ht : t.allTrue = true)
    (render : Option V × Option V → O) (coils seed : Nat) (zero : Bool) (k : Nat) (g g' : G) :
    (sheppItem R t render coils seed zero k g).1 = (sheppItem R t render coils seed zero k g').1 := by
  obtain ⟨a, b, c⟩ := t
  simp only [SheppTable.allTrue, Bool.and_eq_true] at ht
  obtain ⟨⟨rfl, rfl⟩, rfl⟩ := ht
  simp only [sheppItem, sheppDraws, simSens, if_true, Bool.true_or]
  by_cases hc : coils = 1 <;> cases zero <;> simp [hc]

/-- regression (pinned tree, `sheppTablePinned`: noise from the *global* stream): the item was
reproducible only with several coils (the global stream had just been seeded by
`simulate_sensitivity_maps`) or for slices that are not identically zero (no noise drawn) … -/
theorem shepp_pinned_partial {G V O : Type} (R : Rng G V)
    (render : Option V × Option V → O) (coils seed : Nat) (zero : Bool) (k : Nat) (g g' : G)
    (h : coils ≠ 1 ∨ zero = false) :
    (sheppItem R sheppTablePinned render coils seed zero k g).1 =
      (sheppItem R sheppTablePinned render coils seed zero k g').1 := by
  simp only [sheppItem, sheppDraws, simSens, sheppTablePinned, if_true, Bool.true_or]
  by_cases hc : coils = 1
  · have : zero = false := by rcases h with h | h; exact absurd hc h; exact h
    subst this; simp [hc]
  · cases zero <;> simp [hc]

/-- … and with one coil nothing seeded the global stream before the noise of an all-zero outer slice
was drawn from it: two accesses differed -/
theorem shepp_pinned_violates :
    (sheppItem toyRng sheppTablePinned id 1 7 true 4 0).1 ≠
      (sheppItem toyRng sheppTablePinned id 1 7 true 4 1).1 := by decide

/-- `pre p`: the state of the global stream when position `p` of the epoch is served (another worker with its forked copy
of the stream, a later epoch, a pickled dataset object in another process) -/
theorem epoch_schedule_independent {G V O : Type} (R : Rng G V) (t : SeedTable) (ht : t.allTrue = true)
    (render : V × Option V → Nat → O) (epoch : List (BlobArgs × Nat × Nat × Nat)) (pre pre' : Nat → G) :
    (epoch.zipIdx.map fun (x, p) => (fakeItem R t render x.1 x.2.1 x.2.2.1 x.2.2.2 (pre p)).1) =
      (epoch.zipIdx.map fun (x, p) => (fakeItem R t render x.1 x.2.1 x.2.2.1 x.2.2.2 (pre' p)).1) := by
  apply List.map_congr_left
  rintro ⟨x, p⟩ _
  exact item_deterministic R t ht render _ _ _ _ _ _

/-- accesses to `FakeMRIBlobsDataset` and `SheppLoganDataset` objects and arbitrary other uses of the global stream,
in any order (`SheppLoganDataset` with several coils *seeds the global stream* as a side effect) -/
inductive Access (G : Type) where
  | fake (a : BlobArgs) (coils seed slice : Nat)
  | shepp (coils seed : Nat) (zero : Bool) (k : Nat)
  | perturb (f : G → G)

def runMixed {G V : Type} (R : Rng G V) (ft : SeedTable) (st : SheppTable) : G → List (Access G) → G
  | g, [] => g
  | g, .fake a coils seed _ :: rest => runMixed R ft st (fakeDraws R ft a coils seed g).2 rest
  | g, .shepp coils seed zero k :: rest => runMixed R ft st (sheppDraws R st coils seed zero k g).2 rest
  | g, .perturb f :: rest => runMixed R ft st (f g) rest

theorem mixed_history_independent {G V O O' : Type} (R : Rng G V) (ft : SeedTable) (st : SheppTable)
    (hft : ft.allTrue = true) (hst : st.allTrue = true) (render : V × Option V → Nat → O)
    (render' : Option V × Option V → O') (g g' : G) (hist hist' : List (Access G)) :
    (∀ a coils seed sl, (fakeItem R ft render a coils seed sl (runMixed R ft st g hist)).1 =
        (fakeItem R ft render a coils seed sl (runMixed R ft st g' hist')).1) ∧
    (∀ coils seed zero k, (sheppItem R st render' coils seed zero k (runMixed R ft st g hist)).1 =
        (sheppItem R st render' coils seed zero k (runMixed R ft st g' hist')).1) :=
  ⟨fun a coils seed sl => item_deterministic R ft hft render a coils seed sl _ _,
   fun coils seed zero k => shepp_item_deterministic R st hst render' coils seed zero k _ _⟩

/-! ## the request sequence behind a synthetic item -/

/-- the per-centre sample counts of `make_blobs` add up to `n_samples` (every requested sample is drawn once) -/
theorem blob_counts_sum (n k : Nat) (hk : 0 < k) : (blobCounts n k).sum = n := by
  rw [blobCounts, sum_range_quot_rem, Nat.min_eq_left (Nat.le_of_lt (Nat.mod_lt n hk))]
  exact Nat.div_add_mod n k

theorem blob_requests_length (a : BlobArgs) : (blobRequests a).length = a.centers + 2 := by
  simp [blobRequests, blobCounts]

/-- every request behind `FakeMRIBlobsDataset[i]` goes to a stream seeded with the item's seed inside the same access;
none reaches the state `g` the global stream was in before -/
theorem fake_requests_all_seeded (a : BlobArgs) (coils seed : Nat) (g : List GOp) :
    (fakeDraws symRng fakeTableCurrent a coils seed g).1.1 = [GOp.seed seed] ++ blobRequests a ∧
    (fakeDraws symRng fakeTableCurrent a coils seed g).1.2 =
      (if coils = 1 then none else some [GOp.seed seed, GOp.uniform]) := by
  by_cases hc : coils = 1 <;> simp [fakeDraws, simSens, fakeTableCurrent, symRng, hc]

theorem shepp_requests_all_seeded (coils seed : Nat) (zero : Bool) (k : Nat) (g : List GOp) :
    (sheppDraws symRng sheppTableCurrent coils seed zero k g).1.1 =
      (if coils = 1 then none else some [GOp.seed seed, GOp.uniform]) ∧
    (sheppDraws symRng sheppTableCurrent coils seed zero k g).1.2 =
      (if zero then some [GOp.seed seed, GOp.randn k] else none) := by
  by_cases hc : coils = 1 <;> cases zero <;> simp [sheppDraws, simSens, sheppTableCurrent, symRng, hc]

/-! ## index structure of the synthetic datasets -/

/-- `FakeMRIBlobsDataset`, distinct names (`hlen`: `zip` truncates to the shorter list) -/
theorem fake_ranges_contiguous {φ : Type} [DecidableEq φ] (names : List φ) (seeds : List Nat) (nz : Nat)
    (hnd : names.Nodup) (hlen : names.length ≤ seeds.length) :
    Contiguous 0 (fakeBuild names seeds nz).vols (fakeBuild names seeds nz).data.length := by
  have hc := ranges_contiguous (names.map fun f => (f, some nz)) none (by rw [readable_all_some_fst]; exact hnd)
  have hl : (parseFilenames (names.map fun f => (f, some nz)) none).data.length = (fakeBuild names seeds nz).data.length := by
    rw [parse_data_spec, readable_all_some, dataOf_none_const]
    simp only [fakeBuild, flatMap_range_length, List.length_zip]
    congr 1; omega
  rw [← hl]; exact hc

/-- the running counter of `parse_filenames_data` is the closed form `idx * num_slices` -/
theorem fake_ranges_closed_form {φ : Type} [DecidableEq φ] (names : List φ) (seeds : List Nat) (nz k : Nat)
    (hnd : names.Nodup) (hk : k < names.length) :
    (fakeBuild names seeds nz).vols[k]? = some (names[k], k * nz, k * nz + nz) := by
  show (parseFilenames (names.map fun f => (f, some nz)) none).vols[k]? = _
  rw [parse_vols_spec _ none (by rw [readable_all_some_fst]; exact hnd), readable_all_some]
  simpa using volsFrom_const_getElem? names nz 0 k hk

/-- the names the dataset generates itself (`base00001, …`, when the number of given names differs from `sample_size`)
are distinct -/
theorem fake_renamed_names_nodup {φ : Type} (given : List φ) (n : Nat) (mk : φ → Nat → φ)
    (hmk : ∀ b k k', mk b k = mk b k' → k = k') (hne : given.length ≠ n) (names : List φ)
    (h : fakeNames given n mk = .ok names) : names.Nodup ∧ names.length = n := by
  unfold fakeNames at h
  simp only [hne, ne_eq, not_false_eq_true, if_true] at h
  cases given with
  | nil => cases h
  | cons b r =>
    simp only at h
    rw [← Except.ok.inj h]
    refine ⟨?_, by simp⟩
    rw [List.nodup_iff_pairwise_ne, List.pairwise_map]
    refine List.Pairwise.imp (fun hlt e => ?_) List.pairwise_lt_range
    have := hmk b _ _ e
    omega

theorem fake_item_index {φ : Type} [DecidableEq φ] (names : List φ) (seeds : List Nat) (nz k s : Nat)
    (hk : k < names.length) (hk' : k < seeds.length) (hs : s < nz) :
    fakeIndex (fakeBuild names seeds nz) ((k * nz + s : Nat) : Int) = .ok (names[k], s, seeds[k]) := by
  have hz : k < (names.zip seeds).length := by rw [List.length_zip]; omega
  refine pyIndex_natCast _ _ _ ?_
  show ((names.zip seeds).flatMap fun x => (List.range nz).map fun s => (x.1, s, x.2))[k * nz + s]? = _
  rw [flatMap_range_getElem? (names.zip seeds) nz (fun x s => (x.1, s, x.2)) k s hz hs, List.getElem_zip]

/-- not covered by `fake_ranges_contiguous` (which assumes distinct names): names given explicitly, one per sample, are
used verbatim — a repeated name keeps only its last range, as in `duplicate_names_pinned_violates` -/
theorem fake_duplicate_names_observation :
    (fakeBuild [(1 : Nat), 1] [10, 11] 3).vols = [(1, 3, 6)] ∧ (fakeBuild [(1 : Nat), 1] [10, 11] 3).data.length = 6 := by
  decide

/-- (rendered slice, seed position, reported `slice_no`) -/
theorem shepp_index_spec (nz i : Nat) (h : i < nz) : sheppIndex nz (i : Int) = .ok (i, i, (i : Int)) := by
  unfold sheppIndex sheppIndexWith pyIndex
  have h0 : ¬ ((i : Int) < 0) := by omega
  have hm : Int.fmod (i : Int) (nz : Int) = (i : Int) := by
    rw [Int.fmod_eq_emod_of_nonneg _ (by omega)]
    exact Int.emod_eq_of_lt (by omega) (by omega)
  simp [h0, h, hm, sheppReportsIndexAsGiven]

theorem shepp_index_out_of_range (nz : Nat) (idx : Int) (h : (nz : Int) ≤ idx ∨ idx < -(nz : Int)) :
    sheppIndex nz idx = .error .indexError := by
  unfold sheppIndex sheppIndexWith pyIndex
  rcases h with h | h
  · have h0 : ¬ (idx < 0) := by omega
    have : ¬ (idx.toNat < nz) := by omega
    simp [h0, this]
  · have h0 : idx < 0 := by omega
    have : idx + (nz : Int) < 0 := by omega
    simp [h0, this]

theorem shepp_index_negative (nz : Nat) (idx : Int) (h0 : idx < 0) (h1 : -(nz : Int) ≤ idx) :
    sheppIndex nz idx = .ok ((idx + nz).toNat, (idx + nz).toNat, idx + nz) :=
  sheppIndexWith_neg false nz idx h0 h1

/-- **C12, `SheppLoganDataset`**: whatever index is accepted, rendered slice, seed position and reported `slice_no` are
the same number in `0 … nz-1` -/
theorem shepp_index_consistent (nz : Nat) (idx : Int) (s k : Nat) (r : Int) (h : sheppIndex nz idx = .ok (s, k, r)) :
    k = s ∧ r = (s : Int) ∧ s < nz := by
  by_cases hout : (nz : Int) ≤ idx ∨ idx < -(nz : Int)
  · rw [shepp_index_out_of_range nz idx hout] at h; cases h
  · by_cases h0 : idx < 0
    · rw [shepp_index_negative nz idx h0 (by omega)] at h
      obtain ⟨e1, e2, e3⟩ : _ ∧ _ ∧ _ := by simpa only [Except.ok.injEq, Prod.mk.injEq] using h
      omega
    · obtain ⟨i, rfl⟩ := Int.eq_ofNat_of_zero_le (Int.not_lt.1 h0)
      rw [shepp_index_spec nz i (by omega)] at h
      obtain ⟨e1, e2, e3⟩ : _ ∧ _ ∧ _ := by simpa only [Except.ok.injEq, Prod.mk.injEq] using h
      omega

/-- what held for negative indices on the pinned tree (`"slice_no": idx`): the **data** was that of slice `nz + idx`,
the reported `slice_no` was `idx` as given … -/
theorem shepp_index_negative_pinned_partial (nz : Nat) (idx : Int) (h0 : idx < 0) (h1 : -(nz : Int) ≤ idx) :
    sheppIndexPinned nz idx = .ok ((idx + nz).toNat, (idx + nz).toNat, idx) :=
  sheppIndexWith_neg true nz idx h0 h1

/-- … regression (pinned tree): `ds[-1]` of a 4-slice phantom was slice 3 labelled `slice_no = -1`, so
`shepp_index_consistent` failed -/
theorem shepp_negative_index_pinned_violates :
    sheppIndexPinned 4 (-1) = .ok (3, 3, -1) ∧ ¬ (∀ idx s k r, sheppIndexPinned 4 idx = .ok (s, k, r) → r = (s : Int)) := by
  refine ⟨by rfl, fun h => ?_⟩
  have := h (-1) 3 3 (-1) (by rfl)
  omega

/-! ## instances: the hypotheses of the theorems above can be met, and the models compute what the code returns -/

private def exFiles : List (Nat × Option Nat) := [(1, some 3), (2, none), (3, some 1), (4, some 5)]
private def exFilt : Option PySliceT := some ⟨some 1, none, some 2⟩

example : (parseFilenames exFiles exFilt).vols = [(1, 0, 1), (3, 1, 1), (4, 1, 3)] := by decide
example : (parseFilenames exFiles exFilt).data = [(1, 1), (4, 1), (4, 3)] := by decide
example : (parseFilenames exFiles none).data.length = 9 := by decide
example : 2 < (parseFilenames exFiles exFilt).data.length := by decide
example : 2 < (readable exFiles).length := by decide
example : ((readable exFiles).map (·.1)).Nodup := by decide
example : cmrBlock .none 2 3 4 = some [(1, 1)] := by decide
example : (cmrParse .time [((1 : Nat), some (2, 3)), (2, some (1, 4))]).vols = [(1, 0, 3), (2, 3, 7)] := by decide
example : selectFiles true true (fun a b => decide (a ≤ b)) ⟨[(2 : Nat), 3, 1], none, none, false, true, fun x => x != 3⟩ = .ok [1, 2] := by rfl
example : selectFiles true true (fun a b => decide (a ≤ b)) ⟨[], some [(3 : Nat), 1, 3], none, false, false, fun _ => true⟩ = .ok [3, 1] := by rfl
example : (buildH5 true true (fun a b => decide (a ≤ b)) ⟨[], some [(3 : Nat), 1, 3], none, false, false, fun _ => true⟩ (fun _ => some 2) .none).toOption.map (·.vols) = some [(3, 0, 2), (1, 2, 4)] := by decide
example : sliceList (some ⟨none, none, some (-2)⟩) 5 = [0, 2, 4] := by decide
example : numSlices (some ⟨some 50, some (-50), none⟩) 7 = 0 := by decide
example : (2 : Nat) < 3 ∧ 4 < 2 * 2 + 1 := by decide
example : getSliceWindow 1 3 0 = [.zero, .slice 0, .slice 1] := by decide
example : getSliceWindow 2 2 1 = [.zero, .slice 0, .slice 1, .zero, .zero] := by decide
example : h5Item (parseFilenames exFiles exFilt) (fun f => if f = 4 then 5 else 3) 1 (-1) =
    .ok (4, 3, [.slice 2, .slice 3, .slice 4]) := by rfl
example : (4 : Nat) < [2, 0, 3].sum := by decide
example : locate [2, 0, 3] 4 = .ok (2, 2) := by rfl
example : locate [2, 0, 3] (-1) = .ok (2, 2) := by rfl
example : locate [2, 0, 3] 5 = .error .indexError := by rfl
example : locate [2, 0, 3] (-6) = .error .valueError := by rfl
example : (1 : Nat) < [2, 0, 3, 2].length ∧ (2 : Nat) < [2, 0, 3, 2].length ∧ (1 : Nat) < [2, 0, 3, 2][2] := by decide
example : locate [2, 0, 3, 2] ((([2, 0, 3, 2].take 2).sum + 1 : Nat) : Int) = .ok (2, 1) := by rfl
example : concatGetRep [2, 0, 3] [0, 1, 0, 2, 0] 5 = .ok (3, 2, 1) := by rfl
example : concatGetRep [2, 0, 3] [0, 1, 0, 2, 0] (-1) = .ok (4, 0, 1) := by rfl
example : (5 : Nat) < ([0, 1, 0, 2, 0].map fun p => [2, 0, 3].getD p 0).sum := by decide
example : bisectRightBin (cumsum [2, 0, 3]) 2 = 2 := by decide
example : (cumsum [2, 0, 3]).Pairwise (· ≤ ·) := by decide
example : flatPairs [2, 0, 3] = [(0, 0), (0, 1), (2, 0), (2, 1), (2, 2)] := by decide
example : buildCmr true true (fun a b => decide (a ≤ b)) ⟨[(2 : Nat), 1], none, none, false, false, fun _ => true⟩ .time
    (fun f => if f = 1 then some (2, 3) else none) = .ok ⟨[(1, 0), (1, 1), (1, 2)], [(1, 0, 3)], 3⟩ := by rfl
example : blobCounts 30 4 = [8, 8, 7, 7] := by decide
example : blobRequests ⟨4, 3, 30⟩ = [.uniformN 12, .normalN 24, .normalN 24, .normalN 21, .normalN 21, .shuffleN 30] := by decide
example : blobArgs [3, 6, 5] 4 0 = ⟨4, 3, 30⟩ := by decide
example : fakeNames [(7 : Nat)] 2 (fun b k => b * 100000 + k) = .ok [700001, 700002] := by rfl
example : (fakeBuild [(1 : Nat), 2] [10, 11] 3).vols = [(1, 0, 3), (2, 3, 6)] := by decide
example : (fakeBuild [(1 : Nat), 2] [10, 11] 3).vols[1]? = some (2, 1 * 3, 1 * 3 + 3) := by decide
example : fakeIndex (fakeBuild [(1 : Nat), 2] [10, 11] 3) (-1) = .ok (2, 2, 11) := by rfl
example : [(1 : Nat), 2].Nodup ∧ (1 : Nat) < [(1 : Nat), 2].length ∧ (2 : Nat) < 3 := by decide
example : sheppIndex 4 2 = .ok (2, 2, 2) := by rfl
example : sheppIndex 4 4 = .error .indexError := by rfl
example : sheppIndex 4 (-1) = .ok (3, 3, 3) := by rfl
example : selectFilesRaw true true true (fun (x : Nat × Nat) => x.2) (fun a b => decide (a ≤ b))
    ⟨[], some [(0, 5), (1, 5), (2, 3)], none, false, false, fun _ => true⟩ (fun _ => true) = .ok [5, 3] := by rfl
example : fakeTableCurrent.allTrue = true := by decide
example : (fakeItem toyRng fakeTableCurrent (fun d _ => d) ⟨3, 2, 18⟩ 3 5 0 0).1 = ((6000, some 6000), 0).1 := by decide
example : sheppTableCurrent.allTrue = true := by decide
example : (sheppItem toyRng sheppTableCurrent id 1 7 true 4 0).1 = (sheppItem toyRng sheppTableCurrent id 1 7 true 4 1).1 := by decide
example : (sheppItem toyRng sheppTableCurrent id 2 7 true 4 0).1 = (some 8000, some 8000) := by decide

end DirectVerif.C12
