import DirectVerif.Model.Complex
import DirectVerif.Lemmas.C02Tensor
import DirectVerif.Lemmas.C02Sums
import Mathlib.Data.Complex.Basic
import Mathlib.Data.Complex.BigOperators
import Mathlib.Data.Matrix.Mul
import Mathlib.Algebra.BigOperators.Group.List.Basic
import Mathlib.Algebra.BigOperators.Fin
/-!
# C02 — the real-pair complex helpers are native complex arithmetic; coil expand / reduce are linear,
mutually adjoint, and `reduce ∘ expand = id` for unit root-sum-of-squares maps

About the definitions of `Model/Complex.lean` (the ones the driver executes over `Rat`), instantiated at `ℝ` and read in
`ℂ` through `toC ⟨re, im⟩ = re + im·i`: scalar helpers, fibres, matrices, the coil operators for arbitrary finite index
types, and then **the flat row-major tensor operators themselves** (index arithmetic in `Lemmas/C02Tensor.lean`).

**Float-range note.**  Every theorem is over `ℝ` / `ℂ`, where the squares `b₀² + b₁²`, `a₀² + a₁²` and the products
`aᵢ bⱼ` always exist.  In float32 the *same formulas* leave the representable range although operands and exact result
are ordinary float32 numbers (known findings, keys `float-range:<helper>:<class>` of `harness/props/c02.py`):
`complex_division`: `1e20 / 1e20 = nan`, `(3e19+4e19i) / 1e19 = 3 + inf·i`, `1 / 1e20 = 0`, `1e-30 / 1e-30 = 0`
(`b₀² + b₁²` underflows to 0 and `safe_divide` then treats `b` as zero — so `cdiv_eq` holds in float32 only for
`|b| ≳ 1e-19`); `modulus`, `root_sum_of_squares`: `|3e19+4e19i| = inf`, `|3e-30+4e-30i| = 0`.  The other helpers show no
such deviation.  No theorem here claims anything about float32 rounding, overflow or underflow.
-/
namespace DirectVerif.C02
open DirectVerif DirectVerif.Cx
open scoped BigOperators ComplexConjugate

def toC (a : Cpx ℝ) : ℂ := ⟨a.re, a.im⟩
def ofC (z : ℂ) : Cpx ℝ := ⟨z.re, z.im⟩

@[simp] theorem toC_ofC (z : ℂ) : toC (ofC z) = z := rfl
@[simp] theorem ofC_toC (a : Cpx ℝ) : ofC (toC a) = a := rfl
theorem toC_injective : Function.Injective toC := fun a b h => by
  have := congrArg ofC h; rwa [ofC_toC, ofC_toC] at this

theorem cmul_eq (a b : Cpx ℝ) : toC (cmul a b) = toC a * toC b := by
  apply Complex.ext <;> simp [toC, cmul]

theorem conj_eq (a : Cpx ℝ) : toC (Cx.conj a) = conj (toC a) := by
  apply Complex.ext <;> simp [toC, Cx.conj]

/-- `(data**2).sum(-1)` is `|z|²`, so `modulus = ‖z‖` (over `ℝ`; in float32 the square overflows for `|z| ≳ 1.8e19` and
underflows for `|z| ≲ 1e-19`) -/
theorem modulus_sq_eq_normSq (a : Cpx ℝ) : modSq a = Complex.normSq (toC a) := by
  simp [modSq, toC, Complex.normSq_apply]

theorem cdivDen_eq_normSq (b : Cpx ℝ) : cdivDen b = Complex.normSq (toC b) := by
  simp [cdivDen, toC, Complex.normSq_apply]

/-- the numerators of `complex_division` are `a · conj b` -/
theorem cdivNum_eq (a b : Cpx ℝ) : toC (cdivNum a b) = toC a * conj (toC b) := by
  apply Complex.ext
  · simp [toC, cdivNum]
  · simp [toC, cdivNum]
    ring

/-- `complex_division` (over `ℝ`; in float32 `cdivDen b` can be `0` or `inf` for `b ≠ 0`, see the note at the top) -/
theorem cdiv_eq (a b : Cpx ℝ) (hb : toC b ≠ 0) : toC (cdiv a b) = toC a / toC b := by
  have hn : Complex.normSq (toC b) ≠ 0 := fun h => hb (Complex.normSq_eq_zero.mp h)
  have hd : cdivDen b ≠ 0 := by rw [cdivDen_eq_normSq]; exact hn
  apply Complex.ext
  · simp only [cdiv, safeDiv, if_neg hd, toC, Complex.div_re]
    simp only [cdivNum, cdivDen, Complex.normSq_apply]
    ring
  · simp only [cdiv, safeDiv, if_neg hd, toC, Complex.div_im]
    simp only [cdivNum, cdivDen, Complex.normSq_apply]
    ring

/-- `safe_divide`: zero where the divisor is zero (no NaN / inf) -/
theorem cdiv_zero (a b : Cpx ℝ) (hb : toC b = 0) : cdiv a b = ⟨0, 0⟩ := by
  have hd : cdivDen b = 0 := by rw [cdivDen_eq_normSq, hb]; simp
  simp [cdiv, safeDiv, hd]

/-- in `ℂ` the two cases agree with Mathlib's total division (`z / 0 = 0`) -/
theorem cdiv_eq_total (a b : Cpx ℝ) : toC (cdiv a b) = toC a / toC b := by
  by_cases hb : toC b = 0
  · rw [cdiv_zero a b hb, hb, div_zero]; rfl
  · exact cdiv_eq a b hb

theorem toC_add (a b : Cpx ℝ) : toC (a + b) = toC a + toC b := by
  apply Complex.ext <;> rfl

theorem toC_zero : toC (0 : Cpx ℝ) = 0 := by apply Complex.ext <;> rfl

theorem toC_sum (xs : List (Cpx ℝ)) : toC xs.sum = (xs.map toC).sum := by
  induction xs with
  | nil => exact toC_zero
  | cons x xs ih => rw [List.sum_cons, toC_add, ih, List.map_cons, List.sum_cons]

/-- `complex_dot_product` is `Σ conj(aᵢ)·bᵢ` -/
theorem cdot_eq_inner (a b : List (Cpx ℝ)) :
    toC (cdot a b) = (List.zipWith (fun x y => conj (toC x) * toC y) a b).sum := by
  rw [cdot, toC_sum, List.map_zipWith]
  simp only [cmul_eq, conj_eq]

theorem reduceFibre_eq (s y : List (Cpx ℝ)) :
    toC (reduceFibre s y) = (List.zipWith (fun si yi => conj (toC si) * toC yi) s y).sum :=
  cdot_eq_inner s y

theorem expandFibre_eq (s : List (Cpx ℝ)) (x : Cpx ℝ) :
    (expandFibre s x).map toC = s.map fun si => toC si * toC x := by
  simp [expandFibre, cmul_eq]

/-- the square of `root_sum_of_squares` is `Σ |xᵢ|²` -/
theorem rssSq_eq (xs : List (Cpx ℝ)) : rssSq xs = (xs.map fun x => Complex.normSq (toC x)).sum := by
  simp only [rssSq]
  exact congrArg List.sum (List.map_congr_left fun x _ => modulus_sq_eq_normSq x)

/-- **`complex_mm` / `complex_bmm`**: the four real products assemble the complex matrix product, for every index type -/
theorem cmm_eq_matrix_mul {l m n : Type} [Fintype m] (A : Matrix l m ℂ) (B : Matrix m n ℂ) :
    cmmWith (fun (X : Matrix l m ℝ) (Y : Matrix m n ℝ) => X * Y)
        (A.map Complex.re) (A.map Complex.im) (B.map Complex.re) (B.map Complex.im)
      = ((A * B).map Complex.re, (A * B).map Complex.im) := by
  refine Prod.ext (Matrix.ext fun i j => ?_) (Matrix.ext fun i j => ?_)
  · simp only [cmmWith, Matrix.sub_apply, Matrix.mul_apply, Matrix.map_apply, Complex.re_sum, Complex.mul_re,
      Finset.sum_sub_distrib]
  · simp only [cmmWith, Matrix.add_apply, Matrix.mul_apply, Matrix.map_apply, Complex.im_sum, Complex.mul_im,
      Finset.sum_add_distrib]

/-- batch-wise: a batch of matrices is a matrix-valued function -/
theorem cbmm_eq {β l m n : Type} [Fintype m] (A : β → Matrix l m ℂ) (B : β → Matrix m n ℂ) :
    cmmWith (fun (X : β → Matrix l m ℝ) (Y : β → Matrix m n ℝ) => fun b => X b * Y b)
        (fun b => (A b).map Complex.re) (fun b => (A b).map Complex.im)
        (fun b => (B b).map Complex.re) (fun b => (B b).map Complex.im)
      = (fun b => ((A b) * (B b)).map Complex.re, fun b => ((A b) * (B b)).map Complex.im) := by
  have h := fun b => cmm_eq_matrix_mul (A b) (B b)
  simp only [cmmWith, Prod.mk.injEq] at h ⊢
  exact ⟨funext fun b => (h b).1, funext fun b => (h b).2⟩

/-! ### the row-list products the driver executes (`rmm`, `cmm`) are Mathlib's matrix products -/

/-- how the driver slices the flat data of an `(n, m)` tensor -/
def rowsOf {α : Type} {n m : ℕ} (A : Matrix (Fin n) (Fin m) α) : List (List α) :=
  List.ofFn fun i => List.ofFn fun j => A i j

theorem rowsOf_map {α β : Type} {n m : ℕ} (A : Matrix (Fin n) (Fin m) α) (f : α → β) :
    (rowsOf A).map (·.map f) = rowsOf (A.map f) := by
  simp [rowsOf, List.map_ofFn, Function.comp_def]

theorem sum_zipWith_ofFn {α β M : Type} [AddCommMonoid M] (f : α → β → M) :
    ∀ {c : ℕ} (a : Fin c → α) (b : Fin c → β),
      (List.zipWith f (List.ofFn a) (List.ofFn b)).sum = ∑ i, f (a i) (b i)
  | 0, _, _ => by simp
  | c + 1, a, b => by
    rw [List.ofFn_succ, List.ofFn_succ, List.zipWith_cons_cons, List.sum_cons, Fin.sum_univ_succ,
      sum_zipWith_ofFn f (fun i => a i.succ) (fun i => b i.succ)]

theorem range_map_eq_ofFn {α : Type} (p : ℕ) (g : ℕ → α) : (List.range p).map g = List.ofFn fun j : Fin p => g j := by
  apply List.ext_getElem <;> simp

/-- **`torch.mm` as modelled (`rmm`)**, all sizes incl. `1 × m`, `n × 1`, `m = 0` -/
theorem rmm_eq_matrix_mul {n m p : ℕ} (X : Matrix (Fin n) (Fin m) ℝ) (Y : Matrix (Fin m) (Fin p) ℝ) :
    rmm p (rowsOf X) (rowsOf Y) = rowsOf (X * Y) := by
  unfold rmm rowsOf
  rw [List.map_ofFn]
  congr 1
  funext i
  simp only [Function.comp]
  rw [range_map_eq_ofFn]
  congr 1
  funext j
  rw [List.map_ofFn]
  have : ((fun r : List ℝ => r.getD (j : ℕ) 0) ∘ fun k => List.ofFn fun j' => Y k j') = fun k => Y k j := by
    funext k
    simp [List.getD_eq_getElem?_getD]
  rw [this, sum_zipWith_ofFn, Matrix.mul_apply]

theorem zipWith_rowsOf {α β γ : Type} {n p : ℕ} (g : α → β → γ) (X : Matrix (Fin n) (Fin p) α) (Y : Matrix (Fin n) (Fin p) β) :
    List.zipWith (List.zipWith g) (rowsOf X) (rowsOf Y) = rowsOf (Matrix.of fun i j => g (X i j) (Y i j)) := by
  unfold rowsOf
  apply List.ext_getElem
  · simp
  · intro i _ _
    simp only [List.getElem_zipWith, List.getElem_ofFn]
    apply List.ext_getElem <;> simp

/-- **`complex_mm` as the driver executes it** (`cmm` on row lists of pairs); `complex_bmm` applies it per batch element -/
theorem cmm_eq_matrix_mul_rows {n m p : ℕ} (A : Matrix (Fin n) (Fin m) ℂ) (B : Matrix (Fin m) (Fin p) ℂ) :
    cmm p (rowsOf (A.map ofC)) (rowsOf (B.map ofC)) = rowsOf ((A * B).map ofC) := by
  have h := cmm_eq_matrix_mul A B
  simp only [cmmWith, Prod.mk.injEq] at h
  unfold cmm cmmWith
  simp only [rowsOf_map, Matrix.map_map]
  have e1 : (Cpx.re ∘ ofC : ℂ → ℝ) = Complex.re := rfl
  have e2 : (Cpx.im ∘ ofC : ℂ → ℝ) = Complex.im := rfl
  simp only [e1, e2, rmm_eq_matrix_mul]
  show List.zipWith _ (List.zipWith _ _ _) (List.zipWith _ _ _) = _
  rw [zipWith_rowsOf, zipWith_rowsOf, zipWith_rowsOf]
  congr 1
  ext i j
  exact congrArg₂ Cpx.mk (congrFun (congrFun h.1 i) j) (congrFun (congrFun h.2 i) j)

/-! ## coil expand / reduce for an arbitrary finite coil index type `ι` and pixel index type `P`

computed with the model's `cmul` and `conj`; for `ι = Fin c` they are the fibre functions of the model. -/
section Coil
variable {ι P : Type}

/-- `expand_operator`: coil `i`, pixel `p` ↦ `Sᵢ(p) · x(p)` -/
def expand (S : ι → P → ℂ) (x : P → ℂ) : ι → P → ℂ :=
  fun i p => toC (cmul (ofC (S i p)) (ofC (x p)))

/-- `reduce_operator`: pixel `p` ↦ `Σᵢ conj(Sᵢ(p)) · yᵢ(p)` -/
def reduce [Fintype ι] (S : ι → P → ℂ) (y : ι → P → ℂ) : P → ℂ :=
  fun p => ∑ i, toC (cmul (Cx.conj (ofC (S i p))) (ofC (y i p)))

theorem expand_apply (S : ι → P → ℂ) (x : P → ℂ) (i : ι) (p : P) : expand S x i p = S i p * x p := by
  simp [expand, cmul_eq]

theorem reduce_apply [Fintype ι] (S : ι → P → ℂ) (y : ι → P → ℂ) (p : P) :
    reduce S y p = ∑ i, conj (S i p) * y i p := by
  simp [reduce, cmul_eq, conj_eq]

theorem expand_linear (S : ι → P → ℂ) (a : ℂ) (x x' : P → ℂ) :
    expand S (a • x + x') = a • expand S x + expand S x' := by
  funext i p
  simp only [expand_apply, Pi.add_apply, Pi.smul_apply, smul_eq_mul]
  ring

theorem reduce_linear [Fintype ι] (S : ι → P → ℂ) (a : ℂ) (y y' : ι → P → ℂ) :
    reduce S (a • y + y') = a • reduce S y + reduce S y' := by
  funext p
  simp only [reduce_apply, Pi.add_apply, Pi.smul_apply, smul_eq_mul, Finset.mul_sum, ← Finset.sum_add_distrib]
  exact Finset.sum_congr rfl fun i _ => by ring

/-- **C02: adjointness** `⟪E_S x, y⟫ = ⟪x, R_S y⟫` (`⟪u, v⟫ = Σ conj(u)·v`), arbitrary sensitivity maps -/
theorem adjoint [Fintype ι] [Fintype P] (S : ι → P → ℂ) (x : P → ℂ) (y : ι → P → ℂ) :
    ∑ i, ∑ p, conj (expand S x i p) * y i p = ∑ p, conj (x p) * reduce S y p := by
  simp only [expand_apply, reduce_apply, Finset.mul_sum, map_mul]
  rw [Finset.sum_comm]
  exact Finset.sum_congr rfl fun p _ => Finset.sum_congr rfl fun i _ => by ring

/-- `reduce ∘ expand` multiplies by `Σᵢ |Sᵢ|²` (= rss²) -/
theorem reduce_expand [Fintype ι] (S : ι → P → ℂ) (x : P → ℂ) (p : P) :
    reduce S (expand S x) p = ((∑ i, Complex.normSq (S i p) : ℝ) : ℂ) * x p := by
  simp only [reduce_apply, expand_apply]
  have e : ∀ i, conj (S i p) * (S i p * x p) = ((Complex.normSq (S i p) : ℝ) : ℂ) * x p := fun i => by
    rw [← mul_assoc, mul_comm (conj (S i p)), Complex.mul_conj]
  simp only [e, ← Finset.sum_mul, ← Complex.ofReal_sum]

/-- **C02: reduce ∘ expand = id** whenever the maps have unit root-sum-of-squares at every pixel -/
theorem reduce_expand_id [Fintype ι] (S : ι → P → ℂ) (h : ∀ p, ∑ i, Complex.normSq (S i p) = 1) (x : P → ℂ) :
    reduce S (expand S x) = x := by
  funext p
  rw [reduce_expand, h p, Complex.ofReal_one, one_mul]

end Coil

theorem reduce_eq_reduceFibre {P : Type} {c : ℕ} (S y : Fin c → P → ℂ) (p : P) :
    reduce S y p = toC (reduceFibre (List.ofFn fun i => ofC (S i p)) (List.ofFn fun i => ofC (y i p))) := by
  rw [reduceFibre_eq, sum_zipWith_ofFn, reduce_apply]
  simp only [toC_ofC]

theorem expand_eq_expandFibre {P : Type} {c : ℕ} (S : Fin c → P → ℂ) (x : P → ℂ) (p : P) :
    (List.ofFn fun i => expand S x i p) = (expandFibre (List.ofFn fun i => ofC (S i p)) (ofC (x p))).map toC := by
  simp [expandFibre, expand, List.map_ofFn, Function.comp_def]

/-! ## the tensor-level operators the driver executes refine to `expand` / `reduce`

through the index views `coilFn` (entry `[o, j, i]` ↦ coil `j`, pixel `(o, i)`) and `pixFn`, so adjointness, `R ∘ E = id`
and linearity hold for the tensors themselves: the inner products are the model's own `cdot` on the flat data. -/
section TensorLevel
open DirectVerif.C02T DirectVerif.C02S DirectVerif.TensorLift

/-- shape `pre ++ [c] ++ post`, `Q = prod pre`, `P = prod post` -/
def coilFn (Q c P : ℕ) (t : Tensor (Cpx ℝ)) : Fin c → Fin Q × Fin P → ℂ :=
  fun j p => toC (t.data.getD (pos3 c P p.1 j p.2) default)

/-- shape `pre ++ post` -/
def pixFn (Q P : ℕ) (t : Tensor (Cpx ℝ)) : Fin Q × Fin P → ℂ :=
  fun p => toC (t.data.getD (p.1 * P + p.2) default)

/-- `dim` names the coil axis `pre.length`, in either Python form -/
structure CoilAxis (pre post : List ℕ) (d : ℤ) : Prop where
  unsq : unsqAxis (pre.length + post.length) d = pre.length
  norm : normAxis (pre.length + 1 + post.length) d = pre.length

theorem CoilAxis.nonneg (pre post : List ℕ) : CoilAxis pre post (pre.length : ℤ) :=
  ⟨unsqAxis_nonneg _ _, normAxis_nonneg _ _⟩

theorem CoilAxis.neg (pre post : List ℕ) : CoilAxis pre post ((pre.length : ℤ) - ((pre.length + 1 + post.length : ℕ) : ℤ)) := by
  constructor
  · have e : ((pre.length : ℤ) - ((pre.length + 1 + post.length : ℕ) : ℤ)) =
        (pre.length : ℤ) - (((pre.length + post.length : ℕ) : ℤ) + 1) := by push_cast; ring
    rw [e]; exact unsqAxis_neg _ _ (by omega)
  · exact normAxis_neg _ _ (by omega)

variable {pre post : List ℕ} {c : ℕ} {d : ℤ}

/-- the tensor `expand_operator(x, S, d)` the driver computes, read through the index view, is `expand` of the views -/
theorem expandOp_refines (x S : Tensor (Cpx ℝ)) (hx : x.shape = pre ++ post) (hS : S.shape = pre ++ [c] ++ post)
    (hd : CoilAxis pre post d) :
    coilFn (prod pre) c (prod post) (expandOp x S d) =
      expand (coilFn (prod pre) c (prod post) S) (pixFn (prod pre) (prod post) x) := by
  funext j p
  obtain ⟨_, _, h⟩ := expandOp_spec x S pre post c d hx hS hd.unsq
  simp only [coilFn, pixFn, expand, ofC_toC]
  rw [h p.1 j p.2 p.1.isLt j.isLt p.2.isLt]

theorem list_sum_fin {n : ℕ} (f : ℕ → ℂ) : ((List.range n).map f).sum = ∑ j : Fin n, f j := by
  rw [list_sum_range_map, Finset.sum_range]

theorem reduceOp_refines (y S : Tensor (Cpx ℝ)) (hy : y.shape = pre ++ [c] ++ post) (hS : S.shape = pre ++ [c] ++ post)
    (wy : y.data.length = prod y.shape) (wS : S.data.length = prod S.shape) (hd : CoilAxis pre post d) :
    pixFn (prod pre) (prod post) (reduceOp y S d) =
      reduce (coilFn (prod pre) c (prod post) S) (coilFn (prod pre) c (prod post) y) := by
  funext p
  obtain ⟨_, _, h⟩ := reduceOp_spec y S pre post c d hy hS wy wS hd.norm
  simp only [pixFn, reduce, coilFn, ofC_toC]
  rw [h p.1 p.2 p.1.isLt p.2.isLt, toC_sum, List.map_map]
  exact list_sum_fin (fun j => toC (cmul (Cx.conj (S.data.getD (pos3 c (prod post) p.1 j p.2) default))
    (y.data.getD (pos3 c (prod post) p.1 j p.2) default)))

theorem rssSqT_refines (S : Tensor (Cpx ℝ)) (hS : S.shape = pre ++ [c] ++ post) (wS : S.data.length = prod S.shape)
    (hd : CoilAxis pre post d) (p : Fin (prod pre) × Fin (prod post)) :
    (rssSqT S d).data.getD (p.1 * prod post + p.2) default =
      ∑ j, Complex.normSq (coilFn (prod pre) c (prod post) S j p) := by
  obtain ⟨_, _, h⟩ := rssSqT_spec S pre post c d hS wS hd.norm
  rw [h p.1 p.2 p.1.isLt p.2.isLt, list_sum_range_map, Finset.sum_range]
  exact Finset.sum_congr rfl fun j _ => modulus_sq_eq_normSq _

theorem cdot_flat (a b : List (Cpx ℝ)) (N : ℕ) (ha : a.length = N) (hb : b.length = N) :
    toC (cdot a b) = ∑ k ∈ Finset.range N, conj (toC (a.getD k default)) * toC (b.getD k default) := by
  rw [cdot_eq_inner, zipWith_eq_range_map _ a b default default N ha hb, list_sum_range_map]

theorem cdot_coil (a b : Tensor (Cpx ℝ)) (Q c P : ℕ) (ha : a.data.length = Q * (c * P)) (hb : b.data.length = Q * (c * P)) :
    toC (cdot a.data b.data) = ∑ j, ∑ p, conj (coilFn Q c P a j p) * coilFn Q c P b j p := by
  rw [cdot_flat _ _ _ ha hb, sum_range_pos3, Finset.sum_comm]
  simp only [Fintype.sum_prod_type, coilFn, pos3]
  rw [Finset.sum_range]
  refine Finset.sum_congr rfl fun j _ => ?_
  rw [Finset.sum_range]
  refine Finset.sum_congr rfl fun o _ => ?_
  rw [Finset.sum_range]

theorem cdot_pix (a b : Tensor (Cpx ℝ)) (Q P : ℕ) (ha : a.data.length = Q * P) (hb : b.data.length = Q * P) :
    toC (cdot a.data b.data) = ∑ p, conj (pixFn Q P a p) * pixFn Q P b p := by
  rw [cdot_flat _ _ _ ha hb, sum_range_mul]
  simp only [Fintype.sum_prod_type, pixFn]
  rw [Finset.sum_range]
  refine Finset.sum_congr rfl fun o _ => ?_
  rw [Finset.sum_range]

/-- **C02: adjointness of the tensor-level operators**, both inner products computed by the model's `cdot`
(= `complex_dot_product` over all axes) on the flat data — every shape `pre ++ [c] ++ post`, either form of `d` -/
theorem adjoint_tensor (x y S : Tensor (Cpx ℝ)) (hx : x.shape = pre ++ post) (hy : y.shape = pre ++ [c] ++ post)
    (hS : S.shape = pre ++ [c] ++ post) (wx : x.data.length = prod x.shape) (wy : y.data.length = prod y.shape)
    (wS : S.data.length = prod S.shape) (hd : CoilAxis pre post d) :
    cdot (expandOp x S d).data y.data = cdot x.data (reduceOp y S d).data := by
  apply toC_injective
  have hE := (expandOp_spec x S pre post c d hx hS hd.unsq).2.1
  have hR := (reduceOp_spec y S pre post c d hy hS wy wS hd.norm).2.1
  rw [cdot_coil _ _ (prod pre) c (prod post) hE (by rw [wy, hy, prod3]),
    cdot_pix _ _ (prod pre) (prod post) (by rw [wx, hx, prod_append]) hR,
    expandOp_refines x S hx hS hd, reduceOp_refines y S hy hS wy wS hd]
  exact adjoint _ _ _

/-- so `rssSqT_refines` / `reduce_expand_id_tensor` speak about `root_sum_of_squares` as the driver's `rss` op runs it -/
theorem rssSqReal_eq_rssSqT_real (t : Tensor ℝ) (z : Tensor (Cpx ℝ)) (h : viewAsComplex t = some z)
    (w : t.data.length = prod t.shape) (dim : ℤ) : rssSqReal t dim (-1) = rssSqT z dim :=
  C02T.rssSqReal_eq_rssSqT t z h w add_zero dim

theorem modSqAxis_last_real (t : Tensor ℝ) (z : Tensor (Cpx ℝ)) (h : viewAsComplex t = some z)
    (w : t.data.length = prod t.shape) : modSqAxis t (-1) = ⟨z.shape, z.data.map fun a => Complex.normSq (toC a)⟩ := by
  rw [C02T.modSqAxis_last t z h w add_zero]
  have : (modSq : Cpx ℝ → ℝ) = fun a => Complex.normSq (toC a) := funext modulus_sq_eq_normSq
  simp only [modSqT, mapT, this]

theorem tensor_ext (t t' : Tensor (Cpx ℝ)) (N : ℕ) (hs : t.shape = t'.shape) (l : t.data.length = N)
    (l' : t'.data.length = N) (hv : ∀ k, k < N → toC (t.data.getD k default) = toC (t'.data.getD k default)) : t = t' := by
  obtain ⟨s, D⟩ := t
  obtain ⟨s', D'⟩ := t'
  cases hs
  exact congrArg _ (ext_getD _ _ default (l.trans l'.symm) fun k hk => toC_injective (hv k (l ▸ hk)))

theorem pix_ext (t t' : Tensor (Cpx ℝ)) (Q P : ℕ) (hs : t.shape = t'.shape) (l : t.data.length = Q * P)
    (l' : t'.data.length = Q * P) (hv : pixFn Q P t = pixFn Q P t') : t = t' := by
  refine tensor_ext t t' _ hs l l' fun k hk => ?_
  have hP : 0 < P := Nat.pos_of_ne_zero fun h => by subst h; simp at hk
  have hq : k / P < Q := Nat.div_lt_of_lt_mul (by rwa [Nat.mul_comm] at hk)
  have := congrFun hv (⟨k / P, hq⟩, ⟨k % P, Nat.mod_lt _ hP⟩)
  simpa only [pixFn, Nat.div_add_mod'] using this

theorem coil_ext (t t' : Tensor (Cpx ℝ)) (Q c P : ℕ) (hs : t.shape = t'.shape) (l : t.data.length = Q * (c * P))
    (l' : t'.data.length = Q * (c * P)) (hv : coilFn Q c P t = coilFn Q c P t') : t = t' := by
  refine tensor_ext t t' _ hs l l' fun k hk => ?_
  obtain ⟨o, j, i, ho, hj, hi, rfl⟩ := idx3_decomp k Q c P hk
  exact congrFun (congrFun hv ⟨j, hj⟩) (⟨o, ho⟩, ⟨i, hi⟩)

/-- **C02: `reduce_operator(expand_operator(x, S, d), S, d) = x`** as tensors, whenever the square of
`root_sum_of_squares(S, d)` the driver computes is `1` at every pixel -/
theorem reduce_expand_id_tensor (x S : Tensor (Cpx ℝ)) (hx : x.shape = pre ++ post) (hS : S.shape = pre ++ [c] ++ post)
    (wx : x.data.length = prod x.shape) (wS : S.data.length = prod S.shape) (hd : CoilAxis pre post d)
    (hU : ∀ o i, o < prod pre → i < prod post → (rssSqT S d).data.getD (o * prod post + i) default = 1) :
    reduceOp (expandOp x S d) S d = x := by
  obtain ⟨hEs, hEl, _⟩ := expandOp_spec x S pre post c d hx hS hd.unsq
  have wE : (expandOp x S d).data.length = prod (expandOp x S d).shape := by rw [hEl, hEs, prod3]
  obtain ⟨hRs, hRl, _⟩ := reduceOp_spec (expandOp x S d) S pre post c d hEs hS wE wS hd.norm
  apply pix_ext _ _ (prod pre) (prod post) (by rw [hRs, hx]) hRl (by rw [wx, hx, prod_append])
  rw [reduceOp_refines _ S hEs hS wE wS hd, expandOp_refines x S hx hS hd]
  apply reduce_expand_id
  intro p
  rw [← rssSqT_refines S hS wS hd p]
  exact hU p.1 p.2 p.1.isLt p.2.isLt

/-- `a·x + x'` on tensors, with the model's `cmul` and `+` -/
def axpy (a : Cpx ℝ) (x x' : Tensor (Cpx ℝ)) : Tensor (Cpx ℝ) :=
  ⟨x.shape, List.zipWith (fun u v => cmul a u + v) x.data x'.data⟩

theorem axpy_shape (a : Cpx ℝ) (x x' : Tensor (Cpx ℝ)) : (axpy a x x').shape = x.shape := rfl

theorem axpy_length (a : Cpx ℝ) (x x' : Tensor (Cpx ℝ)) (N : ℕ) (l : x.data.length = N) (l' : x'.data.length = N) :
    (axpy a x x').data.length = N := by
  show (List.zipWith _ x.data x'.data).length = N
  rw [List.length_zipWith, l, l', Nat.min_self]

theorem axpy_getD (a : Cpx ℝ) (x x' : Tensor (Cpx ℝ)) (N k : ℕ) (l : x.data.length = N) (l' : x'.data.length = N) (hk : k < N) :
    toC ((axpy a x x').data.getD k default) = toC a * toC (x.data.getD k default) + toC (x'.data.getD k default) := by
  simp only [axpy]
  rw [zipWith_eq_range_map _ _ _ default default N l l']
  simp [List.getD_eq_getElem?_getD, List.getElem?_range hk, toC_add, cmul_eq]

theorem pixFn_axpy (a : Cpx ℝ) (x x' : Tensor (Cpx ℝ)) (Q P : ℕ) (l : x.data.length = Q * P) (l' : x'.data.length = Q * P) :
    pixFn Q P (axpy a x x') = toC a • pixFn Q P x + pixFn Q P x' := by
  funext p
  simp only [pixFn, Pi.add_apply, Pi.smul_apply, smul_eq_mul]
  exact axpy_getD a x x' _ _ l l' (idx2_lt _ _ _ _ p.1.isLt p.2.isLt)

theorem coilFn_axpy (a : Cpx ℝ) (y y' : Tensor (Cpx ℝ)) (Q c P : ℕ) (l : y.data.length = Q * (c * P))
    (l' : y'.data.length = Q * (c * P)) :
    coilFn Q c P (axpy a y y') = toC a • coilFn Q c P y + coilFn Q c P y' := by
  funext j p
  simp only [coilFn, Pi.add_apply, Pi.smul_apply, smul_eq_mul]
  exact axpy_getD a y y' _ _ l l' (pos3_lt _ _ _ _ _ _ p.1.isLt j.isLt p.2.isLt)

/-- `E(a·x + x') = a·E(x) + E(x')` at tensor level -/
theorem expandOp_linear (a : Cpx ℝ) (x x' S : Tensor (Cpx ℝ)) (hx : x.shape = pre ++ post) (hx' : x'.shape = pre ++ post)
    (hS : S.shape = pre ++ [c] ++ post) (wx : x.data.length = prod x.shape) (wx' : x'.data.length = prod x'.shape)
    (hd : CoilAxis pre post d) :
    expandOp (axpy a x x') S d = axpy a (expandOp x S d) (expandOp x' S d) := by
  have lx : x.data.length = prod pre * prod post := by rw [wx, hx, prod_append]
  have lx' : x'.data.length = prod pre * prod post := by rw [wx', hx', prod_append]
  obtain ⟨s1, l1, _⟩ := expandOp_spec (axpy a x x') S pre post c d hx hS hd.unsq
  obtain ⟨s2, l2, _⟩ := expandOp_spec x S pre post c d hx hS hd.unsq
  obtain ⟨s3, l3, _⟩ := expandOp_spec x' S pre post c d hx' hS hd.unsq
  refine coil_ext _ _ (prod pre) c (prod post) ?_ l1 (axpy_length a _ _ _ l2 l3) ?_
  · rw [s1, axpy_shape, s2]
  calc coilFn (prod pre) c (prod post) (expandOp (axpy a x x') S d)
      = expand (coilFn (prod pre) c (prod post) S) (pixFn (prod pre) (prod post) (axpy a x x')) :=
        expandOp_refines _ S hx hS hd
    _ = toC a • expand (coilFn (prod pre) c (prod post) S) (pixFn (prod pre) (prod post) x) +
          expand (coilFn (prod pre) c (prod post) S) (pixFn (prod pre) (prod post) x') := by
        rw [pixFn_axpy a x x' _ _ lx lx']; exact expand_linear _ _ _ _
    _ = coilFn (prod pre) c (prod post) (axpy a (expandOp x S d) (expandOp x' S d)) := by
        rw [coilFn_axpy a _ _ _ _ _ l2 l3, expandOp_refines x S hx hS hd, expandOp_refines x' S hx' hS hd]

/-- `R(a·y + y') = a·R(y) + R(y')` at tensor level -/
theorem reduceOp_linear (a : Cpx ℝ) (y y' S : Tensor (Cpx ℝ)) (hy : y.shape = pre ++ [c] ++ post)
    (hy' : y'.shape = pre ++ [c] ++ post) (hS : S.shape = pre ++ [c] ++ post) (wy : y.data.length = prod y.shape)
    (wy' : y'.data.length = prod y'.shape) (wS : S.data.length = prod S.shape) (hd : CoilAxis pre post d) :
    reduceOp (axpy a y y') S d = axpy a (reduceOp y S d) (reduceOp y' S d) := by
  have ly : y.data.length = prod pre * (c * prod post) := by rw [wy, hy, prod3]
  have ly' : y'.data.length = prod pre * (c * prod post) := by rw [wy', hy', prod3]
  have wA : (axpy a y y').data.length = prod (axpy a y y').shape :=
    (axpy_length a y y' _ ly ly').trans (by rw [axpy_shape, hy, prod3])
  obtain ⟨s1, l1, _⟩ := reduceOp_spec (axpy a y y') S pre post c d hy hS wA wS hd.norm
  obtain ⟨s2, l2, _⟩ := reduceOp_spec y S pre post c d hy hS wy wS hd.norm
  obtain ⟨s3, l3, _⟩ := reduceOp_spec y' S pre post c d hy' hS wy' wS hd.norm
  refine pix_ext _ _ (prod pre) (prod post) ?_ l1 (axpy_length a _ _ _ l2 l3) ?_
  · rw [s1, axpy_shape, s2]
  rw [reduceOp_refines _ S (show (axpy a y y').shape = pre ++ [c] ++ post from hy) hS wA wS hd, coilFn_axpy a y y' _ _ _ ly ly',
    reduce_linear, pixFn_axpy a _ _ _ _ l2 l3, reduceOp_refines y S hy hS wy wS hd, reduceOp_refines y' S hy' hS wy' wS hd]

end TensorLevel

/-- a unit-RSS pair of maps on one pixel: `S = (3/5, 4/5 i)` -/
example : ∑ i : Fin 2, Complex.normSq ((![(3 / 5 : ℂ), (4 / 5 : ℂ) * Complex.I] : Fin 2 → ℂ) i) = 1 := by
  rw [Fin.sum_univ_two]
  simp only [Matrix.cons_val_zero, Matrix.cons_val_one, Complex.normSq_mul, Complex.normSq_I, mul_one, Complex.normSq_div,
    Complex.normSq_ofNat]
  norm_num
example : cmul (⟨1, 2⟩ : Cpx Int) ⟨3, 4⟩ = ⟨-5, 10⟩ := by decide
example : Cx.conj (⟨1, 2⟩ : Cpx Int) = ⟨1, -2⟩ := by decide
example : cdiv (⟨1, 2⟩ : Cpx ℝ) ⟨0, 0⟩ = ⟨0, 0⟩ := cdiv_zero _ _ rfl
example : cdiv (⟨-5, 10⟩ : Cpx ℝ) ⟨3, 4⟩ = ⟨1, 2⟩ := by
  simp [cdiv, safeDiv, cdivNum, cdivDen]; norm_num
example : reduceFibre [(⟨0, 1⟩ : Cpx Int), ⟨1, 0⟩] (expandFibre [⟨0, 1⟩, ⟨1, 0⟩] ⟨2, 3⟩) = ⟨4, 6⟩ := by decide
example : toC ⟨3, 4⟩ ≠ 0 := by simp [toC, Complex.ext_iff]


/-! ## call-site table: what a well-formed row means (for **every** table; `Bridge/C02.coil_sites_wf` decides the
generated one) -/
section Sites

theorem isCoil_axis (s : CoilSite) (coil : Int) (h : s.dim.isCoil s.declared = true)
    (hdecl : s.declared = none ∨ s.declared = some coil) : s.axis coil = coil := by
  -- a literal or omitted axis is accepted only when it is the declared value, and the declared value is `coil`
  have key : ∀ v, s.declared = some v → v = coil := fun v hv => by
    rcases hdecl with hn | hc
    · rw [hn] at hv; cases hv
    · rw [hc] at hv; exact (Option.some.inj hv).symm
  unfold CoilSite.axis
  split
  · next v hv => rw [hv] at h; exact key v (eq_of_beq h)
  · next ho => rw [ho] at h; exact key 0 (eq_of_beq h)
  · rfl

theorem wf_site_axis (s : CoilSite) (coil : Int) (h : s.wf = true) (hk : s.kind ≠ .conjProduct)
    (hdecl : s.declared = none ∨ s.declared = some coil) : s.axis coil = coil := by
  apply isCoil_axis s coil _ hdecl
  unfold CoilSite.wf at h
  split at h <;> simp_all

variable {R : Type} [Add R] [Sub R] [Mul R] [Neg R] [Zero R] [Inhabited R]

/-- a well-formed inline reduce site **is** `reduce_operator` along the coil axis -/
theorem wf_inlineReduce_denotes (s : CoilSite) (S y : Tensor (Cpx R)) (coil : Int) (h : s.wf = true)
    (hk : s.kind = .inlineReduce) (hdecl : s.declared = none ∨ s.declared = some coil) :
    s.denote S y coil = some (reduceOp y S coil) := by
  have hax := wf_site_axis s coil h (by rw [hk]; decide) hdecl
  unfold CoilSite.wf at h
  rw [hk] at h
  simp only [Bool.and_eq_true] at h
  unfold CoilSite.denote
  simp only [hk, h.1.2, hax, if_true]
  rfl

/-- a well-formed inline expand site **is** `expand_operator` along the coil axis -/
theorem wf_inlineExpand_denotes (s : CoilSite) (S x : Tensor (Cpx R)) (coil : Int) (h : s.wf = true)
    (hk : s.kind = .inlineExpand) (hdecl : s.declared = none ∨ s.declared = some coil) :
    s.denote S x coil = some (expandOp x S coil) := by
  have hax := wf_site_axis s coil h (by rw [hk]; decide) hdecl
  unfold CoilSite.wf at h
  rw [hk] at h
  simp only [Bool.and_eq_true, Bool.not_eq_true'] at h
  unfold CoilSite.denote
  simp only [hk, h.2, hax]
  rfl

/-- conjugating the data instead of the sensitivity map is a different map (one coil, one pixel) -/
theorem inline_conj_on_data_differs :
    ∃ s y : List (Cpx Int), (List.zipWith (fun si yi => cmul si (Cx.conj yi)) s y).sum ≠ reduceFibre s y :=
  ⟨[⟨0, 1⟩], [⟨1, 0⟩], by decide⟩

example : (⟨"f.py", "C.forward", .inlineReduce, .attr "_coil_dim", .omitted, some 1, "sensitivity_map", "", "y"⟩ : CoilSite).wf = true := by decide
example : (⟨"f.py", "C.forward", .inlineReduce, .attr "_coil_dim", .omitted, some 1, "y", "", "sensitivity_map"⟩ : CoilSite).wf = false := by decide
example : (⟨"f.py", "C.forward", .reduceCall, .lit 2, .omitted, some 1, "", "", ""⟩ : CoilSite).wf = false := by decide

end Sites

/-! ## call histories

`Bridge/C02.helper_state_uses_none` decides that the real helpers keep no state between calls; the model of a call history
is therefore the list of the individual results. -/
section History
variable {R : Type} [Add R] [Sub R] [Mul R] [Neg R] [Zero R] [Inhabited R]

inductive CoilCall (R : Type) where
  | expand (x S : Tensor (Cpx R)) (d : Int)
  | reduce (y S : Tensor (Cpx R)) (d : Int)
  | conj (a : Tensor (Cpx R))
  | cmul (a b : Tensor (Cpx R))

def CoilCall.eval : CoilCall R → Tensor (Cpx R)
  | .expand x S d => expandOp x S d
  | .reduce y S d => reduceOp y S d
  | .conj a => conjT a
  | .cmul a b => cmulT a b

def runHistory (h : List (CoilCall R)) : List (Tensor (Cpx R)) := h.map CoilCall.eval

theorem history_independent (h h' : List (CoilCall R)) (c : CoilCall R) :
    (runHistory (h ++ [c])).getLast? = (runHistory (h' ++ [c])).getLast? := by
  simp [runHistory]

/-- so `adjoint_tensor` / `reduce_expand_id_tensor` apply at every step of a history -/
theorem reduce_after_history (h : List (CoilCall R)) (y S : Tensor (Cpx R)) (d : Int) :
    (runHistory (h ++ [.reduce y S d])).getLast? = some (reduceOp y S d) := by
  simp [runHistory, CoilCall.eval]

example : (runHistory [CoilCall.conj (⟨[1], [⟨1, 2⟩]⟩ : Tensor (Cpx Int)), .conj ⟨[1], [⟨3, 4⟩]⟩]).getLast? =
    some ⟨[1], [⟨3, -4⟩]⟩ := by decide

end History

/-! ## size uniformity

`reduceOp_spec` / `expandOp_spec` hold for **every** coil count with one formula.  An accumulation over complete groups of
`g` coils only (`range(0, c - g + 1, g)`) agrees with it when `g ∣ c` and drops the last `c % g` coils otherwise. -/
section Groups

def reduceFibreGroups {R : Type} [Add R] [Sub R] [Mul R] [Neg R] [Zero R] (g : ℕ) (s y : List (Cpx R)) : Cpx R :=
  ((List.range (s.length / g)).map fun k => reduceFibre ((s.drop (k * g)).take g) ((y.drop (k * g)).take g)).sum

/-- three coils in groups of two: the third coil is dropped -/
theorem grouped_reduce_drops_tail :
    ∃ s y : List (Cpx Int), reduceFibreGroups 2 s y ≠ reduceFibre s y :=
  ⟨[⟨1, 0⟩, ⟨1, 0⟩, ⟨1, 0⟩], [⟨1, 0⟩, ⟨1, 0⟩, ⟨1, 0⟩], by decide⟩

example : reduceFibreGroups 2 [(⟨1, 0⟩ : Cpx Int), ⟨0, 1⟩, ⟨1, 1⟩, ⟨2, 0⟩] [⟨1, 0⟩, ⟨1, 0⟩, ⟨1, 0⟩, ⟨1, 0⟩] =
    reduceFibre [⟨1, 0⟩, ⟨0, 1⟩, ⟨1, 1⟩, ⟨2, 0⟩] [⟨1, 0⟩, ⟨1, 0⟩, ⟨1, 0⟩, ⟨1, 0⟩] := by decide

end Groups

open DirectVerif.C02T in
example : CoilAxis [2] [3] 1 := CoilAxis.nonneg [2] [3]
example : CoilAxis [2] [3] (-2) := by simpa using CoilAxis.neg [2] [3]
/-- hypotheses of `reduce_expand_id_tensor` / `adjoint_tensor` are satisfiable: one coil, `S = i`, `x = 2 + 3i` -/
example : reduceOp (expandOp (⟨[], [⟨2, 3⟩]⟩ : Tensor (Cpx ℝ)) ⟨[1], [⟨0, 1⟩]⟩ 0) ⟨[1], [⟨0, 1⟩]⟩ 0 = ⟨[], [⟨2, 3⟩]⟩ := by
  apply reduce_expand_id_tensor (pre := []) (post := []) (c := 1) (d := 0) _ _ rfl rfl rfl rfl ⟨by decide, by decide⟩
  intro o i ho hi
  rw [(C02T.rssSqT_spec _ [] [] 1 0 rfl rfl (by decide)).2.2 o i ho hi]
  have ho : o = 0 := by simpa [TensorLift.prod_nil] using ho
  have hi : i = 0 := by simpa [TensorLift.prod_nil] using hi
  subst ho hi
  simp [C02T.pos3, modSq, TensorLift.prod_nil]
example : rowsOf (Matrix.of ![![(1 : ℝ), 2], ![3, 4]]) = [[1, 2], [3, 4]] := by simp [rowsOf, List.ofFn_succ]
example : viewAsComplex (viewAsReal (⟨[1], [⟨1, 2⟩]⟩ : Tensor (Cpx Int))) = some ⟨[1], [⟨1, 2⟩]⟩ := by decide

end DirectVerif.C02
