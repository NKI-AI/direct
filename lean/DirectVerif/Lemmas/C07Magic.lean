import DirectVerif.Model.C07Magic
import DirectVerif.Lemmas.C07
/-!
C07, `MagicMaskFunc` (`Model/C07Magic.lean`).  A frame is two half-rows, each the union of a comb and of a prefix (its
share of the centred ACS block): the negative half mirrored below `N / 2`, the positive half from `N / 2` on
(`magicCount_halves`).  A comb of step `step` has `strideCount off step x = ⌈(x − off)/step⌉` points below `x`.
-/
namespace DirectVerif.MaskBudget

theorem countP_range_split (P : Nat → Bool) (a b : Nat) :
    (List.range (a + b)).countP P = (List.range a).countP P + (List.range b).countP (fun j => P (a + j)) := by
  rw [List.range_add, List.countP_append, List.countP_map]
  rfl

theorem countP_range_reverse (P : Nat → Bool) (n : Nat) :
    (List.range n).countP (fun i => P (n - 1 - i)) = (List.range n).countP P := by
  conv_rhs => rw [← List.countP_reverse, List.range_eq_range', List.reverse_range', List.countP_map]
  simp only [Function.comp_def, Nat.zero_add]

theorem countP_prefix_or (Q : Nat → Bool) (a n : Nat) (h : a ≤ n) :
    (List.range n).countP (fun i => decide (i < a) || Q i) =
      a + ((List.range n).countP Q - (List.range a).countP Q) := by
  obtain ⟨b, rfl⟩ := Nat.exists_eq_add_of_le h
  rw [countP_range_split, countP_range_split Q a b]
  have e1 : (List.range a).countP (fun i => decide (i < a) || Q i) = a := by
    rw [List.countP_congr (q := fun _ => true) fun i hi => by simp [List.mem_range.mp hi]]
    simp
  have e2 : (List.range b).countP (fun j => decide (a + j < a) || Q (a + j)) = (List.range b).countP (fun j => Q (a + j)) := by
    refine List.countP_congr fun j _ => ?_
    have : ¬ a + j < a := by omega
    simp [this]
  rw [e1, e2]
  omega

/-- `i` is a point of the comb `off, off + step, …` -/
def combAt (off step : Nat) (i : Nat) : Bool := decide (off ≤ i ∧ (i - off) % step = 0)

theorem countP_comb (off step : Nat) (x : Nat) :
    (List.range x).countP (combAt off step) = strideCount off step x := by
  induction x with
  | zero => simp [strideCount]
  | succ x ih =>
    rw [List.range_succ, List.countP_append, ih]
    simp only [List.countP_cons, List.countP_nil, combAt, decide_eq_true_eq, Nat.zero_add]
    unfold strideCount
    by_cases h1 : x + 1 ≤ off
    · have h2 : x ≤ off := by omega
      have h3 : ¬ (off ≤ x ∧ (x - off) % step = 0) := by omega
      rw [if_pos h1, if_pos h2, if_neg h3]
    · rw [if_neg h1]
      by_cases h2 : x ≤ off
      ·
        have hx : x = off := by omega
        subst hx
        simp
      · rw [if_neg h2]
        have hle : off ≤ x := by omega
        have e : x + 1 - off - 1 = (x - off - 1) + 1 := by omega
        rw [e, Nat.succ_div]
        have hd : (step ∣ x - off - 1 + 1) ↔ (x - off) % step = 0 := by
          rw [show x - off - 1 + 1 = x - off by omega]
          exact Nat.dvd_iff_mod_eq_zero
        by_cases hm : (x - off) % step = 0
        · rw [if_pos ⟨hle, hm⟩, if_pos (hd.mpr hm)]
        · rw [if_neg (fun h => hm h.2), if_neg (fun h => hm (hd.mp h))]

/-- `⌈(x − off)/step⌉`, with the truncated subtraction of ℕ -/
theorem strideCount_bracket (off step x : Nat) (hs : 0 < step) :
    x - off ≤ step * strideCount off step x ∧ step * strideCount off step x ≤ (x - off) + (step - 1) := by
  unfold strideCount
  split_ifs with h
  · omega
  · have h1 := Nat.mul_div_le (x - off - 1) step
    have h2 := Nat.lt_mul_div_succ (x - off - 1) hs
    rw [Nat.mul_add, Nat.mul_one] at h2 ⊢
    omega

theorem strideCount_mono (off step a b : Nat) (h : a ≤ b) : strideCount off step a ≤ strideCount off step b := by
  unfold strideCount
  split_ifs with h1 h2 h2
  · exact Nat.le_refl _
  · exact Nat.zero_le _
  · omega
  · have : (a - off - 1) / step ≤ (b - off - 1) / step := Nat.div_le_div_right (by omega)
    omega

/-- comb points in a window `[a, b)` -/
theorem strideCount_window (off step a b : Nat) (hs : 0 < step) (hab : a ≤ b) :
    step * (strideCount off step b - strideCount off step a) ≤ (b - a) + (step - 1) ∧
    (b - a) ≤ step * (strideCount off step b - strideCount off step a) + max (step - 1) (off - a) := by
  obtain ⟨a1, a2⟩ := strideCount_bracket off step a hs
  obtain ⟨b1, b2⟩ := strideCount_bracket off step b hs
  have hm := Nat.mul_le_mul_left step (strideCount_mono off step a b hab)
  have ha0 : a ≤ off → strideCount off step a = 0 := fun h => if_pos h
  rw [Nat.mul_sub]
  generalize step * strideCount off step b = sb at *
  rcases Nat.lt_or_ge off a with h | h
  · omega
  · -- the comb starts inside the window: all its points below `b` count
    rw [ha0 h, Nat.mul_zero] at *
    omega

theorem length_strided (len off step : Nat) : (strided len off step).length = len := by simp [strided]

theorem getD_strided (len off step i : Nat) :
    (strided len off step).getD i false = (decide (i < len) && combAt off step i) := by
  unfold strided combAt
  by_cases h : i < len
  · simp [List.getD_eq_getElem?_getD, h]
  · simp [List.getD_eq_getElem?_getD, h]

theorem length_fftshift1 {α} (xs : List α) : (fftshift1 xs).length = xs.length := by
  unfold fftshift1
  simp only [List.length_append, List.length_drop, List.length_take]
  omega

theorem getD_fftshift1 {α} (xs : List α) (d : α) (i : Nat) (hi : i < xs.length) :
    (fftshift1 xs).getD i d =
      if i < xs.length / 2 then xs.getD (xs.length - xs.length / 2 + i) d else xs.getD (i - xs.length / 2) d := by
  unfold fftshift1
  simp only [List.getD_eq_getElem?_getD]
  have hl : (xs.drop (xs.length - xs.length / 2)).length = xs.length / 2 := by
    simp only [List.length_drop]; omega
  split_ifs with h
  · rw [List.getElem?_append_left (by omega), List.getElem?_drop]
  · rw [List.getElem?_append_right (by omega), hl, List.getElem?_take]
    rw [if_pos (by omega)]

theorem magicPosLen_toNat (N : Nat) : (magicPosLen N).toNat = N - N / 2 := by unfold magicPosLen; omega

theorem magicNegLen_toNat (N : Nat) : (magicNegLen N).toNat = N / 2 := by unfold magicNegLen; omega

theorem getD_magicRow (N adj off i : Nat) (hi : i < N) :
    (magicRow N adj off).getD i false =
      if i < N / 2 then combAt (magicOffNeg off).toNat adj (N / 2 - 1 - i)
      else combAt (magicOffPos off).toNat adj (i - N / 2) := by
  unfold magicRow
  rw [magicPosLen_toNat, magicNegLen_toNat]
  have lcat : (strided (N - N / 2) (magicOffPos off).toNat adj ++
      (strided (N / 2) (magicOffNeg off).toNat adj).reverse).length = N := by
    rw [List.length_append, List.length_reverse, length_strided, length_strided]; omega
  rw [getD_fftshift1 _ _ _ (lcat.symm ▸ hi), lcat]
  split_ifs with h
  · rw [List.getD_eq_getElem?_getD, List.getElem?_append_right (by rw [length_strided]; omega), length_strided,
      Nat.add_sub_cancel_left, List.getElem?_reverse (by rw [length_strided]; omega), length_strided,
      ← List.getD_eq_getElem?_getD, getD_strided, decide_eq_true (by omega : N / 2 - 1 - i < N / 2), Bool.true_and]
  · rw [List.getD_eq_getElem?_getD, List.getElem?_append_left (by rw [length_strided]; omega),
      ← List.getD_eq_getElem?_getD, getD_strided, decide_eq_true (by omega : i - N / 2 < N - N / 2), Bool.true_and]

theorem magicIn_bounds {N L : Nat} (hL : 1 ≤ L) (hLN : L ≤ N) :
    magicNegIn N L ≤ N / 2 ∧ magicPosIn N L ≤ N - N / 2 ∧ magicNegIn N L + magicPosIn N L = L := by
  unfold magicNegIn magicPosIn acsPad; omega

/-- the negative half is mirrored: column `N/2 − 1 − k` there, column `N/2 + j` on the positive half -/
theorem inAcs_halves {N L : Nat} (hL : 1 ≤ L) (hLN : L ≤ N) :
    (∀ i, i < N / 2 → inAcs (N : Int) (L : Int) (i : Int) = decide (N / 2 - 1 - i < magicNegIn N L)) ∧
    ∀ j, inAcs (N : Int) (L : Int) ((N / 2 + j : Nat) : Int) = decide (j < magicPosIn N L) := by
  unfold inAcs magicNegIn magicPosIn acsPad
  constructor
  · intro i hi
    rw [← Bool.decide_and, decide_eq_decide]
    omega
  · intro j
    rw [← Bool.decide_and, decide_eq_decide]
    omega

theorem magicCount_halves (N L adj off : Nat) (hL : 1 ≤ L) (hLN : L ≤ N) :
    magicCount N L adj off =
      (List.range (N / 2)).countP (fun k => decide (k < magicNegIn N L) || combAt (magicOffNeg off).toNat adj k) +
      (List.range (N - N / 2)).countP (fun j => decide (j < magicPosIn N L) || combAt (magicOffPos off).toNat adj j) := by
  unfold magicCount magicMask
  have hN : N = N / 2 + (N - N / 2) := by omega
  obtain ⟨hneg, hpos⟩ := inAcs_halves hL hLN
  rw [countTrue_map_range, congrArg List.range hN, countP_range_split]
  congr 1
  ·
    rw [← countP_range_reverse (fun k => decide (k < magicNegIn N L) || combAt (magicOffNeg off).toNat adj k) (N / 2)]
    refine List.countP_congr fun i hi => ?_
    rw [List.mem_range] at hi
    rw [getD_magicRow N adj off i (by omega), if_pos hi, hneg i hi, Bool.or_comm]
  ·
    refine List.countP_congr fun j hj => ?_
    rw [List.mem_range] at hj
    rw [getD_magicRow N adj off (N / 2 + j) (by omega), if_neg (by omega), Nat.add_sub_cancel_left,
      hpos j, Bool.or_comm]

end DirectVerif.MaskBudget
