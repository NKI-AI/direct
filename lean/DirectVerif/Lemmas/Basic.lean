import DirectVerif.Model.Basic
/-!
Facts about the shared definitions of `Model/Basic.lean` (`slice`, `pySlice`, Python `//` and `%` as the translator emits
them) and a few list lemmas that several properties need.  Core Lean only, so that every proof file can import it.
-/
namespace DirectVerif

theorem fdiv_two (x : Int) : Int.fdiv x 2 = x / 2 := Int.fdiv_eq_ediv_of_nonneg x (by decide)

theorem fmod_two (x : Int) : Int.fmod x 2 = x % 2 := Int.fmod_eq_emod_of_nonneg x (by decide)

theorem natCast_beq (a b : Nat) : ((a : Int) == (b : Int)) = (a == b) := by
  rw [Bool.eq_iff_iff, beq_iff_eq, beq_iff_eq, Int.natCast_inj]

/-- the guard `a % b == 0` of the loops, evaluated on Python integers, is the same test on naturals -/
theorem fmod_beq_zero (a b : Nat) : (Int.fmod (a : Int) (b : Int) == 0) = (a % b == 0) := by
  rw [Int.fmod_eq_emod_of_nonneg _ (Int.natCast_nonneg b), ← Int.natCast_emod]
  exact natCast_beq (a % b) 0

theorem slice_getElem? {α} (xs : List α) (lo hi k : Nat) :
    (slice xs lo hi)[k]? = if lo + k < hi then xs[lo + k]? else none := by
  unfold slice
  rw [List.getElem?_drop, List.getElem?_take]

theorem slice_length {α} (xs : List α) (lo hi : Nat) (h : hi ≤ xs.length) :
    (slice xs lo hi).length = hi - lo := by
  unfold slice
  rw [List.length_drop, List.length_take, Nat.min_eq_left h]

theorem slice_eq_nil {α} (xs : List α) (lo hi : Nat) (h : hi ≤ lo) : slice xs lo hi = [] := by
  unfold slice
  exact List.drop_eq_nil_of_le (by rw [List.length_take]; omega)

theorem slice_all {α} (xs : List α) : slice xs 0 xs.length = xs := by
  unfold slice
  rw [List.drop_zero, List.take_length]

theorem take_append_slice {α} (xs : List α) {a b : Nat} (h : a ≤ b) : xs.take a ++ slice xs a b = xs.take b := by
  have e : xs.take a = (xs.take b).take a := by rw [List.take_take, Nat.min_eq_left h]
  rw [e]
  exact List.take_append_drop a _

theorem mem_of_mem_slice {α} (xs : List α) (lo hi : Nat) (x : α) (h : x ∈ slice xs lo hi) : x ∈ xs :=
  List.mem_of_mem_take (List.mem_of_mem_drop h)

theorem pySlice_of_nonneg {α} (xs : List α) (lo hi : Int) (hlo : 0 ≤ lo) (hhi : 0 ≤ hi) :
    pySlice xs lo hi = slice xs (min lo xs.length).toNat (min hi xs.length).toNat := by
  unfold pySlice
  simp only
  rw [if_neg (by omega), if_neg (by omega)]

theorem getD_zipWith {α β γ} (f : α → β → γ) (a : List α) (b : List β) (da : α) (db : β) (d : γ)
    (hd : f da db = d) (hl : a.length = b.length) (k : Nat) :
    (List.zipWith f a b).getD k d = f (a.getD k da) (b.getD k db) := by
  simp only [List.getD_eq_getElem?_getD, List.getElem?_zipWith]
  by_cases hk : k < a.length
  · rw [List.getElem?_eq_getElem hk, List.getElem?_eq_getElem (hl ▸ hk)]; rfl
  · rw [List.getElem?_eq_none (Nat.le_of_not_lt hk), List.getElem?_eq_none (hl ▸ Nat.le_of_not_lt hk)]
    exact hd.symm

theorem zipWith_map_map {α β γ δ} (f : β → γ → δ) (g : α → β) (h : α → γ) (l : List α) :
    List.zipWith f (l.map g) (l.map h) = l.map fun a => f (g a) (h a) := by
  rw [List.zipWith_map, List.zipWith_self]

theorem sum_map_const {α} (l : List α) (c : Nat) : (l.map fun _ => c).sum = l.length * c := by
  induction l with
  | nil => simp
  | cons x xs ih => rw [List.map_cons, List.sum_cons, ih, List.length_cons, Nat.succ_mul, Nat.add_comm]

/-- setting a `false` cell to `true` adds one to the count (the default `d` only matters outside the list) -/
theorem count_set_true (l : List Bool) (i : Nat) (d : Bool) (hi : i < l.length) (hf : l.getD i d = false) :
    (l.set i true).count true = l.count true + 1 := by
  rw [List.getD_eq_getElem?_getD, List.getElem?_eq_getElem hi, Option.getD_some] at hf
  rw [List.count_set hi, hf]
  rfl

end DirectVerif
