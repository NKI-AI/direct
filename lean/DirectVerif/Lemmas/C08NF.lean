import DirectVerif.Model.Pipeline
import DirectVerif.Model.PipelinePrePost
/-!
# C08 — list normal form of the builder

The translator emits unconditional stages as `::` cells and guarded ones as `opt guard [...] ++ rest`, whatever way
the source groups its `+=` statements; the bridge is `rfl` against this form, which `*_nf` relate to the readable model.
-/
namespace DirectVerif.Pipeline

def buildSupervisedNF (c : Config) : List Stage :=
  .toTensor ::
  (opt (c.crop != .none) [.cropKspace c.imageCenterCrop c.useSeed] ++
  (opt c.rescale [.rescaleKspace .kspace] ++
  (opt c.pad [.padKspace .kspace] ++
  (opt c.rotation [.randomRotation] ++
  (opt c.flip [.randomFlip] ++
  (opt c.reverse [.randomReverse] ++
  (opt c.paddingEps [.computeZeroPadding .kspace .padding thrCurrent, .applyZeroPadding .kspace .padding] ++
  (opt c.maskFunc [.createSamplingMask (c.crop == .tuple) (seedOf c.useSeed [.filename]) c.estimateSmaps] ++
  (opt c.compressCoils [.compressCoil .kspace] ++
  (opt c.padCoils [.padCoilDimension .kspace] ++
  (opt (c.bodyCoil && c.maskFunc) [.estimateBodyCoilImage (seedOf c.useSeed [.filename])] ++
  (opt c.estimateSmaps [.estimateSensitivityMap .kspace c.smapType c.smapGaussian] ++
  (opt c.deleteAcsMask [.deleteKeys [.acsMask]] ++
  (.applyMask .samplingMask .kspace .maskedKspace ::
   .computeScalingFactor c.scalingKey c.percentile .scalingFactor ::
   .normalize .scalingFactor [.kspace, .maskedKspace] ::
   .computeImage .kspace .target c.recon ::
  (opt c.deleteKspace [.deleteKeys [.kspace]] ++ [])))))))))))))))

def buildNF (c : Config) : List Stage :=
  buildSupervisedNF { c with deleteAcsMask := if !c.ssl then c.deleteAcsMask else false,
                             deleteKspace := if !c.ssl then c.deleteKspace else false }
  ++ (.addBooleanKeys ::
  (opt c.ssl
      [.maskSplitter c.split c.splitKeepAcs (seedOf c.useSeed [.filename, .sliceNo]) .maskedKspace,
       .deleteKeys [.acsMask],
       .renameKeys [.inputMaskedKspace, .targetMaskedKspace] [.inputKspace, .kspace],
       .deleteKeys [.maskedKspace, .samplingMask],
       .computeImage .kspace .target c.recon] ++ []))

theorem buildSupervised_nf (c : Config) : buildSupervised c = buildSupervisedNF c := by
  simp only [buildSupervised, buildSupervisedNF, List.append_assoc, List.cons_append, List.nil_append,
    List.append_nil]

theorem build_nf (c : Config) : build c = buildNF c := by
  simp only [build, buildNF, buildSupervised_nf, List.append_assoc, List.cons_append, List.nil_append,
    List.append_nil]

theorem buildPre_nf (c : Config) : buildPre c = buildPreNF c := by
  simp only [buildPre, buildPreNF, List.append_assoc, List.cons_append, List.nil_append, List.append_nil]

theorem buildPost_nf (c : Config) : buildPost c = buildPostNF c := by
  simp only [buildPost, buildPostNF, List.append_assoc, List.cons_append, List.nil_append, List.append_nil]

end DirectVerif.Pipeline
