import DirectVerif.Model.C07State
import DirectVerif.Props.C07
/-!
# C07 — the budget at every call of a call history (process-level state)

With freshly bound kernel arrays (the table predicate decided in the bridge) every Gaussian call of a history realises
its own budget; handing a memoised array to the in-place kernel breaks exactly that.
-/
namespace DirectVerif.C07
open DirectVerif DirectVerif.MaskBudget

theorem fresh_call_state_free (disc : List Bool) (x : ℚ) (cands : List Int) (p p' : Proc) :
    (gaussCall false disc x cands p).1 = (gaussCall false disc x cands p').1 ∧ (gaussCall false disc x cands p).2 = p := by
  unfold gaussCall
  simp only [Bool.false_eq_true, if_false]
  cases gaussLoop (gaussianRequest x (countTrue disc)) cands 0 disc <;> exact ⟨rfl, rfl⟩

theorem fresh_history_independent (disc : List Bool) :
    ∀ (calls : List (ℚ × List Int)) (p : Proc),
      runCalls false disc calls p = calls.map fun c => (gaussCall false disc c.1 c.2 ⟨none⟩).1 := by
  intro calls
  induction calls with
  | nil => intro p; rfl
  | cons c rest ih =>
    intro p
    obtain ⟨x, cands⟩ := c
    unfold runCalls
    simp only [List.map_cons]
    rw [(fresh_call_state_free disc x cands p ⟨none⟩).2, ih p, (fresh_call_state_free disc x cands p ⟨none⟩).1]

/-- **the budget holds at every step of a call history** of requests sharing one centre region -/
theorem history_budget (disc : List Bool) (calls : List (ℚ × List Int)) (p : Proc) (i : Nat) (m : List Bool)
    (hi : (runCalls false disc calls p)[i]? = some (some m))
    (hfeas : ∀ c, calls[i]? = some c → (countTrue disc : ℚ) + 1 / 2 ≤ c.1) :
    ∃ c, calls[i]? = some c ∧ |(countTrue m : ℚ) - c.1| ≤ 1 / 2 := by
  rw [fresh_history_independent disc calls p, List.getElem?_map] at hi
  cases hc : calls[i]? with
  | none => rw [hc] at hi; simp at hi
  | some c =>
    rw [hc] at hi
    simp only [Option.map_some, Option.some.injEq] at hi
    refine ⟨c, rfl, ?_⟩
    unfold gaussCall at hi
    simp only [Bool.false_eq_true, if_false] at hi
    cases hl : gaussLoop (gaussianRequest c.1 (countTrue disc)) c.2 0 disc with
    | none => rw [hl] at hi; simp at hi
    | some m' =>
      rw [hl] at hi
      simp only [Option.some.injEq] at hi
      subst hi
      exact gaussian_budget c.1 disc m' c.2 (hfeas c hc) hl

/-- **a memoised array handed to the in-place kernel**: 8 cells, 1 centre cell; `N/R = 4`, then `N/R = 2` in the same
process — the second call starts from the filled array, requests a negative number and returns the four cells of the first -/
theorem shared_array_violates :
    runCalls true [true, false, false, false, false, false, false, false] [(4, [1, 2, 3]), (2, [5])] ⟨none⟩ =
      [some [true, true, true, true, false, false, false, false], some [true, true, true, true, false, false, false, false]] ∧
    ¬ |(countTrue [true, true, true, true, false, false, false, false] : ℚ) - 2| ≤ 1 / 2 := by
  refine ⟨by decide +kernel, ?_⟩
  norm_num [countTrue]

/-- the same history with freshly bound arrays -/
example : runCalls false [true, false, false, false, false, false, false, false] [(4, [1, 2, 3]), (2, [5])] ⟨none⟩ =
    [some [true, true, true, true, false, false, false, false], some [true, false, false, false, false, true, false, false]] := by
  decide +kernel

theorem kernel_arrays_not_shared (tbl : List (String × String × List String)) (h : kernelArraysOk tbl = true) :
    ∀ r ∈ tbl, rowShared r = false := by
  intro r hr
  unfold kernelArraysOk at h
  rw [Bool.and_eq_true] at h
  have := List.all_eq_true.mp h.2 r hr
  unfold rowShared
  simp only [this, Bool.not_true]

/-- rejected: the array of the static Gaussian2D call bound to the result of a memoised function -/
example : kernelArraysOk
    [("VariableDensityPoissonMaskFunc.poisson:_poisson", "mask", ["alloc"]),
     ("Gaussian1DMaskFunc.mask_func:gaussian_mask_1d", "mask[i]", ["copy", "copy"]),
     ("Gaussian1DMaskFunc.mask_func:gaussian_mask_1d", "mask", ["copy", "copy", "view"]),
     ("Gaussian2DMaskFunc.mask_func:gaussian_mask_2d", "mask[i]", ["cached-or-unknown-call:_acs_disk_mask", "copy"]),
     ("Gaussian2DMaskFunc.mask_func:gaussian_mask_2d", "mask", ["cached-or-unknown-call:_acs_disk_mask", "copy", "view"])] = false := by
  decide +kernel

end DirectVerif.C07
