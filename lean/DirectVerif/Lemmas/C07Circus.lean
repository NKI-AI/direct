import DirectVerif.Model.C07Circus
import DirectVerif.Lemmas.C07
/-!
# C07 — CIRCUS patterns never exceed their pick budget (namespace `DirectVerif.C07`)
-/
namespace DirectVerif.C07
open DirectVerif DirectVerif.MaskBudget DirectVerif.MaskGeom

theorem foldl_set_count (cells : List (Nat × Nat)) (side : Nat) (a : Array Bool) :
    ((cells.foldl (fun (a : Array Bool) (rc : Nat × Nat) => a.set! (rc.1 * side + rc.2) true) a).toList).count true ≤
      a.toList.count true + cells.length := by
  induction cells generalizing a with
  | nil => simp
  | cons c cs ih =>
    simp only [List.foldl_cons, List.length_cons]
    have h1 := ih (a.set! (c.1 * side + c.2) true)
    have h2 : (a.set! (c.1 * side + c.2) true).toList.count true ≤ a.toList.count true + 1 := by
      rw [Array.set!_eq_setIfInBounds, Array.toList_setIfInBounds]
      by_cases hi : c.1 * side + c.2 < a.toList.length
      · rw [List.count_set hi]
        simp only [beq_self_eq_true, if_true]
        omega
      · rw [List.set_eq_of_length_le (not_lt.mp hi)]
        omega
    omega

/-- **at most one cell per pick**: `M` picks on each nested square give at most `M · num_nested_squares` cells -/
theorem circus_count_le_picks (side : Nat) (picks : List (List Nat)) (sqm : List Bool)
    (h : circusSquare side picks = some sqm) : sqm.count true ≤ circusPicks picks := by
  unfold circusSquare at h
  simp only [] at h
  split_ifs at h with hall
  simp only [Option.some.injEq] at h
  subst h
  have hz : ∀ (ks : List Nat) (ps : List (List Nat)),
      ((ks.zip ps).map fun (x : Nat × List Nat) => x.2.length).sum ≤ (ps.map List.length).sum := by
    intro ks
    induction ks with
    | nil => intro ps; simp
    | cons k ks ih =>
      intro ps
      cases ps with
      | nil => simp
      | cons p ps =>
        simp only [List.zip_cons_cons, List.map_cons, List.sum_cons]
        have := ih ps
        omega
  refine le_trans (foldl_set_count _ side _) ?_
  have h0 : (Array.replicate (side * side) false).toList.count true = 0 := by
    simp [Array.toList_replicate, List.count_replicate]
  rw [h0, Nat.zero_add]
  refine le_trans (List.length_filterMap_le _ _) ?_
  unfold circusPicks
  rw [List.length_flatMap]
  simp only [List.length_map]
  exact hz _ _

/-- on an even square grid the denominator of `M` is half the side -/
theorem circus_even_square_M (n : ℚ) (a : ℚ) (hn : 0 < n) (ha : 0 < a) :
    circusM (n * n) a n n = ((2 * n) / a).floor := by
  unfold circusM circusDenom
  congr 1
  field_simp
  ring

/-- … and `M` picks on each of the `n / 2` squares stay within the requested `n² / a` -/
theorem circus_even_square_budget (n : ℚ) (a : ℚ) (hn : 0 < n) (ha : 0 < a) :
    ((circusM (n * n) a n n : ℤ) : ℚ) * (n / 2) ≤ n * n / a := by
  rw [circus_even_square_M n a hn ha]
  have h := floor_le' ((2 * n) / a)
  have : ((2 * n) / a) * (n / 2) = n * n / a := by field_simp
  calc ((((2 * n) / a).floor : ℤ) : ℚ) * (n / 2) ≤ ((2 * n) / a) * (n / 2) :=
        mul_le_mul_of_nonneg_right h (by linarith)
    _ = n * n / a := this

/-- 32 × 32, acceleration 4: `M = 16` picks on each of 16 squares, at most 256 = 1024 / 4 cells -/
example : circusM (32 * 32) 4 32 32 = 16 := by decide +kernel
example : circusMAdmissible (32 * 32) 4 32 32 15 = true ∧ circusMAdmissible (32 * 32) 4 32 32 14 = false := by decide +kernel

end DirectVerif.C07
