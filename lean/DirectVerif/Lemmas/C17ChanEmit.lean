import DirectVerif.Lemmas.C17Chan
/-!
C17: the spatial program and the channel program of a network emit at the same hooks (`emits p = cemits q`), and a
successful run appends exactly one trace entry per `emit` — so the two traces zip into the full shapes seen by the hooks.
-/
namespace DirectVerif.C17L
open DirectVerif.Shapes


/-! ## counting hooks

`emits` / `cemits` are additive; every count below is `simp only` with the program's definition, additivity and the
constructor comparisons, then linear arithmetic. -/

theorem emits_nil : emits [] = 0 := rfl
theorem cemits_nil : cemits [] = 0 := rfl
theorem emits_append (p q : List Op) : emits (p ++ q) = emits p + emits q := by
  simp [emits, List.filter_append]
theorem cemits_append (p q : List COp) : cemits (p ++ q) = cemits p + cemits q := by
  simp [cemits, List.filter_append]
theorem emits_cons (op : Op) (p : List Op) : emits (op :: p) = (if op = .emit then 1 else 0) + emits p := by
  by_cases h : op = .emit
  · subst h; simp [emits]; omega
  · have : (op == Op.emit) = false := by simpa using h
    simp [emits, h, this]
theorem cemits_cons (op : COp) (p : List COp) : cemits (op :: p) = (if op = .emit then 1 else 0) + cemits p := by
  by_cases h : op = .emit
  · subst h; simp [cemits]; omega
  · have : (op == COp.emit) = false := by simpa using h
    simp [cemits, h, this]

/-! ## a successful run appends one trace entry per `emit` -/

theorem step_trace_len (op : Op) (st st' : State) (h : step op st = .ok st') :
    st'.trace.length = st.trace.length + (if op = .emit then 1 else 0) := by
  cases op <;> simp only [step, axes] at h <;> (repeat' (split at h)) <;>
    first
    | (injection h with h; subst h; simp)
    | (exact absurd h (by simp))

theorem run_trace_len (p : List Op) : ∀ (st st' : State), run p st = .ok st' →
    st'.trace.length = st.trace.length + emits p := by
  induction p with
  | nil => intro st st' h; cases h; rfl
  | cons op ops ih =>
    intro st st' h
    rw [run] at h
    cases hs : step op st with
    | error e => rw [hs] at h; cases h
    | ok s1 =>
      rw [hs] at h
      rw [ih s1 st' h, step_trace_len op st s1 hs, emits_cons]; omega

theorem cstep_trace_len (op : COp) (st st' : CState) (h : cstep op st = .ok st') :
    st'.trace.length = st.trace.length + (if op = .emit then 1 else 0) := by
  cases op <;> simp only [cstep] at h <;> (repeat' (split at h)) <;>
    first
    | (injection h with h; subst h; simp)
    | (exact absurd h (by simp))

theorem runC_trace_len (p : List COp) : ∀ (st st' : CState), runC p st = .ok st' →
    st'.trace.length = st.trace.length + cemits p := by
  induction p with
  | nil => intro st st' h; cases h; rfl
  | cons op ops ih =>
    intro st st' h
    rw [runC] at h
    cases hs : cstep op st with
    | error e => rw [hs] at h; cases h
    | ok s1 =>
      rw [hs] at h
      rw [ih s1 st' h, cstep_trace_len op st s1 hs, cemits_cons]; omega

theorem emits_unetLv (P : UnetP) (L : Nat) : emits (unetLv P L) = 3 * L + 1 := by
  induction L with
  | zero => simp only [unetLv, convBlock, emits_append, emits_cons, emits_nil, reduceCtorEq, ↓reduceIte]
  | succ L ih => simp only [unetLv, convBlock, emits_append, emits_cons, emits_nil, reduceCtorEq, ↓reduceIte, ih]; omega

theorem cemits_unetLvC (L : Nat) : ∀ a b : Nat, cemits (unetLvC a b L) = 3 * L + 1 := by
  induction L with
  | zero => intro a b; simp only [unetLvC, convBlockC, cemits_append, cemits_cons, cemits_nil, reduceCtorEq, ↓reduceIte]
  | succ L ih =>
    intro a b
    simp only [unetLvC, convBlockC, cemits_append, cemits_cons, cemits_nil, reduceCtorEq, ↓reduceIte, ih]; omega

theorem emits_unet (P : UnetP) (L : Nat) : emits (unet P L) = 3 * L + 1 := by
  cases L with
  | zero => exact emits_unetLv P 0
  | succ L => simp only [unet, convBlock, emits_append, emits_cons, emits_nil, reduceCtorEq, ↓reduceIte, emits_unetLv]; omega

theorem cemits_unetC (cin cout F L : Nat) : cemits (unetC cin cout F L) = 3 * L + 1 := by
  cases L with
  | zero => exact cemits_unetLvC 0 cin F
  | succ L =>
    simp only [unetC, convBlockC, cemits_append, cemits_cons, cemits_nil, reduceCtorEq, ↓reduceIte, cemits_unetLvC]; omega

theorem cemits_mdBlockC (k : Bool) (a b : Nat) : cemits (mdBlockC k a b) = 0 := by
  cases k <;> simp only [mdBlockC, mdConvC, cemits_append, cemits_cons, cemits_nil, reduceCtorEq, ↓reduceIte, Bool.false_eq_true]

theorem cemits_mdLvC (L : Nat) : ∀ (k : Bool) (a b : Nat), cemits (mdLvC k a b L) = 3 * L + 1 := by
  induction L with
  | zero => intro k a b; simp only [mdLvC, cemits_append, cemits_mdBlockC, cemits_cons, cemits_nil, reduceCtorEq, ↓reduceIte]
  | succ L ih =>
    intro k a b
    simp only [mdLvC, mdConvC, cemits_append, cemits_mdBlockC, cemits_cons, cemits_nil, reduceCtorEq, ↓reduceIte, Bool.false_eq_true,
      ih]
    omega

theorem cemits_mdUnetC (cin cout F L : Nat) : cemits (mdUnetC cin cout F L) = 3 * (L - 1) + 4 := by
  simp only [mdUnetC, mdConvC, cemits_append, cemits_mdBlockC, cemits_mdLvC, cemits_cons, cemits_nil, reduceCtorEq, ↓reduceIte,
    Bool.false_eq_true]
  omega

theorem cemits_bnC (bn : Bool) (a : Nat) : cemits (bnC bn a) = 0 := by cases bn <;> rfl

theorem cemits_mwDownC (bn sv : Bool) (a b : Nat) : cemits (mwDownC bn sv a b) = 0 := by
  cases sv <;> simp only [mwDownC, cemits_append, cemits_bnC, cemits_cons, cemits_nil, reduceCtorEq, ↓reduceIte, Bool.false_eq_true]

theorem cemits_mwUpC (bn : Bool) (a b : Nat) : cemits (mwUpC bn a b) = 0 := by
  simp only [mwUpC, cemits_append, cemits_bnC, cemits_cons, cemits_nil, reduceCtorEq, ↓reduceIte]

theorem emits_mwBelow (P : MwP) (r : Nat) : emits (mwBelow P r) = 4 * (r + 1) := by
  induction r with
  | zero => simp only [mwBelow, mwDown, mwUp, emits_append, emits_cons, emits_nil, reduceCtorEq, ↓reduceIte]
  | succ r ih => simp only [mwBelow, mwDown, mwUp, emits_append, emits_cons, emits_nil, reduceCtorEq, ↓reduceIte, ih]; omega

theorem cemits_mwBelowC (bn : Bool) (r : Nat) : ∀ w : Nat, cemits (mwBelowC bn w r) = 4 * (r + 1) := by
  induction r with
  | zero =>
    intro w
    simp only [mwBelowC, cemits_append, cemits_mwDownC, cemits_mwUpC, cemits_cons, cemits_nil, reduceCtorEq, ↓reduceIte]
  | succ r ih =>
    intro w
    simp only [mwBelowC, cemits_append, cemits_mwDownC, cemits_mwUpC, cemits_cons, cemits_nil, reduceCtorEq, ↓reduceIte, ih]; omega

theorem emits_mwcnn_eq (P : MwP) (bn : Bool) (cin F S : Nat) : emits (mwcnn P S) = cemits (mwcnnC bn cin F S) := by
  match S with
  | 0 => rfl
  | 1 =>
    simp only [mwcnn, mwcnnC, mwDown, mwUp, emits_append, cemits_append, cemits_mwDownC, cemits_mwUpC, emits_cons, cemits_cons,
      emits_nil, cemits_nil, reduceCtorEq, ↓reduceIte]
  | S + 2 =>
    simp only [mwcnn, mwcnnC, mwDown, mwUp, emits_append, cemits_append, cemits_mwDownC, cemits_mwUpC, emits_mwBelow, cemits_mwBelowC,
      emits_cons, cemits_cons, emits_nil, cemits_nil, reduceCtorEq, ↓reduceIte]

theorem emits_replicate_conv (m k s p d : Nat) : emits (List.replicate m (Op.conv k s p d)) = 0 := by
  induction m with
  | zero => rfl
  | succ m ih => rw [List.replicate_succ, emits_cons, ih]; rfl

theorem cemits_resBlocksC (h : Nat) (bn : Bool) : ∀ m, cemits (resBlocksC h bn m) = 0
  | 0 => rfl
  | 1 => by simp only [resBlocksC, cemits_append, cemits_bnC, cemits_cons, cemits_nil, reduceCtorEq, ↓reduceIte]
  | m + 2 => by
    simp only [resBlocksC, cemits_append, cemits_bnC, cemits_cons, cemits_nil, reduceCtorEq, ↓reduceIte, cemits_resBlocksC h bn (m + 1)]

theorem emits_resnet_eq (cin cout h : Nat) (bn : Bool) (nb : Nat) : emits (resnet 3 1 (nb + 1)) = cemits (resnetC cin cout h bn nb) := by
  simp only [resnet, resnetC, emits_append, cemits_append, emits_replicate_conv, cemits_resBlocksC, emits_cons, cemits_cons, emits_nil,
    cemits_nil, reduceCtorEq, ↓reduceIte]

theorem emits_convNet_eq (bn : Bool) (m : Nat) : ∀ cin cout h : Nat, emits (convNet 3 1 bn m) = cemits (convNetC cin cout h bn m) := by
  induction m with
  | zero => intro _ _ _; rfl
  | succ m ih =>
    intro cin cout h
    cases bn <;> by_cases hm : m = 0 <;>
      simp only [convNet, convNetC, emits_append, cemits_append, ih h cout h, emits_cons, cemits_cons, emits_nil, cemits_nil, reduceCtorEq,
        ↓reduceIte, Bool.false_eq_true, hm]

theorem emits_dubWith (P : DidnP) (em : List Op) : emits (dubWith P em) = 12 * emits em := by
  unfold dubWith
  simp only [emits_append]
  simp only [emits_cons, emits_nil, reduceCtorEq, ↓reduceIte]
  omega

theorem cemits_dubBodyC (c : Nat) (em : List COp) : cemits (dubBodyC c em) = 11 * cemits em := by
  unfold dubBodyC
  simp only [cemits_append]
  simp only [cemits_cons, cemits_nil, reduceCtorEq, ↓reduceIte]
  omega

theorem emits_dub_eq (P : DidnP) (c : Nat) (e : Bool) : emits (dub P e) = cemits (dubC c e) := by
  cases e <;> simp only [dub, dubC, emits_dubWith, cemits_append, cemits_dubBodyC, emits_cons, cemits_cons, emits_nil, cemits_nil,
    reduceCtorEq, ↓reduceIte, Bool.false_eq_true]

theorem emits_dubs (P : DidnP) (n : Nat) : emits (dubs P n) = n := by
  induction n with
  | zero => rfl
  | succ n ih =>
    simp only [dubs, dub, emits_append, emits_dubWith, ih, emits_cons, emits_nil, ↓reduceIte, Bool.false_eq_true]; omega

theorem cemits_dubsC (c n : Nat) : cemits (dubsC c n) = n := by
  induction n with
  | zero => rfl
  | succ n ih =>
    simp only [dubsC, dubInC, cemits_append, cemits_dubBodyC, ih]
    cases n <;> simp [cemits]

theorem emits_reconBlocks (P : DidnP) (nc n : Nat) : emits (reconBlocks P nc n) = n := by
  induction n with
  | zero => rfl
  | succ n ih =>
    simp only [reconBlocks, emits_append, emits_replicate_conv, ih, emits_cons, emits_nil, ↓reduceIte]; omega

theorem cemits_reconConvsC (c m : Nat) : cemits (reconConvsC c m) = 0 := by
  induction m with
  | zero => rfl
  | succ m ih => rw [reconConvsC, List.replicate_succ, cemits_cons, ← reconConvsC, ih]; rfl

theorem cemits_reconsC (c nc nd m : Nat) : cemits (reconsC c nc nd m) = m := by
  induction m with
  | zero => rfl
  | succ m ih => simp only [reconsC, cemits_append, cemits_reconConvsC, ih, cemits_cons, cemits_nil, reduceCtorEq, ↓reduceIte]

theorem cemits_dropsC (m : Nat) : cemits (dropsC m) = 0 := by
  induction m with
  | zero => rfl
  | succ m ih => rw [dropsC, cemits_cons, ih]; rfl

theorem cemits_didnReconC (c nc nd : Nat) : cemits (didnReconC c nc nd) = nd := by
  match nd with
  | 0 => rfl
  | 1 => simp only [didnReconC, cemits_append, cemits_reconConvsC, cemits_cons, cemits_nil, reduceCtorEq, ↓reduceIte]
  | k + 2 =>
    simp only [didnReconC, cemits_append, cemits_reconConvsC, cemits_reconsC, cemits_dropsC, cemits_cons, cemits_nil, reduceCtorEq,
      ↓reduceIte]

theorem emits_didn_eq (P : DidnP) (cin cout c nd nc : Nat) (skip skipC : Bool) :
    emits (didn P nd nc skip) = cemits (didnC cin cout c nd nc skipC) := by
  cases skip <;> cases skipC <;>
    simp only [didn, didnC, didnTailC, emits_append, cemits_append, emits_dubs, cemits_dubsC, emits_reconBlocks, cemits_didnReconC,
      emits_cons, cemits_cons, emits_nil, cemits_nil, reduceCtorEq, ↓reduceIte, Bool.false_eq_true] <;> omega

/-! ## the full run: final shape, one record per hook, the batch axis at every hook -/

theorem zipWith_head (n : Nat) : ∀ (cs : List Nat) (ss : List Shape),
    ∀ x ∈ List.zipWith (fun c s => n :: c :: s) cs ss, x.head? = some n := by
  intro cs
  induction cs with
  | nil => intro ss x hx; simp at hx
  | cons c cs ih =>
    intro ss x hx
    cases ss with
    | nil => simp at hx
    | cons s ss =>
      simp only [List.zipWith_cons_cons, List.mem_cons] at hx
      rcases hx with rfl | hx
      · rfl
      · exact ih ss x hx

/-- both programs run and emit at the same `m` hooks: the full run succeeds with one record per hook -/
theorem fullRun_ok {sp : List Op} {ch : List COp} {n c c' m : Nat} {s s' : Shape}
    (hs : ∃ tr, run sp ⟨s, [], []⟩ = .ok ⟨s', [], tr⟩) (hc : CRun ch c [] c' []) (h1 : emits sp = m) (h2 : cemits ch = m) :
    ∃ t, fullRun sp ch n c s = .ok ⟨n :: c' :: s', t⟩ ∧ t.length = m ∧ ∀ x ∈ t, x.head? = some n := by
  obtain ⟨tr, hs⟩ := hs
  obtain ⟨ctr, hc⟩ := hc []
  have l1 := run_trace_len sp _ _ hs
  have l2 := runC_trace_len ch _ _ hc
  simp only [List.length_nil, Nat.zero_add] at l1 l2
  refine ⟨List.zipWith (fun c s => n :: c :: s) ctr tr, ?_, ?_, zipWith_head n ctr tr⟩
  · unfold fullRun
    rw [hs, hc]
  · rw [List.length_zipWith]; omega

theorem normUnetC_ok (L cin cout F : Nat) (hL : 1 ≤ L) (r : List Nat) : CRun (normUnetC cin cout F L) cin r cout r :=
  CRun.append (unetC_ok_pos hL cin cout F r) CRun.emit

theorem emits_normUnet (P : UnetP) (L : Nat) : emits (normUnet P L) = 3 * L + 2 := by
  simp only [normUnet, emits_append, emits_unet, emits_cons, emits_nil, reduceCtorEq, ↓reduceIte]; omega

theorem emits_unet3d (P : UnetP) (L : Nat) : emits (unet3d P L) = 3 * L + 1 := by
  simp only [unet3d, emits_append, emits_unet, emits_cons, emits_nil, reduceCtorEq, ↓reduceIte]; omega

theorem emits_normUnet3d (P : UnetP) (L : Nat) : emits (normUnet3d P L) = 3 * L + 2 := by
  simp only [normUnet3d, emits_append, emits_unet3d, emits_cons, emits_nil, reduceCtorEq, ↓reduceIte]; omega

theorem cemits_normUnetC (cin cout F L : Nat) : cemits (normUnetC cin cout F L) = 3 * L + 2 := by
  simp only [normUnetC, cemits_append, cemits_unetC, cemits_cons, cemits_nil, ↓reduceIte]

end DirectVerif.C17L
