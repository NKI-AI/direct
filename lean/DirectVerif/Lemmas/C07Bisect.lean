import DirectVerif.Model.C07Bisect
import DirectVerif.Lemmas.C07
/-!
# C07 — the slope interval of the VD-Poisson bisection (`Model/C07Bisect.lean`)

Property theorems of C07 (namespace `DirectVerif.C07`); `Props/C07.lean` takes `applyPost_id` from here.  `bisectIv mid` carries
the interval; `mid` is any midpoint function, the driver runs the binary64 one.
-/
namespace DirectVerif.C07
open DirectVerif DirectVerif.MaskBudget

theorem applyPost_id (post : List PostStmt) (h : ∀ s ∈ post, s.modifiesMask = false) (a : ℚ) :
    applyPost post a = a := by
  unfold applyPost
  induction post generalizing a with
  | nil => rfl
  | cons s post ih =>
    simp only [List.foldl_cons, h s List.mem_cons_self, Bool.false_eq_true, if_false]
    exact ih (fun t ht => h t (List.mem_cons_of_mem _ ht)) a

theorem postOfTable_clean (tbl : List (String × Bool)) (h : postOk tbl = true) (effect : ℚ → ℚ) :
    ∀ s ∈ postOfTable tbl effect, s.modifiesMask = false := by
  intro s hs
  simp only [postOfTable, List.mem_map] at hs
  obtain ⟨t, ht, rfl⟩ := hs
  simpa using List.all_eq_true.mp h t ht

def IsMid (mid : ℚ → ℚ → ℚ) : Prop := ∀ lo hi, lo < hi → lo ≤ mid lo hi ∧ mid lo hi ≤ hi

theorem exactMid_isMid : IsMid exactMid := by
  intro lo hi h; unfold exactMid; constructor <;> linarith

/-- **post-condition with the interval**, for every midpoint function -/
theorem bisection_iv_post (mid : ℚ → ℚ → ℚ) (R tol : ℚ) :
    ∀ (accs : List ℚ) (lo hi : ℚ) (n : Nat) (a : ℚ) (m : Nat) (s : ℚ),
      bisectIv mid R tol accs lo hi n = .returned a m s → |a - R| < tol := by
  intro accs
  induction accs with
  | nil => intro lo hi n a m s h; unfold bisectIv at h; split_ifs at h
  | cons x xs ih =>
    intro lo hi n a m s h
    unfold bisectIv at h
    split_ifs at h with h0 h1 h2 h3 h4
    · simp only [IvOutcome.returned.injEq] at h
      rw [← h.1, ← absQ_eq]; exact h1
    · exact ih _ _ _ _ _ _ h
    · exact ih _ _ _ _ _ _ h

/-- … and for the mask the caller gets, if no statement after the tolerance test modifies `mask` -/
theorem bisection_iv_post_returned (mid : ℚ → ℚ → ℚ) (R tol : ℚ) (accs : List ℚ) (lo hi : ℚ)
    (post : List PostStmt) (h : ∀ s ∈ post, s.modifiesMask = false) (a : ℚ) (n : Nat) (s : ℚ)
    (hr : poissonIv mid R tol accs lo hi post = .returned a n s) : |a - R| < tol := by
  unfold poissonIv at hr
  cases hb : bisectIv mid R tol accs lo hi 0 with
  | returned a' n' s' =>
    rw [hb] at hr
    simp only [IvOutcome.returned.injEq] at hr
    rw [← hr.1, applyPost_id post h]
    exact bisection_iv_post mid R tol accs lo hi 0 a' n' s' hb
  | raised n' s' => rw [hb] at hr; simp at hr
  | running n' l' h' => rw [hb] at hr; simp at hr
  | notEntered => rw [hb] at hr; simp at hr

/-- **the interval model refines the flag model** `MaskBudget.bisect`, the `stalled` flags computed from the interval -/
theorem bisection_iv_eq_bisect (mid : ℚ → ℚ → ℚ) (hmid : IsMid mid) (R tol : ℚ) :
    ∀ (accs : List ℚ) (lo hi : ℚ) (n : Nat), lo < hi →
      (bisectIv mid R tol accs lo hi n).erase = bisect R tol (ivProbes mid R tol accs lo hi) n := by
  intro accs
  induction accs with
  | nil =>
    intro lo hi n hlt
    unfold bisectIv ivProbes bisect
    rw [if_neg (by intro h; exact h.2 hlt)]
    rfl
  | cons x xs ih =>
    intro lo hi n hlt
    obtain ⟨m1, m2⟩ := hmid lo hi hlt
    by_cases h1 : absQ (x - R) < tol
    · simp only [bisectIv, ivProbes, bisect, if_pos hlt, if_pos h1, IvOutcome.erase]
    · by_cases h2 : mid lo hi = lo ∨ mid lo hi = hi
      · have hd : decide (mid lo hi = lo ∨ mid lo hi = hi) = true := decide_eq_true h2
        simp only [bisectIv, ivProbes, bisect, if_pos hlt, if_neg h1, if_pos h2, IvOutcome.erase, hd, if_true]
      · rw [not_or] at h2
        by_cases h3 : x < R
        · simp only [bisectIv, ivProbes, bisect, if_pos hlt, if_neg h1, if_pos h3, h2.1, h2.2, or_self, if_false]
          exact ih _ _ _ (lt_of_le_of_ne m2 h2.2)
        · simp only [bisectIv, ivProbes, bisect, if_pos hlt, if_neg h1, if_neg h3, h2.1, h2.2, or_self, if_false]
          exact ih _ _ _ (lt_of_le_of_ne m1 (Ne.symm h2.1))

/-- the configured interval: option `slopes`, or `0 … max(rows, cols)` -/
theorem bisection_iv_slopes_inside (mid : ℚ → ℚ → ℚ) (hmid : IsMid mid) (R tol : ℚ) :
    ∀ (accs : List ℚ) (lo hi : ℚ), ∀ s ∈ probedSlopes mid R tol accs lo hi, lo ≤ s ∧ s ≤ hi := by
  intro accs
  induction accs with
  | nil => intro lo hi s hs; simp [probedSlopes] at hs
  | cons x xs ih =>
    intro lo hi s hs
    unfold probedSlopes at hs
    by_cases hlt : lo < hi
    · rw [if_pos hlt] at hs
      obtain ⟨m1, m2⟩ := hmid lo hi hlt
      split_ifs at hs with h1 h2 h3
      · simp only [List.mem_singleton] at hs; subst hs; exact ⟨m1, m2⟩
      · simp only [List.mem_singleton] at hs; subst hs; exact ⟨m1, m2⟩
      · rcases List.mem_cons.mp hs with h | h
        · subst h; exact ⟨m1, m2⟩
        · obtain ⟨a, b⟩ := ih _ _ s h
          exact ⟨le_trans m1 a, b⟩
      · rcases List.mem_cons.mp hs with h | h
        · subst h; exact ⟨m1, m2⟩
        · obtain ⟨a, b⟩ := ih _ _ s h
          exact ⟨a, le_trans b m2⟩
    · rw [if_neg hlt] at hs
      simp at hs

theorem bisection_exact_halves (R tol : ℚ) :
    ∀ (accs : List ℚ) (lo hi : ℚ) (n m : Nat) (lo' hi' : ℚ), lo < hi →
      bisectIv exactMid R tol accs lo hi n = .running m lo' hi' →
        (hi' - lo') * 2 ^ (m - n) = hi - lo ∧ lo' < hi' ∧ n ≤ m := by
  intro accs
  induction accs with
  | nil =>
    intro lo hi n m lo' hi' hlt h
    unfold bisectIv at h
    rw [if_neg (by intro h; exact h.2 hlt)] at h
    simp only [IvOutcome.running.injEq] at h
    obtain ⟨rfl, rfl, rfl⟩ := h
    simp [hlt]
  | cons x xs ih =>
    intro lo hi n m lo' hi' hlt h
    unfold bisectIv at h
    rw [if_pos hlt] at h
    split_ifs at h with h1 h2 h3
    · have hs : (exactMid lo hi) < hi := by unfold exactMid; linarith
      obtain ⟨e, l, k⟩ := ih _ _ _ _ _ _ hs h
      refine ⟨?_, l, by omega⟩
      have : m - n = (m - (n + 1)) + 1 := by omega
      rw [this, pow_succ, ← mul_assoc, e]
      unfold exactMid; ring
    · have hs : lo < (exactMid lo hi) := by unfold exactMid; linarith
      obtain ⟨e, l, k⟩ := ih _ _ _ _ _ _ hs h
      refine ⟨?_, l, by omega⟩
      have : m - n = (m - (n + 1)) + 1 := by omega
      rw [this, pow_succ, ← mul_assoc, e]
      unfold exactMid; ring

/-- over ℚ the code would raise only through a midpoint equal to an end point, which the exact midpoint never is:
raising is a binary64 effect (≥ 45 halvings) -/
theorem bisection_exact_never_raises (R tol : ℚ) :
    ∀ (accs : List ℚ) (lo hi : ℚ) (n m : Nat) (s : ℚ), lo < hi →
      bisectIv exactMid R tol accs lo hi n ≠ .raised m s := by
  intro accs
  induction accs with
  | nil => intro lo hi n m s hlt h; unfold bisectIv at h; split_ifs at h
  | cons x xs ih =>
    intro lo hi n m s hlt h
    unfold bisectIv at h
    rw [if_pos hlt] at h
    have h1 : exactMid lo hi ≠ lo := by unfold exactMid; intro e; linarith
    have h2 : exactMid lo hi ≠ hi := by unfold exactMid; intro e; linarith
    split_ifs at h with a b c
    · rcases b with b | b
      · exact h1 b
      · exact h2 b
    · exact ih _ _ _ _ _ (by unfold exactMid; linarith) h
    · exact ih _ _ _ _ _ (by unfold exactMid; linarith) h

/-- binary64 as the driver executes it; the midpoint of two neighbouring doubles is one of them (the stall the code tests for) -/
example : rnd53 (1 / 3) = 6004799503160661 / 18014398509481984 := by decide +kernel
example : floatMid 0 128 = 64 ∧ floatMid (1 / 2) 60 = 121 / 4 := by decide +kernel
example : floatMid 1 (1 + 1 / 2 ^ 52) = 1 := by decide +kernel
example : bisectIv floatMid 4 (1 / 10) [5, 3, 81 / 20] 0 64 0 = .returned (81 / 20) 3 24 := by decide +kernel
example : bisectIv floatMid 4 (1 / 10) [3] 1 (1 + 1 / 2 ^ 52) 0 = .raised 1 1 := by decide +kernel
example : IsMid exactMid := exactMid_isMid

end DirectVerif.C07
