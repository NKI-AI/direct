import Mathlib.Analysis.Real.Sqrt
import DirectVerif.Lemmas.C19Ops
/-!
# C19 — the stopping test of `ConjGrad.cg`, over the reals

`if rk_norm_sq_new.abs().sqrt().mean() < self.tol: break` — for one sample the statistic is the mean over the
`(re, im)` pair of `√|·|` of the complex number `⟪r, r⟫`, i.e. `‖r‖ / 2` (the imaginary part of `⟪r, r⟫` is zero): the
loop is left when `‖r‖ < 2·tol`.
-/
open ComplexInnerProductSpace DirectVerif.DataConsistency
open scoped ComplexConjugate

namespace DirectVerif.C19
variable {E : Type*} [NormedAddCommGroup E] [InnerProductSpace ℂ E]
variable {G : Type*} [NormedAddCommGroup G] [InnerProductSpace ℂ G]

noncomputable def stopTol (tol : ℝ) (c : ℂ) : Bool :=
  decide ((Real.sqrt |c.re| + Real.sqrt |c.im|) / 2 < tol)

theorem stopTol_inner_self (tol : ℝ) (r : E) : stopTol tol ⟪r, r⟫ = true ↔ ‖r‖ < 2 * tol := by
  have hre : (⟪r, r⟫ : ℂ).re = ‖r‖ ^ 2 := re_inner_self r
  have him : (⟪r, r⟫ : ℂ).im = 0 := inner_self_im (𝕜 := ℂ) r
  unfold stopTol
  rw [decide_eq_true_iff, hre, him, abs_zero, Real.sqrt_zero, add_zero, abs_of_nonneg (sq_nonneg _),
    Real.sqrt_sq (norm_nonneg r)]
  exact div_lt_iff₀' two_pos

/-- the square-root-free form that the executable model decides over exact rationals (`stopQ`); `c = 4t² − a − b` -/
theorem stop_test_iff (a b t : ℝ) (ha : 0 ≤ a) (hb : 0 ≤ b) :
    (Real.sqrt a + Real.sqrt b) / 2 < t ↔
      0 < t ∧ 0 < 4 * t ^ 2 - a - b ∧ 4 * a * b < (4 * t ^ 2 - a - b) ^ 2 := by
  obtain ⟨p, hp, rfl⟩ : ∃ p, 0 ≤ p ∧ p ^ 2 = a := ⟨√a, Real.sqrt_nonneg a, Real.sq_sqrt ha⟩
  obtain ⟨q, hq, rfl⟩ : ∃ q, 0 ≤ q ∧ q ^ 2 = b := ⟨√b, Real.sqrt_nonneg b, Real.sq_sqrt hb⟩
  rw [Real.sqrt_sq hp, Real.sqrt_sq hq, div_lt_iff₀ two_pos]
  have hs : 0 ≤ p + q := add_nonneg hp hq
  have hpq : 0 ≤ 2 * (p * q) := mul_nonneg zero_le_two (mul_nonneg hp hq)
  -- with `c = 4t² − p² − q²`: `c − 2pq = (2t − (p+q)) (2t + (p+q))` and `c² − 4p²q² = (c − 2pq) (c + 2pq)`; in both
  -- products the second factor is non-negative, so the sign of the product is the sign of the first
  have e1 : 4 * t ^ 2 - p ^ 2 - q ^ 2 - 2 * (p * q) = (t * 2 - (p + q)) * (t * 2 + (p + q)) := by ring
  have e2 : (4 * t ^ 2 - p ^ 2 - q ^ 2) ^ 2 - 4 * p ^ 2 * q ^ 2 =
      (4 * t ^ 2 - p ^ 2 - q ^ 2 - 2 * (p * q)) * (4 * t ^ 2 - p ^ 2 - q ^ 2 + 2 * (p * q)) := by ring
  constructor
  · intro h
    have ht : 0 < t * 2 := hs.trans_lt h
    have h1 : 0 < 4 * t ^ 2 - p ^ 2 - q ^ 2 - 2 * (p * q) :=
      e1 ▸ mul_pos (sub_pos.mpr h) (add_pos_of_pos_of_nonneg ht hs)
    have hc : 0 < 4 * t ^ 2 - p ^ 2 - q ^ 2 := h1.trans_le (sub_le_self _ hpq)
    have h2 := mul_pos h1 (add_pos_of_pos_of_nonneg hc hpq)
    rw [← e2] at h2
    exact ⟨pos_of_mul_pos_left ht zero_le_two, hc, sub_pos.mp h2⟩
  · rintro ⟨ht, hc, h4⟩
    have h2 := sub_pos.mpr h4
    rw [e2] at h2
    have h1 := pos_of_mul_pos_left h2 (add_nonneg hc.le hpq)
    rw [e1] at h1
    exact sub_pos.mp (pos_of_mul_pos_left h1 (add_nonneg (mul_nonneg ht.le zero_le_two) hs))

theorem stopTol_nonpos (tol : ℝ) (h : tol ≤ 0) (c : ℂ) : stopTol tol c = false := by
  unfold stopTol
  rw [decide_eq_false_iff_not, not_lt]
  have := Real.sqrt_nonneg |c.re|
  have := Real.sqrt_nonneg |c.im|
  linarith

end DirectVerif.C19
