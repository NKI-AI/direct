import DirectVerif.Lemmas.C19Loglik
/-!
`Bridge/C19.lean` shows that each re-implementation of the physics in the unrolled models and engines evaluates to one of
`softDC`, `sense`, `feOp`, `aOp`, `aStar`, `dcGradTwice`, `dcGradAfter`, `loglik`, `cirimKspace`, `hardDC`, `sensGrad`.
Here: what those forms are, over Mathlib's inner-product spaces.
-/
open ComplexInnerProductSpace DirectVerif.DataConsistency
open scoped ComplexConjugate

namespace DirectVerif.C19
variable {E : Type*} [NormedAddCommGroup E] [InnerProductSpace ℂ E]
variable {G : Type*} [NormedAddCommGroup G] [InnerProductSpace ℂ G]

/-- the complementary mask is `1 − M`; the coil-wise product `C` is arbitrary -/
noncomputable def mathOpsX (F Fb : G →ₗ[ℂ] G) (Ex : E →ₗ[ℂ] G) (R : G →ₗ[ℂ] E) (M : G →ₗ[ℂ] G)
    (C : E → G → G) : OpsX ℂ E G :=
  { mathOps F Fb Ex R M with
    addW := fun a b => a + b
    maskC := fun w => w - M w
    mulConjVW := C }

section
variable {F Fb : G →ₗ[ℂ] G} {Ex : E →ₗ[ℂ] G} {R : G →ₗ[ℂ] E} {M : G →ₗ[ℂ] G}

local notation "𝒪" => mathOps F Fb Ex R M

/-- `_forward_operator` of LPDNet / XPDNet / JointICNet / IterDualNet / MRIModelEngine, KIKINet's k-space step -/
theorem aOp_eq_fwdModel (x : E) : aOp 𝒪 x = fwdModel F Ex M x := rfl

/-- their `_backward_operator`, `ConjGrad._A_star_op`, KIKINet's image step -/
theorem aStar_eq_adjModel (k : G) : aStar 𝒪 k = adjModel Fb R M k := rfl

theorem site_operators_adjoint (P : Physics F Fb Ex R M) (x : E) (k : G) :
    ⟪aOp 𝒪 x, k⟫ = ⟪x, aStar 𝒪 k⟫ := adjModel_is_adjoint P x k

/-- IterDualNet / JointICNet image step `_backward_operator(_forward_operator(x) − y)` -/
theorem dcGradTwice_eq_loglik (P : Physics F Fb Ex R M) (x : E) (y : G) :
    dcGradTwice 𝒪 x y = loglik 𝒪 1 x y := by
  rw [loglik_eq, one_smul]
  show R (Fb (M (M (F (Ex x)) - y))) = _
  rw [map_sub, P.mask_idem]

/-- VSharpNet / VSharpNet3D x-step: one mask, after the subtraction -/
theorem dcGradAfter_eq_loglik (P : Physics F Fb Ex R M) (x : E) (y : G) :
    dcGradAfter 𝒪 x y = loglik 𝒪 1 x y := by
  rw [loglik_eq_gradient P, one_smul]
  show R (Fb (M (F (Ex x) - y))) = _
  simp only [fwdModel, adjModel, LinearMap.comp_apply, map_sub, P.mask_idem]

/-- EndToEndVarNetBlock / RecurrentVarNetBlock / CIRIM -/
theorem softDC_eq (k y : G) : softDC 𝒪 k y = M k - M y := by
  show M (k - y) = _
  rw [map_sub]

/-- it is the gradient of the k-space data term `½‖M k − M y‖²` … -/
theorem softDC_is_kspace_gradient (P : Physics F Fb Ex R M) (k h y : G) :
    ‖M (k + h) - M y‖ ^ 2 / 2 = ‖M k - M y‖ ^ 2 / 2 + (⟪softDC 𝒪 k y, h⟫).re + ‖M h‖ ^ 2 / 2 := by
  have e : M (k + h) - M y = (M k - M y) + M h := by rw [map_add]; abel
  have sa : ⟪M k - M y, M h⟫ = ⟪softDC 𝒪 k y, h⟫ := by
    rw [softDC_eq, ← map_sub, ← P.mask_sa, P.mask_idem]
  rw [e, norm_add_sq (𝕜 := ℂ), sa]
  simp only [RCLike.re_to_complex]
  ring

/-- … and pulled back to image space at `k = F E x` the image-space gradient -/
theorem softDC_pullback (x : E) (y : G) :
    sense 𝒪 (softDC 𝒪 (feOp 𝒪 x) y) = loglik 𝒪 1 x y := by
  rw [loglik_eq, one_smul]
  show R (Fb (M (F (Ex x) - y))) = _
  rw [map_sub]

/-- MRIVarSplitNet's DC step is the block itself (`Bridge.C19.site_varsplit_dc_sem`) -/
theorem varsplit_dc_eq_gradient (P : Physics F Fb Ex R M) (s : ℂ) (x : E) (y : G) :
    loglik 𝒪 s x y = s • adjModel Fb R M (fwdModel F Ex M x - M y) := loglik_eq_gradient P s x y

/-- CIRIM's returned k-space; NOT a gradient step of the data term: the model prediction enters un-masked and with a
minus sign (recorded as is) -/
theorem cirimKspace_eq (x : E) (k y : G) : cirimKspace 𝒪 x k y = y - (M k - M y) - F (Ex x) := by
  show y - M (k - y) - F (Ex x) = _
  rw [map_sub]

variable (C : E → G → G)

local notation "𝒳" => mathOpsX F Fb Ex R M C

/-- SSL / VSharp engines -/
theorem hardDC_eq (x : E) (y : G) : hardDC 𝒳 x y = y + (F (Ex x) - M (F (Ex x))) := rfl

theorem hardDC_sampled (P : Physics F Fb Ex R M) (x : E) (y : G) : M (hardDC 𝒳 x y) = M y := by
  rw [hardDC_eq, map_add, map_sub, P.mask_idem, sub_self, add_zero]

/-- for masked input data -/
theorem hardDC_unsampled (P : Physics F Fb Ex R M) (x : E) (y : G) (hy : M y = y) :
    hardDC 𝒳 x y - M (hardDC 𝒳 x y) = F (Ex x) - M (F (Ex x)) := by
  rw [hardDC_sampled C P, hardDC_eq, hy]; abel

theorem hardDC_consistent (P : Physics F Fb Ex R M) (x : E) (y : G) :
    softDC 𝒪 (hardDC 𝒳 x y) y = 0 := by
  rw [softDC_eq, hardDC_sampled C P, sub_self]

/-- JointICNet's sensitivity-map step, `C x w = w · conj x` coil-wise (that it is the gradient with respect to the
sensitivity map is checked on the real code by the oracle) -/
theorem sensGrad_eq (x : E) (y : G) : sensGrad 𝒳 x y = C x (Fb (M (M (F (Ex x)) - y))) := rfl

end
end DirectVerif.C19
