import DirectVerif.Gen.C06
import DirectVerif.Model.MaskGeom
import DirectVerif.Model.C06Seed
import DirectVerif.Model.C06Crop
import DirectVerif.Model.C06Grid
import DirectVerif.Lemmas.Basic
/-!
# Bridge C06 — the ACS arithmetic translated from `/repo` equals the hand-written model

The kernel lemmas are closed by one fixed script (`unfold`, Python `//` to `/` on a non-negative divisor, `try omega`)
whatever the translator emits for the current source (DESIGN.md section 5) — hence the `try`.
-/
set_option linter.unusedSimpArgs false
namespace DirectVerif.Bridge.C06
open DirectVerif DirectVerif.MaskGeom DirectVerif.Gen.C06 DirectVerif.C06Seed DirectVerif.C06Round

theorem center_mask_pad_eq (n l : Int) : center_mask_pad n l = centerPad n l := by
  unfold center_mask_pad centerPad
  simp only [fdiv_two]
  try omega

/-- the slice `mask[pad : pad + num_low_freqs] = True` -/
theorem center_mask_lo_eq (n l : Int) : center_mask_lo n l = centerPad n l := by
  unfold center_mask_lo centerPad
  simp only [fdiv_two]
  try omega

theorem center_mask_hi_eq (n l : Int) : center_mask_hi n l = centerPad n l + l := by
  unfold center_mask_hi centerPad
  simp only [fdiv_two]
  try omega

theorem zero_pad_start_eq (t c : Int) : zero_pad_start t c = zeroPadStart t c := by
  unfold zero_pad_start zeroPadStart
  simp only [fdiv_two]
  try omega

theorem zero_pad_stop_eq (t c : Int) : zero_pad_stop t c = zeroPadStart t c + c := by
  unfold zero_pad_stop zeroPadStart
  simp only [fdiv_two]
  try omega

/-! `num_low_freqs` glue, float arithmetic and branch conditions included, against `numLow` of `Model/C06Seed.lean`; `ty`
codes the Python TYPE of the configured value — the width depends on the VALUE only -/

theorem num_low_random_eq (cols : Nat) (p : PairCfg) (ty : Int) (g : Gen) (hg : g = .fastmriRandom ∨ g = .cartesianRandom) :
    num_low_random cols p.cfNum p.cfDen ty = numLow g cols p := by
  rcases hg with rfl | rfl <;>
  · simp only [num_low_random, numLowFraction, numLow, numLowFreqs, roundMul, Int.toNat_natCast, Int.one_mul, Int.ofNat_lt, decide_eq_true_eq]

theorem num_low_equispaced_eq (cols : Nat) (p : PairCfg) (ty : Int) (g : Gen) (hg : g = .fastmriEquispaced ∨ g = .cartesianEquispaced) :
    num_low_equispaced cols p.cfNum p.cfDen ty = numLow g cols p := by
  rcases hg with rfl | rfl <;>
  · simp only [num_low_equispaced, numLowFraction, numLow, numLowFreqs, roundMul, Int.toNat_natCast, Int.one_mul, Int.ofNat_lt, decide_eq_true_eq]

theorem num_low_magic_eq (cols : Nat) (p : PairCfg) (ty ty' : Int) (g : Gen) (hg : g = .fastmriMagic ∨ g = .cartesianMagic) :
    magic_cap (num_low_magic cols p.cfNum p.cfDen ty) (magic_target cols p.accNum p.accDen ty') = numLow g cols p := by
  rcases hg with rfl | rfl <;>
  · simp only [magic_cap, num_low_magic, numLowMagicRaw, magic_target, numLow, numLowFreqs, magicCap, roundMul, roundQuot, Int.toNat_natCast,
      Int.one_mul, gt_iff_lt, Int.ofNat_lt, decide_eq_true_eq]
    by_cases h : p.cfDen < p.cfNum <;> simp [h]

/-- constructor guards (`if not all(… for center_fraction in center_fractions): raise ValueError`) -/
theorem ctor_accepts_eq (p : PairCfg) (isInt : Bool) :
    ctor_accepts_fastmrirandom p.cfNum p.cfDen (if isInt then 1 else 0) = ctorAccepts .fastmriRandom p isInt ∧
    ctor_accepts_fastmriequispaced p.cfNum p.cfDen (if isInt then 1 else 0) = ctorAccepts .fastmriEquispaced p isInt ∧
    ctor_accepts_fastmrimagic p.cfNum p.cfDen (if isInt then 1 else 0) = ctorAccepts .fastmriMagic p isInt ∧
    ctor_accepts_cartesianrandom p.cfNum p.cfDen (if isInt then 1 else 0) = ctorAccepts .cartesianRandom p isInt ∧
    ctor_accepts_cartesianequispaced p.cfNum p.cfDen (if isInt then 1 else 0) = ctorAccepts .cartesianEquispaced p isInt ∧
    ctor_accepts_cartesianmagic p.cfNum p.cfDen (if isInt then 1 else 0) = ctorAccepts .cartesianMagic p isInt := by
  simp only [ctor_accepts_fastmrirandom, ctor_accepts_fastmriequispaced, ctor_accepts_fastmrimagic, ctor_accepts_cartesianrandom,
    ctor_accepts_cartesianequispaced, ctor_accepts_cartesianmagic, ctorAccepts, fractionAccepted, countAccepted, and_self]

theorem num_low_gaussian1d_eq (cols : Nat) (p : PairCfg) (ty : Int) :
    num_low_gaussian1d cols p.cfNum p.cfDen ty = numLow .gaussian1d cols p := by
  simp only [num_low_gaussian1d, numLow, roundMul, Int.toNat_natCast]

theorem num_low_ktuniform_eq (cols : Nat) (p : PairCfg) (ty : Int) :
    num_low_ktuniform cols p.cfNum p.cfDen ty = numLow .ktUniform cols p := by
  simp only [num_low_ktuniform, numLow, roundMul, Int.toNat_natCast]

theorem num_low_ktgaussian1d_eq (cols : Nat) (p : PairCfg) (ty : Int) :
    num_low_ktgaussian1d cols p.cfNum p.cfDen ty = numLow .ktGaussian1d cols p := by
  simp only [num_low_ktgaussian1d, numLow, roundMul, Int.toNat_natCast]

theorem magic_cap_eq (l t : Int) : magic_cap l t = magicCap l t := by
  simp only [magic_cap, magicCap]

/-- the budget test `adjusted_target_cols_to_sample > 0` -/
theorem magic_adjusted_target_eq (n : Nat) (l t : Int) :
    magicAdjusted n t l = if magic_adjusted_target l t > 0 then roundDiv n (magic_adjusted_target l t).toNat else 0 := by
  unfold magic_adjusted_target magicAdjusted
  by_cases h : t - l > 0
  · simp
  · simp

/-- `centered_disk_mask`: centre sample `(rows // 2, cols // 2)`, strict `<` against `radius²` -/
theorem disk_pred_eq (rows cols : Nat) (radius : Int) (x y : Nat) :
    disk_pred rows cols radius x y = inDisk rows cols radius x y := by
  unfold disk_pred inDisk
  simp only [fdiv_two]
  -- the centre `rows // 2` of the code, an `Int` quotient, is the cast of the model's `Nat` quotient
  have e1 : ((rows : Int) / 2) = ((rows / 2 : Nat) : Int) := by omega
  have e2 : ((cols : Int) / 2) = ((cols / 2 : Nat) : Int) := by omega
  rw [e1, e2]

/-- CIRCUS disc: `(Y - c0)² + (X - c1)² <= radius²` -/
theorem circus_disk_pred_eq (rows cols : Nat) (thr : Int) (x y : Nat) :
    circus_disk_pred ((rows / 2 : Nat) : Int) ((cols / 2 : Nat) : Int) thr x y = inDiskLe rows cols thr x y := by
  simp only [circus_disk_pred, inDiskLe]

/-- `temp_seed` is `state = rng.get_state(); rng.seed(seed); try: yield finally: rng.set_state(state)`: the seed reaches
`rng.seed` unchanged — also `0`, `False`, `np.int64(0)` -/
theorem seed_passes_unchanged : seedPassOk tempSeed tempSeedArgs = true := by decide

/-- no instance / class / module state, memoising decorator or mutable default in anything reachable from `mask_func`
or `__call__` of the 14 generators -/
theorem no_state_written : stateWritesOk stateWrites = true := by decide

/-- `__call__` is its guards followed by `return self.mask_func(shape, *args, **kwargs)` -/
theorem call_forwards : callPlanOk callPlans = true := by decide

/-- one `with temp_seed(self.rng, seed)` over the never rebound `seed`; `choose_acceleration` is called once, inside it,
before the `return_acs` return -/
theorem seed_param_ok : seedParamOk seedParams = true := by decide +kernel

/-- call sites outside `subsample.py` request mask and ACS with the same `shape` and `seed` -/
theorem call_site_plumbing_ok : plumbingOk callSitePlumbing = true := by decide

/-- the machine the translated facts select is the one `Props/C06.lean` (section histories) is about -/
theorem code_machine {σ Seed : Type} :
    @callWith σ Seed (SeedArg.ofTexts tempSeedArgs) (MemoPolicy.ofWrites stateWrites) = @call σ Seed := by
  have h1 : SeedArg.ofTexts tempSeedArgs = .unchanged := by decide
  have h2 : MemoPolicy.ofWrites stateWrites = .none := by decide
  rw [h1, h2]; rfl

/-- the geometry helpers build their index grids with the default 64-bit signed integers and cast nothing narrower, so
the squared distances computed in ℤ are what the code computes -/
theorem grid_index_dtypes_ok : C06Grid.gridDtypesOk gridDtypes = true := by decide

/-- `poisson`: the corner crop is applied BEFORE the ACS disc is OR-ed in — the translated statement order selects
`C06Crop.poissonFrame`, the frame of `C06.poisson_crop_acs_subset` -/
theorem poisson_crop_before_disc : C06Crop.frameOfOrder poissonOrder = C06Crop.poissonFrame := by
  have h : poissonOrder = ["raster", "crop", "disc"] := by decide
  rw [h]; rfl

end DirectVerif.Bridge.C06
