import Mathlib.Analysis.Real.Sqrt
import Mathlib.Analysis.Complex.Exponential
import DirectVerif.Model.Sens
/-!
# C09 (sensitivity maps are normalised and finite): lemmas about `Model/Sens.lean`

Dividing by the norm, weighting by the Gaussian window and masking are instances of one entrywise operation,
`divMapWith`; the facts about fibres and composition are stated once, for it.  Over ℝ the normalisation theorems
come down to `sumsq_mul` and `Real.sqrt`.
-/
namespace DirectVerif.Sens

/-- the instance the ℝ-theorems of `Props/C09` are stated for.  `x / 0 = 0` is what the guard of `safe_divide`
returns: over ℝ the guard cannot be seen (`safeDivide_real`). -/
noncomputable def realNum : Num ℝ := { div := fun a b => a / b, sqrt := Real.sqrt }

/-- the window operations with the true `exp`; the driver runs `ratWin`, a rational surrogate -/
noncomputable def realWin : WinNum ℝ := { ofInt := fun n => (n : ℝ), expNeg := fun x => Real.exp (-x) }

section generic
variable {α : Type}

theorem mem_fibre_iff {S : SMap α} {p : Nat} {c : α × α} :
    c ∈ fibre S p ↔ ∃ coil ∈ S, coil[p]? = some c := List.mem_filterMap

theorem mem_fibre (S : SMap α) (p : Nat) (coil : List (α × α)) (c : α × α) (hc : coil ∈ S)
    (hp : coil[p]? = some c) : c ∈ fibre S p := mem_fibre_iff.mpr ⟨coil, hc, hp⟩

theorem fibre_singleton (coil : List (α × α)) (p : Nat) : fibre [coil] p = coil[p]?.toList := by
  unfold fibre
  rw [List.filterMap_cons]
  cases coil[p]? <;> rfl

theorem fibre_divMapWith (dv : α → α → α) (S : SMap α) (n : Nat → α) (p : Nat) :
    fibre (divMapWith dv S n) p = (fibre S p).map (fun c => (dv c.1 (n p), dv c.2 (n p))) := by
  unfold fibre divMapWith
  rw [List.filterMap_map, List.map_filterMap]
  congr 1
  funext coil
  exact List.getElem?_mapIdx

theorem fibre_map (f : α × α → α × α) (S : SMap α) (p : Nat) :
    fibre (S.map (List.map f)) p = (fibre S p).map f := by
  unfold fibre
  rw [List.filterMap_map, List.map_filterMap]
  congr 1
  funext coil
  exact List.getElem?_map

theorem divMapWith_congr {dv dv' : α → α → α} {n n' : Nat → α} (h : ∀ p x, dv x (n p) = dv' x (n' p))
    (S : SMap α) : divMapWith dv S n = divMapWith dv' S n' := by
  simp only [divMapWith, h]

theorem divMapWith_eq_self {dv : α → α → α} {S : SMap α} {n : Nat → α}
    (h : ∀ coil ∈ S, ∀ p c, coil[p]? = some c → (dv c.1 (n p), dv c.2 (n p)) = c) :
    divMapWith dv S n = S := by
  unfold divMapWith
  refine (List.map_congr_left (g := fun coil => coil) fun coil hcoil => ?_).trans (List.map_id' S)
  apply List.ext_getElem?
  intro p
  rw [List.getElem?_mapIdx]
  cases hp : coil[p]? with
  | none => rfl
  | some c => exact congrArg some (h coil hcoil p c hp)

/-- three independent operations and divisors: the callers compare divisions by the norms of different maps -/
theorem divMapWith_divMapWith {dv dv' dv'' : α → α → α} {n n' n'' : Nat → α}
    (h : ∀ p x, dv' (dv x (n p)) (n' p) = dv'' x (n'' p)) (S : SMap α) :
    divMapWith dv' (divMapWith dv S n) n' = divMapWith dv'' S n'' := by
  simp only [divMapWith, List.map_map, Function.comp_def, List.mapIdx_mapIdx, h]

/-- the mask value is only compared with `0`, never multiplied in -/
theorem maskPixels_eq_divMapWith [Zero α] [DecidableEq α] (m : Nat → α) (S : SMap α) :
    maskPixels m S = divMapWith (fun x mp => if mp = 0 then 0 else x) S m := by
  unfold maskPixels divMapWith
  congr
  funext coil
  congr
  funext p c
  by_cases h : m p = 0
  · simp only [h, if_true]
  · simp only [h, if_false]

theorem gaussianActive_eq_some [Zero α] [DecidableEq α] {sigma : Option α} {s : α}
    (h : gaussianActive sigma = some s) : sigma = some s ∧ s ≠ 0 := by
  unfold gaussianActive at h
  split at h
  · cases h
  · split at h
    · cases h
    · cases h; exact ⟨rfl, ‹_›⟩

end generic

theorem safeDivide_real (x n : ℝ) : safeDivide realNum x n = x / n := by
  unfold safeDivide
  split
  next h => rw [h, div_zero]
  next => rfl

theorem sq_nonneg_cx (c : ℝ × ℝ) : 0 ≤ sq c := add_nonneg (mul_self_nonneg c.1) (mul_self_nonneg c.2)

theorem mul_self_le_sq (c : ℝ × ℝ) : c.1 * c.1 ≤ sq c ∧ c.2 * c.2 ≤ sq c :=
  ⟨le_add_of_nonneg_right (mul_self_nonneg c.2), le_add_of_nonneg_left (mul_self_nonneg c.1)⟩

theorem sq_eq_zero (c : ℝ × ℝ) : sq c = 0 ↔ c = (0, 0) := by
  rw [Prod.ext_iff]
  exact mul_self_add_mul_self_eq_zero

theorem sumsq_nonneg (v : List (ℝ × ℝ)) : 0 ≤ (v.map sq).sum :=
  List.sum_nonneg fun _ hx => by
    obtain ⟨c, _, rfl⟩ := List.mem_map.mp hx
    exact sq_nonneg_cx c

theorem sq_le_sumsq (v : List (ℝ × ℝ)) (c : ℝ × ℝ) (hc : c ∈ v) : sq c ≤ (v.map sq).sum :=
  List.single_le_sum (fun _ hx => by
    obtain ⟨c, _, rfl⟩ := List.mem_map.mp hx
    exact sq_nonneg_cx c) _ (List.mem_map_of_mem hc)

theorem sumsq_eq_zero (v : List (ℝ × ℝ)) : (v.map sq).sum = 0 ↔ ∀ c ∈ v, c = (0, 0) := by
  constructor
  · intro h c hc
    exact (sq_eq_zero c).mp (le_antisymm (h ▸ sq_le_sumsq v c hc) (sq_nonneg_cx c))
  · intro h
    apply List.sum_eq_zero
    intro x hx
    obtain ⟨c, hc, rfl⟩ := List.mem_map.mp hx
    exact (sq_eq_zero c).mpr (h c hc)

theorem sumsq_mul (v : List (ℝ × ℝ)) (w : ℝ) :
    ((v.map fun c => (c.1 * w, c.2 * w)).map sq).sum = w * w * (v.map sq).sum := by
  induction v with
  | nil => simp
  | cons c v ih =>
    simp only [List.map_cons, List.sum_cons, ih]
    unfold sq
    ring

theorem normAt_mul_self (S : SMap ℝ) (p : Nat) : normAt realNum S p * normAt realNum S p = sumSqAt S p :=
  Real.mul_self_sqrt (sumsq_nonneg _)

theorem normAt_eq_zero (S : SMap ℝ) (p : Nat) : normAt realNum S p = 0 ↔ sumSqAt S p = 0 :=
  Real.sqrt_eq_zero (sumsq_nonneg _)

theorem sumSqAt_divMapWith_div (S : SMap ℝ) (n : Nat → ℝ) (p : Nat) :
    sumSqAt (divMapWith (· / ·) S n) p = sumSqAt S p / (n p * n p) := by
  unfold sumSqAt
  rw [fibre_divMapWith]
  -- division is multiplication by `(n p)⁻¹`, also for `n p = 0`, where both sides are `0`
  simp only [div_eq_mul_inv, sumsq_mul, mul_inv, mul_comm]

theorem sumSqAt_weightPixels (w : Nat → ℝ) (S : SMap ℝ) (p : Nat) :
    sumSqAt (weightPixels w S) p = w p * w p * sumSqAt S p := by
  unfold sumSqAt weightPixels
  rw [fibre_divMapWith]
  exact sumsq_mul _ _

theorem normAt_weightPixels (w : Nat → ℝ) (S : SMap ℝ) (p : Nat) (hw : 0 ≤ w p) :
    normAt realNum (weightPixels w S) p = w p * normAt realNum S p := by
  unfold normAt
  rw [sumSqAt_weightPixels]
  exact (Real.sqrt_mul (mul_self_nonneg (w p)) _).trans (congrArg (· * _) (Real.sqrt_mul_self hw))

theorem renorm_real (S : SMap ℝ) : renorm realNum S = divMapWith (· / ·) S (normAt realNum S) :=
  divMapWith_congr (fun _ x => safeDivide_real x _) S

/-- ESPIRiT's `x * conj x / |x|` is the modulus of the entry -/
theorem sq_espiritPhase (c : ℝ × ℝ) : Sens.sq (espiritPhase realNum c) = Sens.sq c := by
  show Sens.sq c / Real.sqrt (Sens.sq c) * (Sens.sq c / Real.sqrt (Sens.sq c)) + 0 * 0 = Sens.sq c
  rw [Real.div_sqrt, mul_zero, add_zero]
  exact Real.mul_self_sqrt (sq_nonneg_cx c)

/-- `linspace(-1, 1, 1) = [-1]` -/
theorem linspaceCoord_of_le_one {α : Type} (num : Num α) (wn : WinNum α) {W : Nat} (hW : W ≤ 1) (j : Nat) :
    linspaceCoord num wn W j = wn.ofInt (-1) := if_pos hW

theorem linspaceCoord_of_one_lt {α : Type} (num : Num α) (wn : WinNum α) {W : Nat} (hW : 1 < W) (j : Nat) :
    linspaceCoord num wn W j =
      num.div (wn.ofInt (2 * (j : Int) - ((W : Int) - 1))) (wn.ofInt ((W : Int) - 1)) ∧ (W : Int) - 1 ≠ 0 :=
  ⟨if_neg (Nat.not_le.mpr hW), by omega⟩

theorem linspaceCoord_real (W j : Nat) (hW : 2 ≤ W) :
    linspaceCoord realNum realWin W j = (2 * (j : ℝ) - ((W : ℝ) - 1)) / ((W : ℝ) - 1) := by
  rw [(linspaceCoord_of_one_lt realNum realWin hW j).1]
  show ((2 * (j : Int) - ((W : Int) - 1) : Int) : ℝ) / (((W : Int) - 1 : Int) : ℝ) = _
  rw [Int.cast_sub, Int.cast_sub, Int.cast_mul, Int.cast_ofNat, Int.cast_natCast, Int.cast_natCast, Int.cast_one]

/-- the ends of the range of magnitudes C09 is documented for (DESIGN.md: `2^-60 < |x| < 2^60`) -/
noncomputable def rangeHi : ℝ := 2 ^ 60
noncomputable def rangeLo : ℝ := 1 / 2 ^ 60

theorem rangeLo_pos : 0 < rangeLo := by unfold rangeLo; positivity

theorem rangeHi_pos : 0 < rangeHi := by unfold rangeHi; positivity

theorem mul_self_le_of_abs_le {x b : ℝ} (h : |x| ≤ b) : x * x ≤ b * b :=
  abs_mul_abs_self x ▸ mul_self_le_mul_self (abs_nonneg x) h

theorem mul_self_ge_of_abs_ge {x b : ℝ} (hb : 0 ≤ b) (h : b ≤ |x|) : b * b ≤ x * x :=
  abs_mul_abs_self x ▸ mul_self_le_mul_self hb h

theorem sumsq_le_length (v : List (ℝ × ℝ)) (b : ℝ) (h : ∀ c ∈ v, |c.1| ≤ b ∧ |c.2| ≤ b) :
    (v.map sq).sum ≤ v.length * (2 * (b * b)) := by
  have hs : ∀ x ∈ v.map sq, x ≤ 2 * (b * b) := fun x hx => by
    obtain ⟨c, hc, rfl⟩ := List.mem_map.mp hx
    exact (add_le_add (mul_self_le_of_abs_le (h c hc).1) (mul_self_le_of_abs_le (h c hc).2)).trans_eq
      (two_mul _).symm
  exact (List.sum_le_card_nsmul _ _ hs).trans_eq (by rw [List.length_map, nsmul_eq_mul])

theorem pySumShape_last (s : List Nat) (x : Nat) : pySumShape (s ++ [x]) (-1) = s := by
  have hi : ((-1 : Int) + ((s ++ [x]).length : Int)).toNat = s.length := by
    rw [List.length_append, List.length_singleton]; omega
  simp only [pySumShape, Int.reduceNeg, Int.reduceLT, if_true, hi]
  simp

theorem pyUnsqueeze_last (s : List Nat) : pyUnsqueeze s (-1) = s ++ [1] := by
  have hi : ((-1 : Int) + (s.length : Int) + 1).toNat = s.length := by omega
  simp only [pyUnsqueeze, Int.reduceNeg, Int.reduceLT, if_true, hi]
  simp

theorem pySumShape_one (n c : Nat) (s : List Nat) : pySumShape (n :: c :: s) 1 = n :: s := rfl

theorem pyUnsqueeze_one (n : Nat) (s : List Nat) : pyUnsqueeze (n :: s) 1 = n :: 1 :: s := rfl

end DirectVerif.Sens
