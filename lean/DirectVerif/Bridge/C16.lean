import DirectVerif.Gen.C16
import DirectVerif.Lemmas.Basic
/-!
# Bridge C16 — the loop body translated from `/repo` is the one the model interprets

Every table and guard of `Gen/C16.lean` (regenerated from `direct/engine.py` and `direct/nn/**`) equals the constant that
`Model/Train.lean` / `Model/C16Events.lean` interpret; a source change that alters one makes the `decide` here fail.
`wfBetween` and `wfZero` are hypotheses of theorems in `Props/C16.lean`; `wfLoop`, `wfEngines` and `wfAmp` have no consumer
in Lean: they only record what the fixed tables are meant to guarantee (`wfEngines`: what `Ops.grad` stands for).
-/
namespace DirectVerif.Bridge.C16
open DirectVerif DirectVerif.Train DirectVerif.Gen.C16

/-- statement order and guards of `Engine.training_loop` = the table `Train.iter` interprets -/
theorem loop_table_eq : Gen.C16.loopTable = Train.loopTable := by decide

/-- "`zero_grad` occurs only inside the step branch, after the optimiser step" (and the rest of `wfLoop`) -/
theorem loop_table_wf : wfLoop Gen.C16.loopTable = true := by decide +kernel

/-- every engine class of direct/nn only *adds* its batch's gradient to `.grad` (`wfEngine`): what `Ops.grad` stands for -/
theorem engine_rows_wf : wfEngines engineRows = true := by decide +kernel

/-- `div_(gradient_steps)` and `clip_grad_norm_` act on the gradients of `self.model` and of every model in
`self.models` (assumed by `Toy.opsAux` and `Props/C16.lean : additional_models_receive_mean`) -/
theorem div_scope_eq : divScope = .allModels ∧ clipScope = .allModels := by decide

/-! ### the translated guards compute on `Int`, the model's on `Nat` -/

/-- `(iter_idx + 1) % gradient_steps == 0` -/
theorem step_guard_eq (it k : Nat) : step_guard (it : Int) (k : Int) = evalGuard { k := k } it .stepBranch :=
  fmod_beq_zero (it + 1) k

/-- `gradient_steps > 1` -/
theorem div_guard_eq (it : Int) (k : Nat) : div_guard it (k : Int) = evalGuard { k := k } 0 .kGt1 :=
  show decide ((k : Int) > 1) = decide (k > 1) from decide_eq_decide.mpr (by omega)

/-- the statements of `validation_loop` / `evaluate` / `reconstruct_volumes` / `checkpoint_model_at_interval` /
`Checkpointer.save` / `write_to_logs…` / `checkpoint_and_write_to_logs` / `log_first_training_example_and_model` and of the
prologue of `Engine.train` that touch `.grad`, optimiser, scheduler or scaler = the table `C16E.history` interprets -/
theorem between_table_eq : Gen.C16.betweenTable = C16E.table := by decide

/-- … i.e. none, except the prologue's `optimizer.zero_grad()` — which must be there -/
theorem between_table_wf : C16E.wfBetween Gen.C16.betweenTable = true := by decide

/-- first-example logging and `start_with_validation` precede `_do_iteration`; checkpoint, log write and validation follow
`lr_scheduler.step()`; nothing in between.  `C16E.oneIter` has this order built in; it does not read `preOrder` / `postOrder`. -/
theorem loop_calls_eq :
    preCalls = C16E.preOrder ∧ midCalls = [] ∧ postCalls = C16E.postOrder := by decide

/-- `start_iter = checkpoint["iteration"] + 1` (and nothing else happens to `start_iter` before `training_loop`) -/
theorem resume_start_eq (label k : Int) : resume_start label k = C16E.resumeStart label k := by
  -- second branch: a regenerated `start_iter` expression equal to `label + 1` without being syntactically so
  first
    | rfl
    | (simp only [resume_start, C16E.resumeStart]; omega)

/-- `validate_model_at_interval`: which iterations are followed by a validation round -/
theorem val_guard_eq (it vs total : Nat) : val_guard (it : Int) (vs : Int) (total : Int) = C16E.valGuard it vs total := by
  simp only [val_guard, C16E.valGuard]
  rw [fmod_beq_zero, show ((it : Int) + 1 == (total : Int)) = (it + 1 == total) from natCast_beq (it + 1) total,
    show decide ((it : Int) ≥ 5) = decide (it ≥ 5) from decide_eq_decide.mpr (by omega)]

/-- `clip_grad_norm_` is called once, on the flat list of the parameters of `self.model` and of all `self.models` -/
theorem clip_form_eq : Gen.C16.clipForm = C16E.clipForm := by decide

/-- every `zero_grad` call of the loop body (OOM recovery, step branch) leaves `.grad = None` (`set_to_none` is not False) -/
theorem zero_forms_eq : Gen.C16.zeroGradForms = C16E.zeroGradForms := by decide

theorem zero_forms_wf : C16E.wfZero Gen.C16.zeroGradForms = true := by decide

/-- order and guards of `div_` / `unscale_` / `clip_grad_norm_` / `scaler.step` / `scaler.update` in the step branch -/
theorem amp_table_eq : Gen.C16.ampTable = C16E.ampTable := by decide

theorem amp_table_wf : C16E.wfAmp Gen.C16.ampTable = true := by decide +kernel

end DirectVerif.Bridge.C16
