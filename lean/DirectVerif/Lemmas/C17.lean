import DirectVerif.Model.Shapes
import DirectVerif.Lemmas.Basic
/-!
A small Hoare calculus for the shape programs of `Model/Shapes.lean`: `SRun` (runs, whatever the trace), `SFail` (raises),
`Keeps` (preserves every positive shape).  The networks of `Lemmas/C17Nets.lean` are composed block by block from these
triples; `Bridge/C17` uses `step_expand1` for the translator's fine-grained stack operations.
-/
set_option linter.unusedSimpArgs false
namespace DirectVerif.C17L
open DirectVerif.Shapes

theorem run_nil (st : State) : run [] st = .ok st := rfl

theorem run_append (p q : List Op) (st : State) :
    run (p ++ q) st = match run p st with | .ok s => run q s | .error e => .error e := by
  induction p generalizing st with
  | nil => simp [run]
  | cons op ops ih =>
    simp only [List.cons_append, run]
    cases step op st with
    | ok s => simp [ih]
    | error e => simp

theorem run_append_ok {p q : List Op} {st s1 : State} (h : run p st = .ok s1) :
    run (p ++ q) st = run q s1 := by
  rw [run_append, h]

theorem run_append_err {p q : List Op} {st : State} {e : Err} (h : run p st = .error e) :
    run (p ++ q) st = .error e := by
  rw [run_append, h]

theorem run_cons_ok {op : Op} {ops : List Op} {st s1 : State} (h : step op st = .ok s1) :
    run (op :: ops) st = run ops s1 := by
  simp [run, h]

theorem run_cons_err {op : Op} {ops : List Op} {st : State} {e : Err} (h : step op st = .error e) :
    run (op :: ops) st = .error e := by
  simp [run, h]

def Pos (s : Shape) : Prop := ∀ n ∈ s, 1 ≤ n

theorem Pos.map {g : Nat → Nat} {s : Shape} (hg : ∀ n, 1 ≤ n → 1 ≤ g n) (hs : Pos s) : Pos (s.map g) := by
  intro m hm
  obtain ⟨n, hn, rfl⟩ := List.mem_map.mp hm
  exact hg n (hs n hn)

theorem axes_ok {ok : Nat → Bool} {f : Nat → Nat} {s : Shape} (stk tr) (h : ∀ n ∈ s, ok n = true) :
    axes ok f ⟨s, stk, tr⟩ = .ok ⟨s.map f, stk, tr⟩ := by
  simp only [axes]
  rw [if_pos (List.all_eq_true.mpr h)]

theorem axes_same {ok : Nat → Bool} {f : Nat → Nat} {s : Shape} (stk tr) (h : ∀ n ∈ s, ok n = true)
    (hf : ∀ n ∈ s, f n = n) : axes ok f ⟨s, stk, tr⟩ = .ok ⟨s, stk, tr⟩ := by
  rw [axes_ok stk tr h]
  congr 2
  conv => rhs; rw [← List.map_id s]
  exact List.map_congr_left hf

theorem axes_err {ok : Nat → Bool} {f : Nat → Nat} {s : Shape} (stk tr) (h : ∃ n ∈ s, ok n = false) :
    axes ok f ⟨s, stk, tr⟩ = .error .runtime := by
  simp only [axes]
  rw [if_neg]
  intro hall
  obtain ⟨n, hn, hf⟩ := h
  have := List.all_eq_true.mp hall n hn
  simp [hf] at this

theorem convOut_same {k p d m : Nat} (hk : d * (k - 1) = 2 * p) (hm : 1 ≤ m) : convOut k 1 p d m = m := by
  simp only [convOut, Nat.div_one]; omega

theorem padEvenOk_iff (n : Nat) : padEvenOk n = true ↔ (n % 2 = 0 ∨ 2 ≤ n) := by
  simp only [padEvenOk, reflectOk, Bool.or_eq_true, Bool.and_eq_true, beq_iff_eq, decide_eq_true_eq]; omega

theorem dwtOk_of_even {n : Nat} (h : n % 2 = 0) : dwtOk n = true := by
  have : (n + 1) / 2 = n / 2 := by omega
  simp [dwtOk, this]
theorem dwtOut_of_even {n : Nat} (h : n % 2 = 0) : dwtOut n = n / 2 := by
  have : (n + 1) / 2 = n / 2 := by omega
  simp [dwtOut, this]

theorem cropTo_eq_min (t n : Nat) : cropTo t n = min n t := by
  unfold cropTo; split <;> omega

/-- the pad-by-one of the U-Net up path: the transposed convolution of the pooled length plus the conditional reflect pad -/
theorem upPad_half (n : Nat) : 2 * (n / 2) + upPad n (2 * (n / 2)) = n := by
  simp only [upPad]; split <;> simp_all <;> omega

theorem zipWith_self_map {α γ δ} (f : α → γ → δ) (h : α → γ) (s : List α) :
    List.zipWith f s (s.map h) = s.map (fun n => f n (h n)) := by
  rw [List.zipWith_map_right, List.zipWith_self]

theorem zipWith_map_eq_self {f : Nat → Nat → Nat} {g : Nat → Nat} {t : Shape} (h : ∀ n ∈ t, f n (g n) = n) :
    List.zipWith f t (t.map g) = t := by
  rw [zipWith_self_map]
  conv => rhs; rw [← List.map_id t]
  exact List.map_congr_left h

/-! ## a Hoare calculus for the shape programs

Shapes and remembered shapes evolve independently of the trace, so the networks are composed from triples that hide it. -/

/-- `p` takes the running shape `s` with remembered shapes `stk` to `s'` with `stk'`, whatever has been emitted before -/
def SRun (p : List Op) (s : Shape) (stk : List Shape) (s' : Shape) (stk' : List Shape) : Prop :=
  ∀ tr, ∃ tr', run p ⟨s, stk, tr⟩ = .ok ⟨s', stk', tr'⟩

/-- `p` raises on the running shape `s` with remembered shapes `stk` -/
def SFail (p : List Op) (s : Shape) (stk : List Shape) : Prop := ∀ tr, ∃ e, run p ⟨s, stk, tr⟩ = .error e

/-- `p` keeps every positive shape and the stack: stride-1 convolutions with compensating padding, hooks -/
def Keeps (p : List Op) : Prop := ∀ (s : Shape) (stk : List Shape), Pos s → SRun p s stk s stk

namespace SRun
variable {p q : List Op} {op : Op} {s s1 s2 t : Shape} {k k1 k2 : List Shape}

theorem nil : SRun [] s k s k := fun tr => ⟨tr, rfl⟩

theorem append (h1 : SRun p s k s1 k1) (h2 : SRun q s1 k1 s2 k2) : SRun (p ++ q) s k s2 k2 := by
  intro tr
  obtain ⟨t1, e1⟩ := h1 tr
  obtain ⟨t2, e2⟩ := h2 t1
  exact ⟨t2, by rw [run_append_ok e1, e2]⟩

theorem cons (h1 : SRun [op] s k s1 k1) (h2 : SRun q s1 k1 s2 k2) : SRun (op :: q) s k s2 k2 := append (p := [op]) h1 h2

theorem append_fail (h1 : SRun p s k s1 k1) (h2 : SFail q s1 k1) : SFail (p ++ q) s k := by
  intro tr
  obtain ⟨t1, e1⟩ := h1 tr
  obtain ⟨e, e2⟩ := h2 t1
  exact ⟨e, by rw [run_append_ok e1, e2]⟩

theorem cons_fail (h1 : SRun [op] s k s1 k1) (h2 : SFail q s1 k1) : SFail (op :: q) s k := append_fail (p := [op]) h1 h2

theorem of_step (h : ∀ tr, step op ⟨s, k, tr⟩ = .ok ⟨s1, k1, tr⟩) : SRun [op] s k s1 k1 :=
  fun tr => ⟨tr, by rw [run_cons_ok (h tr)]; rfl⟩

theorem emit : SRun [.emit] s k s k := fun tr => ⟨tr ++ [s], rfl⟩
theorem push : SRun [.push] s k s (s :: k) := of_step fun _ => rfl

theorem conv_same {c pd d : Nat} (hk : d * (c - 1) = 2 * pd) (hk1 : 1 ≤ c) (hs : Pos s) : SRun [.conv c 1 pd d] s k s k :=
  of_step fun tr => axes_same k tr (fun n hn => by have := hs n hn; simp [convOk]; omega) fun n hn => convOut_same hk (hs n hn)

theorem conv {c st pd d : Nat} (h : ∀ n ∈ s, convOk c st pd d n = true) :
    SRun [.conv c st pd d] s k (s.map (convOut c st pd d)) k := of_step fun tr => axes_ok k tr h

theorem instNorm (h : 1 < numel s) : SRun [.instNorm] s k s k := of_step fun tr => by simp [step, h]

theorem pool2 (h : ∀ n ∈ s, 2 ≤ n) : SRun [.avgPool 2 2] s k (s.map (· / 2)) k :=
  of_step fun tr => by
    rw [show step (.avgPool 2 2) ⟨s, k, tr⟩ = _ from axes_ok k tr fun n hn => by have := h n hn; simp [poolOk]; omega]
    congr 2; exact List.map_congr_left fun n hn => by have := h n hn; simp only [poolOut]; omega

theorem convT2 (h : Pos s) : SRun [.convT 2 2 0] s k (s.map (2 * ·)) k :=
  of_step fun tr => by
    rw [show step (.convT 2 2 0) ⟨s, k, tr⟩ = _ from axes_ok k tr fun n hn => by have := h n hn; simp [convTOk]; omega]
    congr 2; exact List.map_congr_left fun n hn => by have := h n hn; simp only [convTOut]; omega

theorem padEven (h : ∀ n ∈ s, n % 2 = 0 ∨ 2 ≤ n) : SRun [.padEven] s k (s.map padEvenOut) k :=
  of_step fun tr => axes_ok k tr fun n hn => (padEvenOk_iff n).mpr (h n hn)

theorem padEven_even (h : ∀ n ∈ s, n % 2 = 0) : SRun [.padEven] s k s k :=
  of_step fun tr => axes_same k tr (fun n hn => (padEvenOk_iff n).mpr (Or.inl (h n hn)))
    fun n hn => by rw [padEvenOut, h n hn]; rfl

theorem dwt (h : ∀ n ∈ s, n % 2 = 0) : SRun [.dwt] s k (s.map (· / 2)) k :=
  of_step fun tr => by
    rw [show step .dwt ⟨s, k, tr⟩ = _ from axes_ok k tr fun n hn => dwtOk_of_even (h n hn),
      List.map_congr_left fun n hn => dwtOut_of_even (h n hn)]

theorem scale {r : Nat} : SRun [.scale r] s k (s.map (r * ·)) k := of_step fun tr => axes_ok k tr (by simp)

/-- `crop_to_shape` back to the remembered shape `t`, which every axis of the running shape `t.map g` reaches -/
theorem popCropSame {g : Nat → Nat} (h : ∀ n ∈ t, cropTo n (g n) = n) : SRun [.popCropSame] (t.map g) (t :: k) t k :=
  of_step fun tr => by simp only [step]; rw [if_pos ⟨by simp, zipWith_map_eq_self h⟩]

theorem popCrop {g : Nat → Nat} (h : ∀ n ∈ t, cropTo n (g n) = n) : SRun [.popCrop] (t.map g) (t :: k) t k :=
  of_step fun tr => by simp only [step]; rw [if_pos (by simp), zipWith_map_eq_self h]

/-- the U-Net up path: reflect-pad by one where the running shape `t.map g` falls short of the skip connection `t`, then `cat` -/
theorem popPadCat (g : Nat → Nat) (h : ∀ n ∈ t, g n + upPad n (g n) = n ∧ upPad n (g n) < g n) :
    SRun [.popPadCat] (t.map g) (t :: k) t k := of_step fun tr => by
  simp only [step]
  rw [zipWith_self_map, zipWith_map_map, zipWith_map_map]
  have e : t.map (fun n => g n + upPad n (g n)) = t := by
    conv => rhs; rw [← List.map_id t]
    exact List.map_congr_left fun n hn => (h n hn).1
  have c : (List.map (fun n => reflectOk 0 (upPad n (g n)) (g n)) t).all id = true := by
    simp only [List.all_map, List.all_eq_true]
    intro n hn
    have := h n hn
    simp [reflectOk]; omega
  simp [e, c]

end SRun

namespace SFail
variable {p q : List Op} {op : Op} {s : Shape} {k : List Shape}

theorem append_right (h : SFail p s k) : SFail (p ++ q) s k := fun tr => let ⟨e, he⟩ := h tr; ⟨e, run_append_err he⟩

theorem of_step {e : Err} (h : ∀ tr, step op ⟨s, k, tr⟩ = .error e) : SFail (op :: q) s k := fun tr => ⟨e, run_cons_err (h tr)⟩

theorem instNorm (h : ¬ 1 < numel s) : SFail (.instNorm :: q) s k := of_step (e := .value) fun tr => by simp [step, h]

theorem pool2 (h : ∃ n ∈ s, n < 2) : SFail (.avgPool 2 2 :: q) s k :=
  of_step fun tr => axes_err k tr (by obtain ⟨n, hn, h2⟩ := h; exact ⟨n, hn, by simp [poolOk]; omega⟩)

theorem padEven (h : ∃ n ∈ s, n = 1) : SFail (.padEven :: q) s k :=
  of_step fun tr => axes_err k tr (by obtain ⟨n, hn, rfl⟩ := h; exact ⟨1, hn, by decide⟩)

end SFail

namespace Keeps

theorem nil : Keeps [] := fun _ _ _ => SRun.nil
theorem append {p q : List Op} (hp : Keeps p) (hq : Keeps q) : Keeps (p ++ q) := fun s k hs => (hp s k hs).append (hq s k hs)
theorem emit {p : List Op} (hp : Keeps p) : Keeps (.emit :: p) := fun s k hs => SRun.emit.cons (hp s k hs)
theorem conv {p : List Op} {c pd d : Nat} (hk : d * (c - 1) = 2 * pd) (hk1 : 1 ≤ c) (hp : Keeps p) : Keeps (.conv c 1 pd d :: p) :=
  fun s k hs => (SRun.conv_same hk hk1 hs).cons (hp s k hs)
theorem ite {c : Prop} [Decidable c] {p q : List Op} (hp : Keeps p) (hq : Keeps q) : Keeps (if c then p else q) := by
  split
  · exact hp
  · exact hq
theorem replicate {op : Op} (h : Keeps [op]) : ∀ m, Keeps (List.replicate m op)
  | 0 => nil
  | m + 1 => append (p := [op]) h (replicate h m)

end Keeps

/-! ## the U-Net level -/

/-- admissible sizes of an `L`-level U-Net: every axis can be halved `L` times and the bottleneck has more than one
element (instance normalisation). -/
def UAdm : Nat → Shape → Prop
  | 0, s => Pos s ∧ 1 < numel s
  | L + 1, s => (∀ n ∈ s, 2 ≤ n) ∧ UAdm L (s.map (· / 2))

theorem numel_map_le {s : Shape} {f g : Nat → Nat} (h : ∀ n ∈ s, f n ≤ g n) : numel (s.map f) ≤ numel (s.map g) := by
  induction s with
  | nil => simp [numel]
  | cons a s ih =>
    simp only [List.map_cons, numel]
    exact Nat.mul_le_mul (h a (by simp)) (ih fun n hn => h n (by simp [hn]))

theorem UAdm.prod {L : Nat} {s : Shape} (h : UAdm L s) : 1 < numel s := by
  induction L generalizing s with
  | zero => exact h.2
  | succ L ih =>
    have := numel_map_le (s := s) (f := (· / 2)) (g := id) fun n _ => Nat.div_le_self n 2
    rw [List.map_id] at this
    exact Nat.lt_of_lt_of_le (ih h.2) this

theorem UAdm.pos {L : Nat} {s : Shape} (h : UAdm L s) : Pos s := by
  cases L with
  | zero => exact h.1
  | succ L => intro n hn; have := h.1 n hn; omega

section
open SRun
variable {s : Shape} {k : List Shape}

theorem convBlock_ok (hs : Pos s) (hp : 1 < numel s) : SRun (convBlock UnetP.std) s k s k :=
  cons (conv_same (by decide) (by decide) hs) (cons (instNorm hp) (cons (conv_same (by decide) (by decide) hs) (instNorm hp)))

theorem convBlock_fail (hs : Pos s) (hp : ¬ 1 < numel s) : SFail (convBlock UnetP.std) s k :=
  cons_fail (conv_same (by decide) (by decide) hs) (.instNorm hp)

/-- one level of the U-Net around an inner program `inner` that keeps the pooled shape; `last` ends the last hooked block -/
theorem unetLevel_ok {inner last : List Op} (hlast : Keeps last) {L : Nat}
    (ih : ∀ {s : Shape} (k : List Shape), UAdm L s → SRun inner s k s k) (k : List Shape) (h : UAdm (L + 1) s) :
    SRun (convBlock UnetP.std ++ [.emit, .push, .avgPool UnetP.std.pk UnetP.std.ps] ++ inner ++
      [.convT UnetP.std.tk UnetP.std.ts 0, .instNorm, .emit, .popPadCat] ++ convBlock UnetP.std ++ last) s k s k := by
  have hpos := UAdm.pos h
  have hprod := UAdm.prod h
  have hprod2 : 1 < numel ((s.map (· / 2)).map (2 * ·)) := by
    refine Nat.lt_of_lt_of_le (UAdm.prod h.2) ?_
    rw [List.map_map]
    exact numel_map_le fun n _ => by simp only [Function.comp]; omega
  exact (convBlock_ok hpos hprod) |>.append (cons emit (cons push (pool2 h.1))) |>.append (ih _ h.2)
    |>.append (cons (convT2 (UAdm.pos h.2)) (cons (instNorm hprod2) (cons emit (by
      rw [List.map_map]
      exact popPadCat _ fun n hn => ⟨upPad_half n, by have := h.1 n hn; have := upPad_half n; simp only [Function.comp]; omega⟩))))
    |>.append (convBlock_ok hpos hprod) |>.append (hlast _ _ hpos)

/-- below the minimum a level fails: in its first block (single element), at the pooling (an axis of length 1) or further down -/
theorem unetLevel_fail {inner r1 r2 r3 : List Op} {L : Nat}
    (ih : ∀ {s : Shape} (k : List Shape), Pos s → ¬ UAdm L s → SFail inner s k) (k : List Shape) (hs : Pos s)
    (h : ¬ UAdm (L + 1) s) :
    SFail (convBlock UnetP.std ++ [.emit, .push, .avgPool UnetP.std.pk UnetP.std.ps] ++ inner ++ r1 ++ r2 ++ r3) s k := by
  refine SFail.append_right (SFail.append_right (SFail.append_right ?_))
  by_cases hp : 1 < numel s
  · by_cases h2 : ∀ n ∈ s, 2 ≤ n
    · have hpos2 : Pos (s.map (· / 2)) := fun m hm => by
        obtain ⟨n, hn, rfl⟩ := List.mem_map.mp hm
        have := h2 n hn; omega
      exact ((convBlock_ok hs hp).append (cons emit (cons push (pool2 h2)))).append_fail (ih _ hpos2 fun hA => h ⟨h2, hA⟩)
    · have : ∃ n ∈ s, n < 2 := by simpa using h2
      exact ((convBlock_ok hs hp).append_fail (cons_fail emit (cons_fail push (.pool2 this)))).append_right
  · exact (convBlock_fail hs hp).append_right.append_right

theorem unetLv_ok (L : Nat) : ∀ {s : Shape} (k : List Shape), UAdm L s → SRun (unetLv UnetP.std L) s k s k := by
  induction L with
  | zero => intro s k h; exact (convBlock_ok h.1 h.2).append emit
  | succ L ih => intro s k h; exact unetLevel_ok (.emit .nil) ih k h

theorem unetLv_fail (L : Nat) : ∀ {s : Shape} (k : List Shape), Pos s → ¬ UAdm L s → SFail (unetLv UnetP.std L) s k := by
  induction L with
  | zero => intro s k hs h; exact (convBlock_fail hs fun hp => h ⟨hs, hp⟩).append_right
  | succ L ih => intro s k hs h; exact unetLevel_fail ih k hs h

end

/-! ## the bit trick of `NormUnetModel2d.pad` -/

theorem lor15 (x : Nat) : x ||| 15 = 16 * (x / 16) + 15 := by
  have h1 : x = (x / 16) <<< 4 + x % 16 := by
    rw [Nat.shiftLeft_eq]; omega
  have h2 : (x / 16) <<< 4 + x % 16 = (x / 16) <<< 4 ||| x % 16 :=
    Nat.shiftLeft_add_eq_or_of_lt (by omega) _
  have h3 : (x / 16) <<< 4 + 15 = (x / 16) <<< 4 ||| 15 :=
    Nat.shiftLeft_add_eq_or_of_lt (by omega) _
  calc x ||| 15 = ((x / 16) <<< 4 ||| x % 16) ||| 15 := by rw [← h2, ← h1]
    _ = (x / 16) <<< 4 ||| (x % 16 ||| 15) := by rw [Nat.or_assoc]
    _ = (x / 16) <<< 4 ||| 15 := by rw [(by decide : ∀ y, y < 16 → y ||| 15 = 15) _ (Nat.mod_lt _ (by omega))]
    _ = (x / 16) <<< 4 + 15 := h3.symm
    _ = 16 * (x / 16) + 15 := by rw [Nat.shiftLeft_eq]; omega

theorem mult16_eq (n : Nat) : mult16 n = 16 * ((n + 15) / 16) := by
  unfold mult16
  split
  · subst_vars; rfl
  · rw [lor15]; omega


theorem le_mult16 (n : Nat) : n ≤ mult16 n := by rw [mult16_eq]; omega

theorem getD_of_lt (l : List Nat) (i : Nat) (h : i < l.length) : l.getD i 0 = l[i] := by
  simp [List.getD, h]

theorem mapM_zip_fst {f : Nat × Nat → Option Nat} : ∀ (a b : List Nat), a.length = b.length →
    (∀ p ∈ a.zip b, f p = some p.1) → (a.zip b).mapM f = some a
  | [], [], _, _ => rfl
  | x :: a, y :: b, hl, h => by
    have ih := mapM_zip_fst a b (by simpa using hl) (fun p hp => h p (List.mem_cons_of_mem _ hp))
    simp only [List.zip_cons_cons, List.mapM_cons, h (x, y) List.mem_cons_self, ih]; rfl
  | [], _ :: _, hl, _ => by simp at hl
  | _ :: _, [], hl, _ => by simp at hl

/-- broadcasting `b` against a shape `a` that is at least as long returns `a` when every axis of `b` (right aligned, missing
leading axes count as 1) is 1 or equals `a`'s -/
theorem broadcast_eq_left {a b : Shape} (hl : b.length ≤ a.length)
    (h : ∀ p ∈ a.zip (List.replicate (a.length - b.length) 1 ++ b), p.2 = p.1 ∨ p.2 = 1) : broadcast a b = some a := by
  unfold broadcast
  simp only [Nat.max_eq_left hl, Nat.sub_self, List.replicate_zero, List.nil_append]
  refine mapM_zip_fst _ _ (by simp; omega) ?_
  rintro ⟨x, y⟩ hp
  rcases h _ hp with e | e <;> simp only at e <;> subst e
  · simp
  · by_cases hx : x = 1 <;> simp [hx]

/-! ## composite stack operations = their fine-grained expansion -/

theorem step_expand1 (op : Op) (st : State) : run (expand1 op) st = step op st := by
  obtain ⟨cur, stack, trace⟩ := st
  have base : ∀ o : Op, run [o] ⟨cur, stack, trace⟩ = step o ⟨cur, stack, trace⟩ := by
    intro o; simp only [run]; cases step o ⟨cur, stack, trace⟩ <;> rfl
  cases op
  case popPadCat =>
    cases stack with
    | nil => rfl
    | cons t rest =>
      simp only [expand1, run, step]
      by_cases h : t.length = cur.length ∧
          (List.zipWith (fun p n => reflectOk 0 p n) (List.zipWith upPad t cur) cur).all id = true
      · by_cases h2 : List.zipWith (fun x1 x2 => x1 + x2) cur (List.zipWith upPad t cur) = t
        · simp only [if_pos h, if_pos h2, step]
        · simp only [if_pos h, if_neg h2, step]
      · simp only [if_neg h]
  case popCropSame =>
    cases stack with
    | nil => rfl
    | cons t rest =>
      simp only [expand1, run, step]
      by_cases h : t.length = cur.length
      · by_cases h2 : List.zipWith cropTo t cur = t
        · simp only [if_pos h, if_pos h2, if_pos (And.intro h h2), step, h2, if_true, and_true]
        · simp only [if_pos h, if_neg h2, if_neg (fun c : _ ∧ _ => h2 c.2), step]
      · simp only [if_neg h, if_neg (fun c : _ ∧ _ => h c.1)]
  case popCrop =>
    cases stack with
    | nil => rfl
    | cons t rest =>
      simp only [expand1, run, step]
      by_cases h : t.length = cur.length
      · simp only [if_pos h, step]
      · simp only [if_neg h]
  all_goals exact base _

end DirectVerif.C17L
