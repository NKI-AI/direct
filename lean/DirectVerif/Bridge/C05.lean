import DirectVerif.Gen.C05
import DirectVerif.Props.C05
import DirectVerif.Lemmas.C05Driver
/-!
# Bridge C05 — the RNG-access table generated from /repo's current source is admissible

Every lemma is an evaluation of generated data.  A draw moved outside `with temp_seed(self.rng, seed)` or switched to
`np.random.*` / `random.*` / `torch.rand*`, a kernel seeded from something else, a `temp_seed` that does not restore in
`finally`, a `return_acs` return hoisted above the `choose_acceleration` draw, or a `.pyx` kernel that calls `rand()`
before `srand(seed)` flips one of them.  The last theorems instantiate `Props/C05.lean` with that table.
-/
namespace DirectVerif.Bridge.C05
open DirectVerif DirectVerif.Rng DirectVerif.Gen.C05

def table : Table := Table.ofCodes sites

theorem table_ok : tableOk table = true := by decide

/-- all 14 generators: one `with temp_seed(self.rng, seed)` over its own `seed`, site indices in range,
`choose_acceleration` drawn before `if return_acs: return` -/
theorem gens_ok : gensOk sites.length gens = true := by decide +kernel

/-- every Cython kernel call is inside the scope and seeded by an in-scope draw from `self.rng` … -/
theorem kernel_calls_ok : kernelCalls.all kernelCallOk = true := by decide

/-- … which reaches the kernel unchanged (no `or`, condition, arithmetic or rebinding, also through helpers such as
`poisson(…, seed)`) -/
theorem kernel_seed_passed_unchanged : kernelSeedsUnchanged kernelSeedPaths = true := by decide

/-- every `.pyx` kernel does `srand(seed)` once, before any `rand()` -/
theorem pyx_kernels_ok : (pyxKernels.all (·.2) && !pyxKernels.isEmpty) = true := by decide

/-- `srand(seed)` on the unmodified int parameter, at the top level of the body, no second seeding, and the kernel does
draw: the premise of `kernelProg_libcOk` -/
theorem pyx_table_ok : pyxTableOk pyxEvents = true := by decide +kernel

theorem code_kernel_libcOk {Req Val Out : Type} (k : String × List String) (hk : k ∈ pyxEvents) (b : Bool) (v : Val) (r : Req)
    (c : Val → Prog Req Val Out) (hc : ∀ x, LibcOk true (c x)) :
    LibcOk b (kernelProg (pyxSrandFirst k.2) v r c) :=
  C05.kernelProg_libcOk k.2 (srandFirst_of_pyxTableOk pyx_table_ok hk) b v r c hc

/-- closed world: no call reachable from a `mask_func` escaped the walk -/
theorem reach_closed : reachClosed unresolved = true := by decide

/-- consumers outside `subsample.py` (`CreateSamplingMask`, `EstimateBodyCoilImage`, `apply_mask`) hand over the
file-name tuple or their own `seed` parameter -/
theorem consumers_ok : consumersOk consumers = true := by decide

/-- `temp_seed` is `get_state; seed(seed); try: yield; finally: set_state(state)` — what `tempSeed` mirrors -/
theorem temp_seed_shape_eq : Gen.C05.tempSeedShape = Rng.tempSeedShape := rfl

/-- `CreateSamplingMask` derives the seed from the file name only and passes `shape`/`seed` unchanged to the mask and the
ACS call; `integerize_seed` returns int seeds unchanged -/
theorem plumbing_ok : plumbingOk plumbing = true := by decide

/-- nothing is remembered between calls (instance, class, module, closure, mutable default, memoising decorator), so a
call's body as a function of (arguments, drawn values) is faithful -/
theorem no_instance_state_written : selfWritesOk selfWrites = true := by decide

/-- the universal theorems, for the code as it is -/
theorem code_seeded_call_history_independent {σ Seed Req Val Out : Type} (O : Ops σ Seed Req Val)
    (prog : Prog Req Val Out) (hp : SitesIn table.length prog) (hl : LibcOk false prog)
    (s : Seed) (i i' : Nat) (st st' : State σ Val) :
    (call table O prog (some s) i st).1 = (call table O prog (some s) i' st').1 :=
  C05.seeded_call_history_independent table table_ok O prog hp hl s i i' st st'

theorem code_call_restores {σ Seed Req Val Out : Type} (O : Ops σ Seed Req Val)
    (prog : Prog Req Val Out) (hp : SitesIn table.length prog) (seed : Option Seed) (i : Nat) (st : State σ Val) :
    (call table O prog seed i st).2.priv = st.priv ∧ (call table O prog seed i st).2.np = st.np ∧
    (call table O prog seed i st).2.torch = st.torch ∧ (call table O prog seed i st).2.py = st.py :=
  C05.seeded_call_restores table table_ok O prog hp seed i st

theorem code_history_independent {σ Seed Req Val Out G A : Type} (O : Ops σ Seed Req Val)
    (body : G → A → Prog Req Val Out) (hb : ∀ g a, SitesIn table.length (body g a)) (hl : ∀ g a, LibcOk false (body g a))
    (h : List (Op Seed Req G A)) (g : G) (a : A) (s : Seed) (i i' : Nat) (st st' : State σ Val) :
    observe table O body st (h ++ [.call g a i (some s)]) = observe table O body st' [.call g a i' (some s)] :=
  C05.history_independent table table_ok O body hb hl h g a s i i' st st'

theorem code_history_globals {σ Seed Req Val Out G A : Type} (O : Ops σ Seed Req Val)
    (body : G → A → Prog Req Val Out) (hb : ∀ g a, SitesIn table.length (body g a))
    (h : List (Op Seed Req G A)) (st : State σ Val) :
    C05.globals (run table O body st h).1 = C05.globals (run table O body st (h.filter fun op => !C05.isCall op)).1 :=
  C05.history_globals_eq_noncall table table_ok O body hb h st st rfl

def pyxFlags : List Bool := pyxEvents.map fun k => pyxSrandFirst k.2

/-- **end to end for the code as it is**: generated site table and `.pyx` events, every recorded call body with indices
in range (what the correspondence feeds the driver) — no hypothesis left to discharge by hand -/
theorem code_driver_call_history_independent (g : List Int × List Int)
    (hg : C05Driver.evsOk table.length pyxFlags.length g.2 = true) (s : Int) (i i' : Nat)
    (st st' : State Driver.C05.Sym Driver.C05.Sym) :
    (call table Driver.C05.symOps (Driver.C05.bodyOf pyxFlags g ()) (some s) i st).1 =
    (call table Driver.C05.symOps (Driver.C05.bodyOf pyxFlags g ()) (some s) i' st').1 :=
  have hf : pyxFlags.all id = true := by
    rw [pyxFlags, List.all_map, List.all_eq_true]
    exact fun k hk => srandFirst_of_pyxTableOk pyx_table_ok hk
  C05Driver.driver_call_history_independent table table_ok pyxFlags hf g hg s i i' st st'

end DirectVerif.Bridge.C05
