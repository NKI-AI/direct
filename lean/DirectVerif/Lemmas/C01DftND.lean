import DirectVerif.Lemmas.C01Dft
import DirectVerif.Lemmas.C01Linear
import DirectVerif.Lemmas.TensorLiftC01
/-!
# C01 — the concrete n-D transform: per-axis `ZMod` DFT lifted through `Tensor.alongAxis`

`Fft.tensorBackend dftF dims` is the backend the driver runs with the 1-D transform instantiated by `C01Dft.torchFft`.
The 1-D DFT is a matrix–vector product on every fibre (`torchFft_isLinear`), so its liftings along different axes commute
(`alongAxis_comm_linear`), which discharges `TensorLift.TransformLaws`: the inverse law and Parseval hold on tensors with
no hypothesis left.

**The single remaining assumption about the code's external transform** (not a hypothesis of any statement here; it ties
`torch.fft.fftn/ifftn(x, dim=dims, norm=…)` to `dftF`): *`fftn` over `dims` is the composition of the 1-D DFTs along the
axes of `dims`* (scale `1/√n_d` resp. `1`, `1/n_d` per axis).  The oracle of `harness/props/c01.py` checks this numerically.
-/
namespace DirectVerif.C01DftND
open DirectVerif DirectVerif.Tensor DirectVerif.TensorLift DirectVerif.Shift DirectVerif.Fft DirectVerif.C01Dft ZMod
open scoped ZMod BigOperators ComplexConjugate

noncomputable def dftF : Bool → Norm → Nat → List ℂ → List ℂ := fun inv nm _ => torchFft inv nm

/-- `A k j = scale · e^{∓2πi jk/n}` -/
noncomputable def dftMat (inverse : Bool) (nm : Norm) : (n : Nat) → Nat → Nat → ℂ
  | 0 => fun _ _ => 0
  | m + 1 => fun k j => scale inverse nm (m + 1) *
      (stdAddChar (N := m + 1) (if inverse then (j : ZMod (m + 1)) * (k : ZMod (m + 1))
        else -((j : ZMod (m + 1)) * (k : ZMod (m + 1)))) : ℂ)

theorem getD_default_eq_zero (xs : List ℂ) (k : Nat) : xs.getD k default = xs.getD k 0 := rfl

theorem sum_zmod_eq_range {m : ℕ} (g : ZMod (m + 1) → ℂ) :
    ∑ j : ZMod (m + 1), g j = ∑ j ∈ Finset.range (m + 1), g (j : ZMod (m + 1)) := by
  rw [Finset.sum_range]
  refine Finset.sum_congr rfl fun i _ => ?_
  exact congrArg g (ZMod.natCast_zmod_val (n := m + 1) (show ZMod (m + 1) from i)).symm

theorem isLinear_of_toFn (f : List ℂ → List ℂ) (hlen : ∀ xs, (f xs).length = xs.length) (A : Nat → Nat → Nat → ℂ)
    (h : ∀ m xs, xs.length = m + 1 → ∀ k : ZMod (m + 1),
      toFn (f xs) k = ∑ j : ZMod (m + 1), A (m + 1) k.val j.val * toFn xs j) (n : Nat) :
    IsLinear f n n (A n) := by
  refine ⟨fun xs hxs => by rw [hlen, hxs], fun xs hxs k hk => ?_⟩
  cases n with
  | zero => omega
  | succ m =>
    have hkv : ((k : ZMod (m + 1))).val = k := ZMod.val_natCast_of_lt hk
    have h1 : (f xs).getD k default = toFn (n := m + 1) (f xs) (k : ZMod (m + 1)) := by
      simp only [toFn, hkv]; rfl
    rw [h1, h m xs hxs, sum_zmod_eq_range, hkv]
    refine Finset.sum_congr rfl fun j hj => ?_
    rw [toFn, ZMod.val_natCast_of_lt (Finset.mem_range.mp hj)]; rfl

theorem torchFft_isLinear (inverse : Bool) (nm : Norm) (n : Nat) :
    IsLinear (torchFft inverse nm) n n (dftMat inverse nm n) := by
  refine isLinear_of_toFn _ (torchFft_length inverse nm) (dftMat inverse nm) (fun m xs hxs k => ?_) n
  rw [toFn_torchFft inverse nm xs hxs, torchFftFn, kernelSum, Finset.mul_sum]
  refine Finset.sum_congr rfl fun j _ => ?_
  simp only [dftMat, ZMod.natCast_zmod_val]
  rw [mul_assoc]

theorem lenU_torchFft (inverse : Bool) (nm : Norm) (n : Nat) : LenUniform (torchFft inverse nm) n n :=
  fun xs hxs => by rw [torchFft_length, hxs]

theorem dftF_laws (s : List Nat) (dims : List Nat) (hr : ∀ d ∈ dims, d < s.length) : TransformLaws s dims dftF where
  len := fun inv nm _ _ => lenU_torchFft inv nm _
  inv_fwd := fun nm d _ xs _ => torchFft_inv_fwd nm xs
  fwd_inv := fun nm d _ xs _ => torchFft_fwd_inv nm xs
  comm := fun nm inv inv' d hd d' hd' hne t ht =>
    (alongAxis_comm_linear t d d' (torchFft inv nm) (torchFft inv' nm) _ _ _ _ hne
      (by rw [ht.2]; exact hr d hd) (by rw [ht.2]; exact hr d' hd')
      (torchFft_isLinear inv nm _) (torchFft_isLinear inv' nm _)).symm

/-- **C01, n-D, concrete DFT, no hypotheses**: `ifft2 ∘ fft2 = id = fft2 ∘ ifft2` on every well-formed complex tensor, for
every duplicate-free in-range axis tuple and all 8 flag combinations, for the backend the driver runs. -/
theorem ifft2_fft2_id_tensor_dft (t : Tensor ℂ) (dims : List Nat) (hnd : dims.Nodup)
    (hwf : t.data.length = prod t.shape) (hr : ∀ d ∈ dims, d < t.shape.length) (cfg : Cfg) :
    ifft2 (tensorBackend dftF dims) cfg (fft2 (tensorBackend dftF dims) cfg t) = t ∧
    fft2 (tensorBackend dftF dims) cfg (ifft2 (tensorBackend dftF dims) cfg t) = t :=
  ifft2_fft2_id_tensor t dims hnd hwf hr dftF (dftF_laws t.shape dims hr) cfg

noncomputable def tensorEnergy (t : Tensor ℂ) : ℂ := C01.energy (fun z => conj z * z) t.data

theorem tensorEnergy_applyAxes (s : List Nat) (op : Nat → List ℂ → List ℂ) (dims : List Nat)
    (hr : ∀ d ∈ dims, d < s.length) (hlen : ∀ d ∈ dims, LenUniform (op d) (s.getD d 1) (s.getD d 1))
    (hE : ∀ d ∈ dims, ∀ xs : List ℂ, C01.energy (fun z => conj z * z) (op d xs) = C01.energy (fun z => conj z * z) xs)
    (t : Tensor ℂ) (ht : WF s t) :
    tensorEnergy (applyAxes (fun d t => t.alongAxis d (op d)) dims t) = tensorEnergy t := by
  induction dims generalizing t with
  | nil => rfl
  | cons d ds ih =>
    have hd := List.mem_cons_self (a := d) (l := ds)
    have hdr := hr d hd
    rw [C01.applyAxes_cons,
      ih (fun d' h => hr d' (List.mem_cons_of_mem _ h)) (fun d' h => hlen d' (List.mem_cons_of_mem _ h))
        (fun d' h => hE d' (List.mem_cons_of_mem _ h)) _ (ht.alongAxis d hdr _ (hlen d hd))]
    exact alongAxis_sum_eq (fun z => conj z * z) t d (op d) _ ht.1 (by rw [ht.2]; exact hdr)
      (by rw [ht.2]; exact hlen d hd) (fun xs _ => hE d hd xs)

/-- **C01, n-D energy, concrete DFT, no hypotheses**: the normalised `fft2` / `ifft2` preserve `Σ |x|²` over the tensor -/
theorem fft2_energy_tensor_dft (t : Tensor ℂ) (dims : List Nat)
    (hwf : t.data.length = prod t.shape) (hr : ∀ d ∈ dims, d < t.shape.length)
    (cfg : Cfg) (hn : cfg.normalized = true) :
    tensorEnergy (fft2 (tensorBackend dftF dims) cfg t) = tensorEnergy t ∧
    tensorEnergy (ifft2 (tensorBackend dftF dims) cfg t) = tensorEnergy t := by
  have hlenF : ∀ inv nm, ∀ d ∈ dims, LenUniform (dftF inv nm d) (t.shape.getD d 1) (t.shape.getD d 1) :=
    fun inv nm _ _ => lenU_torchFft inv nm _
  refine C01.fft2_energy_on (WF t.shape) (tensorBackend dftF dims) tensorEnergy (fun _ hx => hx.ifftshift dims hr)
    (fun _ hx => hx.fftshift dims hr) (fun inv nm _ hx => WF.applyAxes (dftF inv nm) dims hr (hlenF inv nm) hx)
    (fun _ h => h) ?_ ?_ ?_ (fun _ _ => rfl) (fun _ _ => rfl) cfg hn t ⟨hwf, rfl⟩
  · intro x hx
    show tensorEnergy (Shift.ifftshift x dims) = _
    rw [ifftshift_eq_applyAxes t.shape dims hr x hx]
    exact tensorEnergy_applyAxes t.shape (fun _ => Shift.ifftshift1) dims hr (fun d _ => lenUniform_ifftshift1 _)
      (fun d _ xs => C01.energy_rollOne _ _ xs) x hx
  · intro x hx
    show tensorEnergy (Shift.fftshift x dims) = _
    rw [fftshift_eq_applyAxes t.shape dims hr x hx]
    exact tensorEnergy_applyAxes t.shape (fun _ => Shift.fftshift1) dims hr (fun d _ => lenUniform_fftshift1 _)
      (fun d _ xs => C01.energy_rollOne _ _ xs) x hx
  · intro inv x hx
    exact tensorEnergy_applyAxes t.shape (dftF inv .ortho) dims hr (hlenF inv .ortho)
      (fun d _ xs => energy_torchFft_ortho inv xs) x hx

/-- `fftshift ∘ fft(norm) ∘ ifftshift` on one axis -/
noncomputable def cfft1 (inverse : Bool) (nm : Norm) (xs : List ℂ) : List ℂ :=
  fftshift1 (torchFft inverse nm (ifftshift1 xs))

/-- `A k j = scale · e^{∓2πi (j - c)(k - c)/n}`, `c = n / 2` -/
noncomputable def cdftMat (inverse : Bool) (nm : Norm) : (n : Nat) → Nat → Nat → ℂ
  | 0 => fun _ _ => 0
  | m + 1 => fun k j => scale inverse nm (m + 1) *
      (stdAddChar (N := m + 1)
        (if inverse then ((j : ZMod (m + 1)) - (((m + 1) / 2 : ℕ) : ZMod (m + 1))) * ((k : ZMod (m + 1)) - (((m + 1) / 2 : ℕ) : ZMod (m + 1)))
          else -(((j : ZMod (m + 1)) - (((m + 1) / 2 : ℕ) : ZMod (m + 1))) * ((k : ZMod (m + 1)) - (((m + 1) / 2 : ℕ) : ZMod (m + 1))))) : ℂ)

theorem cfft1_length (inverse : Bool) (nm : Norm) (xs : List ℂ) : (cfft1 inverse nm xs).length = xs.length := by
  unfold cfft1; rw [C01.fftshift1_length, torchFft_length, C01.ifftshift1_length]

theorem cfft1_isLinear (inverse : Bool) (nm : Norm) (n : Nat) : IsLinear (cfft1 inverse nm) n n (cdftMat inverse nm n) := by
  refine isLinear_of_toFn _ (cfft1_length inverse nm) (cdftMat inverse nm) (fun m xs hxs k => ?_) n
  rw [cfft1, centered_eq_shifted_dft inverse nm xs hxs, Finset.mul_sum]
  refine Finset.sum_congr rfl fun j _ => ?_
  simp only [cdftMat, ZMod.natCast_zmod_val]
  rw [mul_assoc]

/-- a shift along one axis commutes with anything along another, so the three sweeps `fftshift_dims ∘ (per-axis DFT) ∘
ifftshift_dims` fuse into one sweep of the centred 1-D DFT -/
theorem centred_axes (t : Tensor ℂ) (dims : List Nat) (hnd : dims.Nodup) (hwf : t.data.length = prod t.shape)
    (hr : ∀ d ∈ dims, d < t.shape.length) (inverse : Bool) (nm : Norm) :
    Shift.fftshift (applyAxes (fun d u => u.alongAxis d (dftF inverse nm d)) dims (Shift.ifftshift t dims)) dims =
      applyAxes (fun d u => u.alongAxis d (cfft1 inverse nm)) dims t := by
  have ht : WF t.shape t := ⟨hwf, rfl⟩
  have lI : ∀ d ∈ dims, LenUniform (ifftshift1 (α := ℂ)) (t.shape.getD d 1) (t.shape.getD d 1) := fun d _ => lenUniform_ifftshift1 _
  have lS : ∀ d ∈ dims, LenUniform (fftshift1 (α := ℂ)) (t.shape.getD d 1) (t.shape.getD d 1) := fun d _ => lenUniform_fftshift1 _
  have lF : ∀ d ∈ dims, LenUniform (torchFft inverse nm) (t.shape.getD d 1) (t.shape.getD d 1) := fun d _ => lenU_torchFft inverse nm _
  have lFI : ∀ d ∈ dims, LenUniform (torchFft inverse nm ∘ ifftshift1) (t.shape.getD d 1) (t.shape.getD d 1) :=
    fun d _ xs hxs => by rw [Function.comp, torchFft_length, C01.ifftshift1_length, hxs]
  have h1 : WF t.shape (applyAxes (fun d u => u.alongAxis d ifftshift1) dims t) :=
    WF.applyAxes (fun _ => ifftshift1) dims hr lI ht
  have h2 : WF t.shape (applyAxes (fun d u => u.alongAxis d (torchFft inverse nm)) dims
      (applyAxes (fun d u => u.alongAxis d ifftshift1) dims t)) := WF.applyAxes (fun _ => torchFft inverse nm) dims hr lF h1
  rw [ifftshift_eq_applyAxes t.shape dims hr t ht]
  show Shift.fftshift (applyAxes (fun d u => u.alongAxis d (torchFft inverse nm)) dims _) dims = _
  rw [fftshift_eq_applyAxes t.shape dims hr _ h2,
    applyAxes_fuse t.shape dims hnd hr (fun _ => ifftshift1) (fun _ => torchFft inverse nm) lI lF
      (fun d hd d' hd' hne x hx => shift_comm_nd ifftshiftAmount _ (fun _ => rfl) x d' d (torchFft inverse nm) _ hne.symm
        (by rw [hx.2]; exact hr d' hd') (by rw [hx.2]; exact hr d hd) (by rw [hx.2]; exact lF d hd)) t ht,
    applyAxes_fuse t.shape dims hnd hr (fun _ => torchFft inverse nm ∘ ifftshift1) (fun _ => fftshift1) lFI lS
      (fun d hd d' hd' hne x hx => (shift_comm_nd fftshiftAmount _ (fun _ => rfl) x d d' (torchFft inverse nm ∘ ifftshift1) _ hne
        (by rw [hx.2]; exact hr d hd) (by rw [hx.2]; exact hr d' hd') (by rw [hx.2]; exact lFI d' hd')).symm) t ht]
  rfl

/-- two axes `a < b` in the flat 5-index form `(α, k, μ, l, c)`, `A = Π shape[:a]`, `M = Π shape[a+1:b]`,
`C = Π shape[b+1:]`; the multi-index form for any axis order is `C01Sum.fft2_two_axes_closed` -/
theorem fft2_two_axes_sum (t : Tensor ℂ) (a b : Nat) (hab : a < b) (hb : b < t.shape.length)
    (hwf : t.data.length = prod t.shape) (normalized ci : Bool) (inverse : Bool) :
    ∃ M, prod (t.shape.take b) = prod (t.shape.take a) * t.shape.getD a 1 * M ∧
      ∀ α k μ l c, α < prod (t.shape.take a) → k < t.shape.getD a 1 → μ < M → l < t.shape.getD b 1 →
        c < prod (t.shape.drop (b + 1)) →
        ((if inverse then ifft2 else fft2) (tensorBackend dftF [a, b]) ⟨true, normalized, ci⟩ t).data.getD
            (((α * t.shape.getD a 1 + k) * M + μ) * t.shape.getD b 1 * prod (t.shape.drop (b + 1))
              + l * prod (t.shape.drop (b + 1)) + c) default =
          ∑ y ∈ Finset.range (t.shape.getD b 1), ∑ x ∈ Finset.range (t.shape.getD a 1),
            cdftMat inverse (normOf ⟨true, normalized, ci⟩) (t.shape.getD b 1) l y *
              (cdftMat inverse (normOf ⟨true, normalized, ci⟩) (t.shape.getD a 1) k x *
                t.data.getD (((α * t.shape.getD a 1 + x) * M + μ) * t.shape.getD b 1 * prod (t.shape.drop (b + 1))
                  + y * prod (t.shape.drop (b + 1)) + c) default) := by
  have hr : ∀ d ∈ [a, b], d < t.shape.length := by
    intro d hd; simp only [List.mem_cons, List.not_mem_nil, or_false] at hd; rcases hd with rfl | rfl <;> omega
  have key : (if inverse then ifft2 else fft2) (tensorBackend dftF [a, b]) ⟨true, normalized, ci⟩ t =
      (t.alongAxis a (cfft1 inverse (normOf ⟨true, normalized, ci⟩))).alongAxis b (cfft1 inverse (normOf ⟨true, normalized, ci⟩)) := by
    have e : (if inverse then ifft2 else fft2) (tensorBackend dftF [a, b]) ⟨true, normalized, ci⟩ t =
        runData (tensorBackend dftF [a, b]) ⟨true, normalized, ci⟩ (stdPlan inverse .ortho .backward) t := by
      cases inverse <;> rfl
    rw [e, C01.runData_stdPlan_noViews _ rfl rfl, if_pos rfl]
    exact centred_axes t [a, b] (by simp; omega) hwf hr inverse _
  rw [key]
  exact alongAxis2_linear_getD t a b _ _ _ _ _ _ hab hb (cfft1_isLinear _ _ _) (cfft1_isLinear _ _ _)

end DirectVerif.C01DftND
