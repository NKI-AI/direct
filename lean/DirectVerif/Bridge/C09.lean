import DirectVerif.Gen.C09
/-!
# Bridge C09 — what the translator read in `/repo` is what the model says

`Gen/C09.lean` is regenerated from the source; each lemma compares one of its definitions or tables with the constant
or acceptance predicate that `Model/Sens.lean` assumes, and fails when the source changes there.  The `rfl` lemmas
without a docstring: both norms of the data pipeline (`root_sum_of_squares(acs_image, dim=coil_dim)`,
`sensitivity_map_norm`) and the engine's are the square root of the sum of squares over the complex axis (-1) then
the coil axis (1), both re-inserted; the order is `safe_divide → norm → safe_divide` in the pipeline and
`refine → norm → safe_divide` in the engine, refinement only for more than one coil; UNIT puts `1` in component `0`.
-/
namespace DirectVerif.Bridge.C09
open DirectVerif DirectVerif.Sens DirectVerif.Gen.C09

theorem safe_divide_eq {α : Type} [Zero α] [DecidableEq α] (num : Num α) (a b : α) :
    safe_divide num a b = safeDivide num a b := by
  simp only [safe_divide, safeDivide]

theorem estimate_rss_plan_eq : estimate_rss_plan = normPlan := rfl
theorem estimate_norm_plan_eq : estimate_norm_plan = normPlan := rfl
theorem engine_norm_plan_eq : engine_norm_plan = normPlan := rfl
theorem estimate_order_eq : estimate_order = estimateOrder := rfl
theorem engine_order_eq : engine_order = engineOrder := rfl
theorem engine_multicoil_eq : engine_multicoil_gt = 1 := rfl
theorem unit_fill_eq : (unit_fill_index, unit_fill_value) = (0, 1) := rfl

/-- every sensitivity-map site under `direct/nn` either calls `compute_sensitivity_map` or normalises the map
itself inside a function the oracle observes on the real module … -/
theorem sens_sites_accounted : sens_sites.all sensSiteAccounted = true := by decide +kernel

/-- … with an accepted norm plan (axes re-inserted in either order), so `Props/C09.divisorShape_of_wf` applies -/
theorem own_norm_plans_wf : own_norm_plans.all (fun p => planWf p.2) = true := by decide +kernel

theorem plans_wf : planWf estimate_rss_plan && planWf estimate_norm_plan && planWf engine_norm_plan = true := by
  decide

/-- `Normalize` never rescales the sensitivity map -/
theorem normalize_keys_ok : normalize_keys.all (fun k => normalizeKeysAllowed.contains k) = true := by
  decide +kernel


/-- the Gaussian window is `exp(-((linspace(-1, 1, W) / sigma)^2))` along the width axis (dim -2), switched off for
`None` / `0`, multiplied onto the masked k-space -/
theorem window_eq : window_linspace = windowLinspace ∧ window_on_for = windowOnFor ∧
    acs_mask_primitives = acsMaskPrimitives ∧ window_axis = -2 := ⟨rfl, rfl, rfl, rfl⟩

/-- the ACS masking is `torch.where(mask == 0, 0, kspace)` (`Sens.maskPixels`), not a product -/
theorem acs_mask_where_eq : acs_mask_where = applyMaskWhere := rfl

/-- `forward` has exactly the three branches of `Sens.forwardMap`, all ending in the one guarded division that is
written to the sample; the ESPIRiT branch raises above batched rank 5 (3-D data) -/
theorem forward_branches_eq : forward_branches = forwardBranches ∧ forward_output_writes = forwardOutputWrites ∧
    espirit_rank_limit = espiritRankLimit := ⟨rfl, rfl, rfl⟩

/-- in the functions that decide the property: no instance / module state written, no in-place operation on an
input, no early return -/
theorem sens_effects_ok : sens_effects.all effectAllowed = true := by decide +kernel

/-- every constructor site forwards every sensitivity-map option of the builders to the right keyword, and
`build_mri_transforms` hands the options through unchanged -/
theorem option_forwarding_ok : ctor_sites.all forwardingOk = true ∧
    passthroughRequired.all (fun r => builder_passthrough.contains r) = true := by decide +kernel

/-- enum-valued options (`type_of_map`, `kspace_key`) are only compared with `==` / `!=`, so every accepted form
(member, string in any case) selects the same branch and `Sens.forwardMap`'s single `ty` describes the behaviour -/
theorem enum_compares_ok : enum_compares.all enumCompareOk = true := by decide +kernel

/-- no engine overrides `compute_sensitivity_map` -/
theorem compute_sensitivity_map_single_def : compute_sensitivity_map_defs = computeDefs := rfl

/-- the nested branches of `compute_sensitivity_map` that pick `sensitivity_model` / `sensitivity_model_3d` (or run
into a `KeyError`) -/
theorem engine_model_choice_eq (mc h2 h3 : Bool) (nd : Int) :
    engine_model_choice mc h2 h3 nd = modelChoice mc h2 h3 nd := by
  -- all sixteen cases: the translated tree may nest or flatten the tests differently from the model's (`if / elif / else`
  -- against nested `if`s, a test asked twice), and every such spelling has to go through
  by_cases h : nd = 2 <;> cases mc <;> cases h2 <;> cases h3 <;> simp [engine_model_choice, modelChoice, h]

theorem engine_perms_eq : engine_perm_in_2d = permIn2d ∧ engine_perm_out_2d = permOut2d ∧
    engine_perm_in_3d = permIn3d ∧ engine_perm_out_3d = permOut3d ∧
    permInverse engine_perm_in_2d engine_perm_out_2d = true ∧ permInverse engine_perm_in_3d engine_perm_out_3d = true :=
  ⟨rfl, rfl, rfl, rfl, by decide, by decide⟩

end DirectVerif.Bridge.C09
