import DirectVerif.Gen.C13
import DirectVerif.Model.Sampler
import DirectVerif.Model.C13Machine
/-!
# Bridge C13 — what the translator reads in `/repo` equals the hand-written sampler model

Fixed scripts: a semantically equal rewrite of the Python keeps them provable; a changed formula,
comparison or a write to `self` inside `__iter__` does not.
-/
-- the `simp only` sets below also list rules for spellings the translator may emit but does not emit today
set_option linter.unusedSimpArgs false
namespace DirectVerif.Bridge.C13
open DirectVerif DirectVerif.Sampler DirectVerif.Gen.C13

/-- closes `b₁ = b₂` for Boolean combinations of integer comparisons that are *semantically* equal -/
macro "bool_bridge" : tactic =>
  `(tactic| (first | rfl | (rw [Bool.eq_iff_iff]
                            simp only [Bool.or_eq_true, Bool.and_eq_true, Bool.not_eq_true', beq_iff_eq,
                              bne_iff_ne, decide_eq_true_eq, beq_eq_false_iff_ne, ne_eq] <;> omega)))

theorem natCast_beq (a b : Nat) : ((a : Int) == (b : Int)) = (a == b) := by
  rw [Bool.eq_iff_iff]; simp only [beq_iff_eq]; omega

/-! ### `chunks`

Whatever algebraic form the source uses (nested conditionals, `min`, `quotient * idx + …`): quotient and remainder are
generalised and the equality is left to `grind`.  A formula that is not equal for all arguments does not pass. -/

theorem chunks_si_eq (n k idx : Int) (hk : 0 ≤ k) : chunks_si n k idx = chunkStartI n k idx := by
  simp only [chunks_si, chunkStartI, Int.fdiv_eq_ediv_of_nonneg _ hk, Int.fmod_eq_emod_of_nonneg _ hk,
    decide_eq_true_eq, pyMin, pyMax] <;>
    (generalize n / k = d; generalize n % k = r; grind)

theorem chunks_stop_eq (n k idx : Int) (hk : 0 ≤ k) : chunks_stop n k idx = chunkStopI n k idx := by
  simp only [chunks_stop, chunkStopI, chunkStartI, Int.fdiv_eq_ediv_of_nonneg _ hk,
    Int.fmod_eq_emod_of_nonneg _ hk, decide_eq_true_eq, pyMin, pyMax] <;>
    (generalize n / k = d; generalize n % k = r; grind)

theorem chunkStartI_cast (n k idx : Nat) : chunkStartI n k idx = (chunkStart n k idx : Nat) := by
  rw [chunkStartI, chunkStart, ← Int.natCast_ediv, ← Int.natCast_emod]
  by_cases h : idx < n % k
  · rw [if_pos h, if_pos h, if_pos (Int.ofNat_lt.mpr h), if_pos (Int.ofNat_lt.mpr h)]
    simp only [Int.natCast_add, Int.natCast_mul, Int.natCast_one, Int.natCast_zero]
  · rw [if_neg h, if_neg h, if_neg (mt Int.ofNat_lt.mp h), if_neg (mt Int.ofNat_lt.mp h)]
    simp only [Int.natCast_add, Int.natCast_mul, Int.natCast_one, Int.natCast_sub (Nat.le_of_not_lt h)]

theorem chunkStopI_cast (n k idx : Nat) :
    chunkStopI n k idx = ((chunkStart n k idx + chunkLen n k idx : Nat) : Int) := by
  rw [chunkStopI, chunkStartI_cast, Int.natCast_add, chunkLen, ← Int.natCast_ediv, ← Int.natCast_emod]
  congr 1
  by_cases h : idx < n % k
  · rw [if_pos h, if_pos (Int.ofNat_lt.mpr h)]; rfl
  · rw [if_neg h, if_neg (mt Int.ofNat_lt.mp h)]

theorem bvs_yield_cond_eq (lenb bs idx nv : Nat) :
    bvs_yield_cond lenb bs idx nv = yieldCond lenb bs (some nv) idx := by
  simp only [bvs_yield_cond, yieldCond, isVolEnd] <;> bool_bridge

theorem bvs_advance_cond_eq (lenb bs idx nv : Nat) :
    bvs_advance_cond lenb bs idx nv = isVolEnd (some nv) idx := by
  simp only [bvs_advance_cond, isVolEnd] <;> bool_bridge

theorem bvs_end_value_eq (start stop bs : Int) : bvs_end_value start stop bs = stop := rfl

theorem ceil_neg_fdiv (a b : Int) (hb : 0 < b) : -(Int.fdiv (-a) b) = (a + b - 1) / b := by
  rw [Int.fdiv_eq_ediv_of_nonneg _ (by omega : (0 : Int) ≤ b)]
  have h1 := Int.emod_add_mul_ediv (a + b - 1) b
  have h2 := Int.emod_nonneg (a + b - 1) (by omega : b ≠ 0)
  have h3 := Int.emod_lt_of_pos (a + b - 1) hb
  have key : (-a) / b = -((a + b - 1) / b) ∧ (-a) % b = b - 1 - (a + b - 1) % b := by
    rw [Int.ediv_emod_unique hb]
    refine ⟨?_, by omega, by omega⟩
    rw [Int.mul_neg]
    omega
  rw [key.1, Int.neg_neg]

theorem bvs_len_term_eq (start stop bs : Nat) (h : start ≤ stop) (hbs : 0 < bs) :
    bvs_len_term start stop bs = (ceilDiv (stop - start) bs : Nat) := by
  simp only [bvs_len_term, pyCeilTrueDiv]
  rw [ceil_neg_fdiv _ _ (by omega)]
  unfold ceilDiv
  rw [Int.natCast_ediv]
  congr 1
  omega

theorem bvs_iter_self_writes_eq : bvs_iter_self_writes = [] := by decide

/-- `__iter__` writes nothing on the object and rebuilds its end-of-volume iterator from `self.end_of_volume` on every
call (`BVS.iterate` starts from `pyNext b.ends none`) -/
theorem bvs_iter_rebuilds_eq : bvs_iter_rebuilds = true := by decide

theorem seq_iter_is_indices_eq : seq_iter_is_indices = true := by decide

theorem concat_elem_eq (i off : Int) : concat_elem i off = i + off := rfl

theorem concat_yield_cond_eq (lenb bs : Nat) : concat_yield_cond lenb bs = (lenb == bs) := by
  simp only [concat_yield_cond] <;> bool_bridge

theorem cumsum_append_eq (e s : Int) : cumsum_append e s = e + s := rfl
theorem cumsum_next_eq (e s : Int) : cumsum_next e s = s + e := rfl

theorem concat_offset_eq (sizes : List Nat) (idx : Nat) :
    concat_offset ((cumsum sizes).map Int.ofNat) idx = (concatOffset sizes idx : Nat) := by
  unfold concat_offset concatOffset
  cases idx with
  | zero => simp
  | succ i =>
    have h1 : ((((i + 1 : Nat) : Int)) == 0) = false := by
      rw [beq_eq_false_iff_ne]; omega
    have h2 : (((i + 1 : Nat) : Int) - 1).toNat = i := by omega
    simp only [h1, Bool.false_eq_true, if_false, h2, Nat.add_one_ne_zero, Nat.add_sub_cancel]
    rw [List.getD_eq_getElem?_getD, List.getD_eq_getElem?_getD, List.getElem?_map]
    cases (cumsum sizes)[i]? <;> simp

theorem dist_start_eq (rank world : Int) : dist_start rank world = rank := rfl
theorem dist_step_eq (rank world : Int) : dist_step rank world = world := rfl

/-! ### structure read from the source -/

/-- no call site of `build_batch_sampler` passes a volume limit (`limit_number_of_volumes=None` or absent):
the theorems with `limit = 0` cover every use -/
theorem batch_sampler_calls_eq : batch_sampler_calls = expectedBatchSamplerCalls := rfl
theorem dist_structure_eq : dist_structure = expectedDistStructure := rfl
theorem concat_next_eq : concat_next = expectedConcatNextFlow := rfl

/-- what `Model/C13Machine.lean` relies on: no method other than `__init__` writes / advances anything on `self`,
`__init__` stores no one-shot iterator, `__iter__` reads only `batch_size`, `end_of_volume`, `sampler`, and the inner
sampler's `__iter__` is a fresh `iter(self.indices)` -/
theorem iter_tables_wf :
    (IterTables.mk bvs_iter_self_writes bvs_iter_self_reads bvs_other_method_writes bvs_init_iterator_attrs
      bvs_iter_rebuilds bvs_len_is_num_batches seq_iter_is_indices seq_method_writes).wf = true := by decide +kernel

theorem bvs_other_method_writes_eq : bvs_other_method_writes = [] := by decide
theorem bvs_init_iterator_attrs_eq : bvs_init_iterator_attrs = [] := by decide
theorem seq_method_writes_eq : seq_method_writes = [] := by decide
theorem seq_init_iterator_attrs_eq : seq_init_iterator_attrs = [] := by decide

theorem seq_init_order_eq : seq_init_order = expectedSeqInitOrder := rfl

theorem dist_init_seed_eq : dist_init_seed = expectedDistInit := rfl

end DirectVerif.Bridge.C13
