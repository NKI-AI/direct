import Mathlib.LinearAlgebra.Dimension.Finite
import DirectVerif.Lemmas.C19Energy
/-!
# C19 — full orthogonality of the residuals and finite termination of `ConjGrad.cg`

With the first direction equal to the first residual (as `cg` sets `pk = rk_old.clone()`), all
residuals are mutually orthogonal and all directions mutually `B`-conjugate; hence in a space of
dimension `n` the residual after `n` passes is exactly zero (exact arithmetic).
-/
open ComplexInnerProductSpace DirectVerif.DataConsistency
open scoped ComplexConjugate

namespace DirectVerif.C19
variable {E : Type*} [NormedAddCommGroup E] [InnerProductSpace ℂ E]
variable {G : Type*} [NormedAddCommGroup G] [InnerProductSpace ℂ G]

/-- the classical induction, for any sequences obeying the two recurrences of the loop body -/
theorem full_orth {B : E →ₗ[ℂ] E} (sa : ∀ u v, ⟪B u, v⟫ = ⟪u, B v⟫)
    (r p : ℕ → E) (a β : ℕ → ℂ)
    (hr : ∀ k, r (k + 1) = r k - a k • B (p k))
    (hp : ∀ k, p (k + 1) = r (k + 1) + β k • p k)
    (h0 : p 0 = r 0)
    (H1 : ∀ k, ⟪r k, r (k + 1)⟫ = 0)
    (H2 : ∀ k, ⟪p k, B (p (k + 1))⟫ = 0)
    (H3 : ∀ k, conj (a k) = a k)
    (H4 : ∀ k, a k = 0 → p k = 0) :
    ∀ k i, i < k → ⟪r i, r k⟫ = 0 ∧ ⟪p i, B (p k)⟫ = 0 := by
  intro k
  induction k with
  | zero => intro i hi; omega
  | succ k ih =>
    have hrB : ∀ i, i < k → ⟪r i, B (p k)⟫ = 0 := by
      intro i hi
      cases i with
      | zero => rw [← h0]; exact (ih 0 hi).2
      | succ j =>
        have e : r (j + 1) = p (j + 1) - β j • p j := by rw [hp j]; abel
        rw [e, inner_sub_left, inner_smul_left, (ih (j + 1) hi).2, (ih j (by omega)).2]
        simp
    have ha : ∀ i, i < k + 1 → ⟪r i, r (k + 1)⟫ = 0 := by
      intro i hi
      by_cases hik : i = k
      · rw [hik]; exact H1 k
      · have hi' : i < k := by omega
        rw [hr k, inner_sub_right, inner_smul_right, (ih i hi').1, hrB i hi']
        simp
    intro i hi
    refine ⟨ha i hi, ?_⟩
    by_cases hik : i = k
    · rw [hik]; exact H2 k
    · have hi' : i < k := by omega
      rw [← sa, hp k, inner_add_right, inner_smul_right, sa (p i) (p k), (ih i hi').2, mul_zero, add_zero]
      by_cases hai : a i = 0
      · rw [H4 i hai, map_zero, inner_zero_left]
      · have e : a i • B (p i) = r i - r (i + 1) := by rw [hr i]; abel
        have key : a i * ⟪B (p i), r (k + 1)⟫ = 0 := by
          have : ⟪a i • B (p i), r (k + 1)⟫ = 0 := by
            rw [e, inner_sub_left, ha i hi, ha (i + 1) (by omega), sub_self]
          rwa [inner_smul_left, H3 i] at this
        exact (mul_eq_zero.mp key).resolve_left hai

section CG
variable {F Fb : G →ₗ[ℂ] G} {Ex : E →ₗ[ℂ] G} {R : G →ₗ[ℂ] E} {M : G →ₗ[ℂ] G}
variable {B : E →ₗ[ℂ] E} {b : E}

local notation "𝒪" => mathOps F Fb Ex R M

/-- the guarded `0/0` makes the body the identity -/
theorem cgStep_r_zero (hB : SPD B) (u : Update) {s : CGState ℂ E} (h : CGInv B b s) (hr : s.r = 0) :
    (cgStep 𝒪 u B s).r = 0 := by
  rw [cgStep_r, h.p_eq_zero hB hr, map_zero, smul_zero, sub_zero, hr]

theorem cgIter_r_zero (hB : SPD B) (u : Update) (hu : u = .FR ∨ u = .PRP) {s : CGState ℂ E}
    (h : CGInv B b s) (k j : ℕ) (hr : (cgIter 𝒪 u B k s).r = 0) : (cgIter 𝒪 u B (k + j) s).r = 0 := by
  induction j with
  | zero => exact hr
  | succ j ih =>
    rw [← Nat.add_assoc, cgIter_succ']
    exact cgStep_r_zero hB u (cgIter_inv hB u hu _ h) ih

theorem cg_full_orth (hB : SPD B) (u : Update) (hu : u = .FR ∨ u = .PRP) {s : CGState ℂ E}
    (h : CGInv B b s) (h0 : s.p = s.r) (k i : ℕ) (hik : i < k) :
    ⟪(cgIter 𝒪 u B i s).r, (cgIter 𝒪 u B k s).r⟫ = 0 ∧
      ⟪(cgIter 𝒪 u B i s).p, B (cgIter 𝒪 u B k s).p⟫ = 0 := by
  have inv : ∀ k, CGInv B b (cgIter 𝒪 u B k s) := fun k => cgIter_inv hB u hu k h
  refine full_orth hB.sa (fun k => (cgIter 𝒪 u B k s).r) (fun k => (cgIter 𝒪 u B k s).p)
    (fun k => alpha B (cgIter 𝒪 u B k s))
    (fun k => beta 𝒪 u (cgIter 𝒪 u B (k + 1) s).r (cgIter 𝒪 u B k s).r (cgIter 𝒪 u B k s).p
      (cgIter 𝒪 u B (k + 1) s).rr (cgIter 𝒪 u B k s).rr)
    ?_ ?_ h0 ?_ ?_ ?_ ?_ k i hik
  · intro k; simp only [cgIter_succ']; rfl
  · intro k; simp only [cgIter_succ']; rfl
  · intro k; simp only [cgIter_succ']
    rw [inner_eq_zero_symm]; exact cg_r_orth_next hB u (inv k)
  · intro k; simp only [cgIter_succ']
    rw [← hB.sa, inner_eq_zero_symm]; exact cg_conjugate hB u hu (inv k)
  · intro k; exact (inv k).alpha_real hB
  · intro k hk
    have hm := (inv k).alpha_mul hB
    rw [hk, zero_mul] at hm
    exact (inv k).p_eq_zero hB (inner_self_eq_zero.mp hm.symm)

theorem cgIter_finite_termination [Module.Finite ℂ E] (hB : SPD B) (u : Update)
    (hu : u = .FR ∨ u = .PRP) {s : CGState ℂ E} (h : CGInv B b s) (h0 : s.p = s.r) :
    (cgIter 𝒪 u B (Module.finrank ℂ E) s).r = 0 := by
  by_contra hne
  set n := Module.finrank ℂ E with hn
  have hnz : ∀ i : Fin (n + 1), (cgIter 𝒪 u B i s).r ≠ 0 := by
    intro i hi
    have := cgIter_r_zero hB u hu h i (n - i) hi
    rw [Nat.add_sub_cancel' (Nat.lt_succ_iff.mp i.2)] at this
    exact hne this
  have horth : Pairwise fun i j : Fin (n + 1) =>
      ⟪(cgIter 𝒪 u B i s).r, (cgIter 𝒪 u B j s).r⟫ = 0 := by
    intro i j hij
    rcases lt_or_gt_of_ne (Fin.val_ne_of_ne hij) with hlt | hgt
    · exact (cg_full_orth hB u hu h h0 j i hlt).1
    · rw [inner_eq_zero_symm]; exact (cg_full_orth hB u hu h h0 i j hgt).1
  have hli := linearIndependent_of_ne_zero_of_inner_eq_zero (𝕜 := ℂ) hnz horth
  have := hli.fintype_card_le_finrank
  rw [Fintype.card_fin] at this
  omega

end CG
end DirectVerif.C19
