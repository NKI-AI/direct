import DirectVerif.Model.Fft
/-!
# C01 — every error branch of the `fft2` / `ifft2` glue, as one flat decision list

`Fft.validate` interprets the translated plan step by step (the order of the Python statements decides which exception
wins).  Every step is a priority list of checks (`firstError`), binding two steps concatenates their lists, and the
second shift only repeats checks the transform has already made; so the whole plan is one priority list, which is what
`Fft.validateSpec` spells out.  Reading that list off gives the exact acceptance condition and, per exception class, its
exact precondition given that the earlier checks passed.
-/
namespace DirectVerif.C01Validate
open DirectVerif DirectVerif.Fft

def firstError {α} : List (Bool × Err) → Except Err α → Except Err α
  | [], k => k
  | (c, e) :: cs, k => if c then .error e else firstError cs k

theorem firstError_nil {α} (k : Except Err α) : firstError [] k = k := rfl

theorem firstError_cons_eq_ok {α} (c : Bool) (e : Err) (cs : List (Bool × Err)) (k : Except Err α) (s : α) :
    firstError ((c, e) :: cs) k = .ok s ↔ c = false ∧ firstError cs k = .ok s := by
  cases c <;> simp [firstError]

theorem firstError_cons_eq_error {α} (c : Bool) (e e' : Err) (cs : List (Bool × Err)) (k : Except Err α) :
    firstError ((c, e) :: cs) k = .error e' ↔ (c = true ∧ e = e') ∨ (c = false ∧ firstError cs k = .error e') := by
  cases c <;> simp [firstError]

theorem firstError_bind {α β} (cs : List (Bool × Err)) (r : α) (f : α → Except Err β) :
    firstError cs (.ok r) >>= f = firstError cs (f r) := by
  induction cs with
  | nil => rfl
  | cons p cs ih =>
    obtain ⟨c, e⟩ := p
    cases c
    · exact ih
    · rfl

/-- checks that repeat conditions of the checks before them never fire -/
theorem firstError_absorb {α} (cs cs' : List (Bool × Err)) (k : Except Err α)
    (h : ∀ p ∈ cs', ∃ q ∈ cs, p.1 = q.1) :
    firstError cs (firstError cs' k) = firstError cs k := by
  induction cs' with
  | nil => rfl
  | cons p cs' ih =>
    obtain ⟨c, e⟩ := p
    rw [← ih fun p hp => h p (List.mem_cons_of_mem _ hp)]
    cases c
    · rfl
    · -- the earlier copy `q` of the condition is `true`: `cs` stops there at the latest
      obtain ⟨q, hq, hc⟩ := h _ List.mem_cons_self
      clear ih h
      induction cs with
      | nil => cases hq
      | cons q' cs ih =>
        obtain ⟨c', e'⟩ := q'
        cases c'
        · rcases List.mem_cons.mp hq with rfl | hq
          · cases hc
          · exact ih hq
        · rfl

theorem validateOp_checkDims (dims : List Int) (s : VState) :
    validateOp dims .checkDims s = firstError [(!dims.all dimOk, .typeError)] (.ok s) := by
  cases h : dims.all dimOk <;> simp [validateOp, firstError, h]

theorem validateOp_viewComplex (dims : List Int) (s : VState) :
    validateOp dims .viewComplex s =
      firstError [(s.shape.getLast? ≠ some 2, .assertionError), (s.dtype.viewComplex = none, .runtimeError)]
        (.ok ⟨s.shape.dropLast, (s.dtype.viewComplex).getD .other⟩) := by
  cases h : s.dtype.viewComplex <;> simp [validateOp, firstError, h]

theorem validateShift_eq (dims : List Int) (s : VState) :
    validateShift dims s =
      firstError [(dims.any (fun d => d.toNat ≥ s.shape.length), .indexError),
        (dims.any (fun d => s.shape.getD d.toNat 1 == 0), .zeroDivisionError)] (.ok s) := rfl

theorem validateOp_ishift (dims : List Int) (s : VState) : validateOp dims .ishift s = validateShift dims s := rfl
theorem validateOp_fshift (dims : List Int) (s : VState) : validateOp dims .fshift s = validateShift dims s := rfl

theorem validateOp_transform (dims : List Int) (inv : Bool) (nT nF : Norm) (s : VState) :
    validateOp dims (.transform inv nT nF) s =
      firstError [(s.dtype == .float32 && dims.any (fun d => d.toNat ≥ s.shape.length), .indexError),
        (!(dtypeOk s.dtype (dims.map fun d => s.shape.getD d.toNat 1)), .valueError),
        (dims.any (fun d => d.toNat ≥ s.shape.length), .indexError),
        (hasDup dims, .runtimeError),
        (dims.any (fun d => s.shape.getD d.toNat 1 == 0), .runtimeError)]
        (.ok { s with dtype := s.dtype.afterFft }) := rfl

theorem validateOp_viewReal (dims : List Int) (s : VState) :
    validateOp dims .viewReal s = .ok { shape := s.shape ++ [2], dtype := s.dtype.viewReal } := rfl

/-- a shift after the transform raises nothing: both of its checks are among the transform's, on the same shape -/
theorem transform_then_shift {β} (dims : List Int) (inv : Bool) (nT nF : Norm) (s : VState) (f : VState → Except Err β) :
    (validateOp dims (.transform inv nT nF) s >>= fun v => validateShift dims v >>= f) =
      validateOp dims (.transform inv nT nF) s >>= f := by
  rw [validateOp_transform, firstError_bind, firstError_bind, validateShift_eq, firstError_bind]
  exact firstError_absorb _ _ _ (by simp)

theorem validate_nil (cfg : Cfg) (dims : List Int) (s : VState) : validate cfg dims [] s = .ok s := rfl

theorem validate_cons (cfg : Cfg) (dims : List Int) (st : Step) (plan : List Step) (s : VState) :
    validate cfg dims (st :: plan) s =
      (if st.guard.holds cfg then validateOp dims st.op s else .ok s) >>= fun s' => validate cfg dims plan s' := rfl

theorem ok_bind {α β} (r : α) (f : α → Except Err β) : (.ok r : Except Err α) >>= f = f r := rfl

theorem validateSpec_eq (cfg : Cfg) (dims : List Int) (s : VState) :
    validateSpec cfg dims s =
      let shape := if cfg.complexInput then s.shape.dropLast else s.shape
      let dt := if cfg.complexInput then (s.dtype.viewComplex).getD .other else s.dtype
      let oor := dims.any (fun d => d.toNat ≥ shape.length)
      let empty := dims.any (fun d => shape.getD d.toNat 1 == 0)
      firstError
        [(!dims.all dimOk, .typeError),
         (cfg.complexInput && s.shape.getLast? ≠ some 2, .assertionError),
         (cfg.complexInput && s.dtype.viewComplex = none, .runtimeError),
         (cfg.centered && oor, .indexError),
         (cfg.centered && empty, .zeroDivisionError),
         (dt == .float32 && oor, .indexError),
         (!(dtypeOk dt (dims.map fun d => shape.getD d.toNat 1)), .valueError),
         (oor, .indexError),
         (hasDup dims, .runtimeError),
         (empty, .runtimeError)]
        (.ok { shape := if cfg.complexInput then shape ++ [2] else shape,
               dtype := if cfg.complexInput then dt.afterFft.viewReal else dt.afterFft }) := rfl

theorem spec_std (c n ci inv : Bool) (nT nF : Norm) (dims : List Int) (shape : List Nat) (dt : DType) :
    validate ⟨c, n, ci⟩ dims (stdPlan inv nT nF) ⟨shape, dt⟩ = validateSpec ⟨c, n, ci⟩ dims ⟨shape, dt⟩ := by
  cases c <;> cases ci
  all_goals
    -- run the plan: the steps whose flag is off vanish, the second shift is dropped (`transform_then_shift`);
    -- the goal is now `checkDims s >>= fun s => viewComplex s >>= … = validateSpec …`
    simp only [stdPlan, validate_cons, validate_nil, Guard.holds, ↓reduceIte, Bool.false_eq_true, validateOp_ishift,
      validateOp_fshift, transform_then_shift, ok_bind]
    -- every step is a `firstError` list, and binding pushes the rest of the plan to its end:
    -- `firstError [typeError check] (firstError [view checks] (… (.ok result))) = validateSpec …`
    simp only [validateOp_checkDims, validateOp_viewComplex, validateShift_eq, validateOp_transform, validateOp_viewReal,
      firstError_bind]
    -- which is `validateSpec` unfolded, the conditions of the skipped steps reading `false && _`
    rfl

/-- **C01: the interpreted plan of `fft2` raises exactly what the flat decision list says** -/
theorem validate_fft2_eq_spec (cfg : Cfg) (dims : List Int) (s : VState) :
    validate cfg dims fft2Plan s = validateSpec cfg dims s :=
  spec_std cfg.centered cfg.normalized cfg.complexInput false .ortho .backward dims s.shape s.dtype

/-- `ifft2`: the same list (the two functions reject exactly the same calls) -/
theorem validate_ifft2_eq_spec (cfg : Cfg) (dims : List Int) (s : VState) :
    validate cfg dims ifft2Plan s = validateSpec cfg dims s :=
  spec_std cfg.centered cfg.normalized cfg.complexInput true .ortho .backward dims s.shape s.dtype

theorem fft2_ifft2_same_errors (cfg : Cfg) (dims : List Int) (s : VState) :
    validate cfg dims fft2Plan s = validate cfg dims ifft2Plan s := by
  rw [validate_fft2_eq_spec, validate_ifft2_eq_spec]

/-- what a call with the `(…, 2)` float layout must satisfy to be accepted -/
structure Accepts (dims : List Int) (cshape : List Nat) : Prop where
  nonneg : dims.all dimOk = true
  inRange : (dims.any fun d => decide (d.toNat ≥ cshape.length)) = false
  nodup : hasDup dims = false
  nonempty : (dims.any fun d => cshape.getD d.toNat 1 == 0) = false

/-- of the float dtypes only float32 has a complex view that `verify_fft_dtype_possible` lets through -/
theorem dtypeOk_viewComplex (dt : DType) (lens : List Nat) :
    dt.viewComplex ≠ none ∧ dtypeOk ((dt.viewComplex).getD .other) lens = true ↔ dt = .float32 := by
  cases dt <;> simp [DType.viewComplex, dtypeOk]

theorem afterFft_of_dtypeOk {dt : DType} {lens : List Nat} (h : dtypeOk dt lens = true) : dt.afterFft = .complex64 := by
  cases dt <;> first | rfl | simp [dtypeOk] at h

/-- **exact acceptance condition, `complex_input=True`**: a float tensor of shape `cshape ++ [k]` comes back with the same
shape and dtype iff `k = 2`, the dtype is float32 and `dim` is acceptable — centred or not, normalised or not -/
theorem validate_ok_iff (c n : Bool) (dims : List Int) (cshape : List Nat) (k : Nat) (dt : DType) (s' : VState) :
    validate ⟨c, n, true⟩ dims fft2Plan ⟨cshape ++ [k], dt⟩ = .ok s' ↔
      (k = 2 ∧ dt = .float32 ∧ Accepts dims cshape ∧ s' = ⟨cshape ++ [2], .float32⟩) := by
  rw [validate_fft2_eq_spec, validateSpec_eq]
  simp only [firstError_cons_eq_ok, firstError_nil, List.getLast?_append, List.getLast?_singleton, List.dropLast_concat,
    Bool.true_and, ↓reduceIte, Option.some_or, Bool.not_eq_false', decide_eq_false_iff_not, Decidable.not_not,
    Option.some.injEq, Except.ok.injEq]
  constructor
  · rintro ⟨h1, rfl, h3, -, -, -, h7, h8, h9, h10, rfl⟩
    cases (dtypeOk_viewComplex dt _).mp ⟨h3, h7⟩
    exact ⟨rfl, rfl, ⟨h1, h8, h9, h10⟩, rfl⟩
  · rintro ⟨rfl, rfl, ⟨h1, h8, h9, h10⟩, rfl⟩
    simp only [h8, h10, Bool.and_false, true_and]
    exact ⟨h1, by decide, rfl, h9, rfl⟩

/-- **`complex_input=False`**: complex64, or float32 with every transformed length a power of two -/
theorem validate_ok_iff_complex (c n : Bool) (dims : List Int) (shape : List Nat) (dt : DType) (s' : VState) :
    validate ⟨c, n, false⟩ dims fft2Plan ⟨shape, dt⟩ = .ok s' ↔
      (Accepts dims shape ∧ dtypeOk dt (dims.map fun d => shape.getD d.toNat 1) = true ∧ s' = ⟨shape, .complex64⟩) := by
  rw [validate_fft2_eq_spec, validateSpec_eq]
  simp only [firstError_cons_eq_ok, firstError_nil, Bool.false_and, Bool.false_eq_true, ↓reduceIte, Bool.not_eq_false',
    Except.ok.injEq, true_and]
  constructor
  · rintro ⟨h1, -, -, -, h7, h8, h9, h10, rfl⟩
    exact ⟨⟨h1, h8, h9, h10⟩, h7, by rw [afterFft_of_dtypeOk h7]⟩
  · rintro ⟨⟨h1, h8, h9, h10⟩, h7, rfl⟩
    simp only [h8, h10, Bool.and_false, true_and]
    exact ⟨h1, h7, h9, by rw [afterFft_of_dtypeOk h7]⟩

/-- whatever else is wrong with the call -/
theorem typeError_iff (cfg : Cfg) (dims : List Int) (s : VState) :
    validate cfg dims fft2Plan s = .error .typeError ↔ dims.all dimOk = false := by
  rw [validate_fft2_eq_spec, validateSpec_eq]
  simp only [firstError_cons_eq_error, firstError_nil, reduceCtorEq, and_false, and_true, or_false, Bool.not_eq_true']

theorem assertionError_iff (cfg : Cfg) (dims : List Int) (s : VState) :
    validate cfg dims fft2Plan s = .error .assertionError ↔
      (dims.all dimOk = true ∧ cfg.complexInput = true ∧ s.shape.getLast? ≠ some 2) := by
  rw [validate_fft2_eq_spec, validateSpec_eq]
  simp only [firstError_cons_eq_error, firstError_nil, reduceCtorEq, and_false, and_true, or_false, false_or,
    Bool.not_eq_false', Bool.and_eq_true, decide_eq_true_eq]

/-- `ValueError` ("half precision FFT is not supported") -/
theorem valueError_complex_iff (c n : Bool) (dims : List Int) (shape : List Nat) (dt : DType)
    (h1 : dims.all dimOk = true) (h2 : (dims.any fun d => decide (d.toNat ≥ shape.length)) = false)
    (h4 : (dims.any fun d => shape.getD d.toNat 1 == 0) = false) :
    validate ⟨c, n, false⟩ dims fft2Plan ⟨shape, dt⟩ = .error .valueError ↔
      dtypeOk dt (dims.map fun d => shape.getD d.toNat 1) = false := by
  rw [validate_fft2_eq_spec, validateSpec_eq]
  simp only [firstError_cons_eq_error, firstError_nil, reduceCtorEq, and_false, and_true, or_false, false_or,
    Bool.not_eq_false', Bool.not_eq_true', Bool.false_and, Bool.false_eq_true, ↓reduceIte, h1, h2, h4, Bool.and_false, true_and]

/-- a repeated axis is rejected by torch itself ("FFT dims must be unique") -/
theorem dup_runtimeError (c n : Bool) (dims : List Int) (cshape : List Nat)
    (h1 : dims.all dimOk = true) (h2 : (dims.any fun d => decide (d.toNat ≥ cshape.length)) = false)
    (h3 : hasDup dims = true) (h4 : (dims.any fun d => cshape.getD d.toNat 1 == 0) = false) :
    validate ⟨c, n, true⟩ dims fft2Plan ⟨cshape ++ [2], .float32⟩ = .error .runtimeError := by
  rw [validate_fft2_eq_spec, validateSpec_eq]
  simp only [firstError_cons_eq_error, firstError_nil, reduceCtorEq, and_false, and_true, or_false, false_or,
    Bool.not_eq_false', Bool.true_and, List.getLast?_append, List.getLast?_singleton, List.dropLast_concat, ↓reduceIte,
    h1, h2, h3, h4, Bool.and_false, true_and, Option.some_or]
  exact ⟨rfl, .inr ⟨rfl, rfl⟩⟩

theorem hasDup_false_iff_nodup (ds : List Int) : hasDup ds = false ↔ ds.Nodup := by
  induction ds with
  | nil => simp [hasDup]
  | cons d ds ih => simp [hasDup, ih]

/-- **every call site that passes `CallSite.ok` reaches the transform**, on every float32 `(…, 2)` tensor whose rank
covers the tuple and whose transformed axes are non-empty -/
theorem site_accepted (site : CallSite) (h : site.ok = true) (d : List Int) (hd : d ∈ site.dims)
    (cshape : List Nat) (hr : ∀ a ∈ d, a.toNat < cshape.length) (hne : ∀ a ∈ d, cshape.getD a.toNat 1 ≠ 0) (c n : Bool) :
    validate ⟨c, n, true⟩ d fft2Plan ⟨cshape ++ [2], .float32⟩ = .ok ⟨cshape ++ [2], .float32⟩ ∧
    validate ⟨c, n, true⟩ d ifft2Plan ⟨cshape ++ [2], .float32⟩ = .ok ⟨cshape ++ [2], .float32⟩ := by
  simp only [CallSite.ok, Bool.and_eq_true, List.all_eq_true] at h
  have hacc := h.1 d hd
  simp only [dimsAcceptable, Bool.and_eq_true, Bool.not_eq_true'] at hacc
  have A : Accepts d cshape := by
    refine ⟨hacc.1.1, ?_, hacc.1.2, ?_⟩
    · rw [List.any_eq_false]; intro a ha; simpa using hr a ha
    · rw [List.any_eq_false]; intro a ha; simpa using hne a ha
  rw [← fft2_ifft2_same_errors, and_self]
  exact (validate_ok_iff c n d cshape 2 .float32 _).mpr ⟨rfl, rfl, A, rfl⟩

/-- what the n-D theorems ask for: `Int.toNat` is injective on the non-negative entries -/
theorem dimsAcceptable_nodup (d : List Int) (h : dimsAcceptable d = true) : (d.map Int.toNat).Nodup := by
  simp only [dimsAcceptable, Bool.and_eq_true, Bool.not_eq_true', List.all_eq_true, dimOk, decide_eq_true_eq] at h
  rw [List.Nodup, List.pairwise_map]
  refine ((hasDup_false_iff_nodup d).mp h.1.2).imp_of_mem fun ha hb hne heq => hne ?_
  have := h.1.1 _ ha
  have := h.1.1 _ hb
  omega

example : (⟨0, 0, true, [[2, 3], [1, 2]], [(2, false)]⟩ : CallSite).ok = true := by decide
example : (⟨0, 0, true, [[-2, -1]], []⟩ : CallSite).ok = false := by decide

example : Accepts [1, 2] [2, 3, 5] := ⟨by decide, by decide, by decide, by decide⟩
example : validate ⟨true, true, true⟩ [1, 2] fft2Plan ⟨[2, 3, 5] ++ [2], .float32⟩ = .ok ⟨[2, 3, 5] ++ [2], .float32⟩ :=
  (validate_ok_iff true true [1, 2] [2, 3, 5] 2 .float32 _).mpr ⟨rfl, rfl, ⟨by decide, by decide, by decide, by decide⟩, rfl⟩
example : validateSpec ⟨true, true, true⟩ [2, 2] ⟨[2, 3, 5, 2], .float32⟩ = .error .runtimeError := by rfl
example : validateSpec ⟨true, true, true⟩ [-1, 2] ⟨[2, 3, 5, 3], .float64⟩ = .error .typeError := by rfl
example : validateSpec ⟨true, true, true⟩ [1, 2] ⟨[2, 3, 5, 3], .float64⟩ = .error .assertionError := by rfl
example : validateSpec ⟨true, true, true⟩ [1, 2] ⟨[2, 0, 5, 2], .float32⟩ = .error .zeroDivisionError := by rfl
example : validateSpec ⟨false, true, true⟩ [1, 2] ⟨[2, 0, 5, 2], .float32⟩ = .error .runtimeError := by rfl
example : validateSpec ⟨false, true, true⟩ [1, 7] ⟨[2, 3, 5, 2], .float16⟩ = .error .valueError := by rfl
example : validateSpec ⟨false, true, true⟩ [1, 7] ⟨[2, 3, 5, 2], .float32⟩ = .error .indexError := by rfl
example : validateSpec ⟨false, true, false⟩ [1, 7] ⟨[2, 4, 8], .float32⟩ = .error .indexError := by rfl

end DirectVerif.C01Validate
