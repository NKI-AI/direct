import DirectVerif.Model.Config
/-!
`WellTyped ty v` is the relational specification of what `OmegaConf.merge(structured(ty), v)` accepts: MISSING anywhere;
`null` exactly at optional / `Any` positions; a map at an `Any` position, or at a dataclass position when every key is a
declared field with a well-typed value; a list at an `Any` position, or at a `List[T]` position when every *scalar*
element is well typed at `T` (OmegaConf's list merge appends container elements unchecked); a scalar according to
`validateScalar`.  `validate_ok_iff`: the checker `validate` accepts exactly the well-typed trees.
-/
namespace DirectVerif.Config

theorem forall_mem_of_forall_getD {α} {l : List α} {d : α} {p : α → Prop} (h : ∀ i < l.length, p (l.getD i d)) :
    ∀ x ∈ l, p x := by
  intro x hx
  obtain ⟨i, hi, rfl⟩ := List.mem_iff_getElem.mp hx
  simpa [List.getD_eq_getElem?_getD, hi] using h i hi

theorem configOk_iff {t : Tables} {file : Val} : configOk t file = true ↔ checkConfig t file = .ok () := by
  unfold configOk
  split <;> simp_all

theorem checkConfig_ok_iff {t : Tables} {file : Val} :
    checkConfig t file = .ok () ↔
      mergeCheck t file = .ok () ∧ operatorsCheck t file = .ok () ∧ engineCheck t file = .ok () ∧
        blocksCheck t file = .ok () := by
  unfold checkConfig
  split
  · simp [*]
  · split
    · simp [*]
    · split
      · simp [*]
      · split <;> simp [*]

/-! `kind` bits of a string: 1 int-like, 2 float-like, 4 bool word. -/

theorem validateScalar_int_iff (v : Val) :
    validateScalar .int v = .ok () ↔
      v = .missing ∨ (∃ i, v = .int i) ∨ (∃ s k, v = .str s k ∧ k % 2 = 1) := by
  cases v <;> simp [validateScalar]
  exact ⟨fun h => ⟨_, _, ⟨rfl, rfl⟩, h⟩, fun ⟨_, _, ⟨h1, h2⟩, h⟩ => by subst h1 h2; exact h⟩

theorem validateScalar_float_iff (v : Val) :
    validateScalar .float v = .ok () ↔
      v = .missing ∨ (∃ i, v = .int i) ∨ (∃ r, v = .float r) ∨ (∃ s k, v = .str s k ∧ k / 2 % 2 = 1) := by
  cases v <;> simp [validateScalar]
  exact ⟨fun h => ⟨_, _, ⟨rfl, rfl⟩, h⟩, fun ⟨_, _, ⟨h1, h2⟩, h⟩ => by subst h1 h2; exact h⟩

theorem validateScalar_bool_iff (v : Val) :
    validateScalar .bool v = .ok () ↔
      v = .missing ∨ (∃ b, v = .bool b) ∨ (∃ i, v = .int i) ∨
        (∃ s k, v = .str s k ∧ (k % 2 = 1 ∨ k / 4 % 2 = 1)) := by
  cases v <;> simp [validateScalar]
  exact ⟨fun h => ⟨_, _, ⟨rfl, rfl⟩, by omega⟩, fun ⟨_, _, ⟨h1, h2⟩, h⟩ => by subst h1 h2; omega⟩

theorem validateScalar_str_iff (v : Val) :
    validateScalar .str v = .ok () ↔
      v = .missing ∨ (∃ i, v = .int i) ∨ (∃ r, v = .float r) ∨ (∃ b, v = .bool b) ∨ (∃ s k, v = .str s k) := by
  cases v <;> simp [validateScalar]

theorem validateScalar_enum_iff (names : List Sym) (vals : List Int) (v : Val) :
    validateScalar (.enum names vals) v = .ok () ↔
      v = .missing ∨ (∃ s k, v = .str s k ∧ s ∈ names) ∨ (∃ i, v = .int i ∧ i ∈ vals) := by
  cases v <;> simp [validateScalar]

/-- enum members are matched by *name*, case-sensitively -/
theorem validateScalar_enum_rejects (names : List Sym) (vals : List Int) (s : Sym) (k : Nat) (h : s ∉ names) :
    validateScalar (.enum names vals) (.str s k) = .error .validationError := by
  simp [validateScalar, h]

def Val.isScalar : Val → Bool
  | .int _ => true
  | .float _ => true
  | .bool _ => true
  | .str _ _ => true
  | _ => false

mutual
inductive WellTyped : Ty → Val → Prop
  | missing (ty : Ty) : WellTyped ty .missing
  | null (ty : Ty) : ty.isOptional = true → WellTyped ty .null
  | anyMap (ty : Ty) (kvs : List (Sym × Val)) : ty.core = .any → WellTyped ty (.map kvs)
  | struct (ty : Ty) (cls : Sym) (fields : List (Sym × Ty × Val)) (kvs : List (Sym × Val)) :
      ty.core = .struct cls fields → FieldsTyped fields kvs → WellTyped ty (.map kvs)
  | anyList (ty : Ty) (xs : List Val) : ty.core = .any → WellTyped ty (.list xs)
  | list (ty e : Ty) (xs : List Val) : ty.core = .list e → ElemsTyped e xs → WellTyped ty (.list xs)
  | scalar (ty : Ty) (v : Val) : v.isScalar = true → validateScalar ty.core v = .ok () → WellTyped ty v
inductive FieldsTyped : List (Sym × Ty × Val) → List (Sym × Val) → Prop
  | nil (fields : List (Sym × Ty × Val)) : FieldsTyped fields []
  | cons (fields : List (Sym × Ty × Val)) (k : Sym) (v : Val) (rest : List (Sym × Val)) (t : Ty) (d : Val) :
      lookup k fields = some (t, d) → WellTyped t v → FieldsTyped fields rest → FieldsTyped fields ((k, v) :: rest)
inductive ElemsTyped : Ty → List Val → Prop
  | nil (e : Ty) : ElemsTyped e []
  | consList (e : Ty) (xs rest : List Val) : ElemsTyped e rest → ElemsTyped e (.list xs :: rest)
  | consMap (e : Ty) (kvs : List (Sym × Val)) (rest : List Val) : ElemsTyped e rest → ElemsTyped e (.map kvs :: rest)
  | consOther (e : Ty) (x : Val) (rest : List Val) :
      x.isContainer = false → WellTyped e x → ElemsTyped e rest → ElemsTyped e (x :: rest)
end

theorem validateKVs_append_unknown (fields : List (Sym × Ty × Val)) (pre post : List (Sym × Val)) (k : Sym) (v : Val)
    (hk : lookup k fields = none) (hpre : validateKVs fields pre = .ok ()) :
    validateKVs fields (pre ++ (k, v) :: post) = .error .configKeyError := by
  induction pre with
  | nil => rw [List.nil_append, validateKVs, hk]
  | cons p pre ih =>
    obtain ⟨k', v'⟩ := p
    rw [List.cons_append, validateKVs]
    rw [validateKVs] at hpre
    -- the head entry passes every test of its step (`hpre`), so the step hands over to the rest and `ih` applies
    split at hpre
    · cases hpre
    · split at hpre
      · cases hpre
      · split at hpre
        · simp only [*, Bool.false_eq_true, if_false]
        · cases hpre

theorem validate_rejects_unknown_key (cls : Sym) (fields : List (Sym × Ty × Val)) (pre post : List (Sym × Val))
    (k : Sym) (v : Val) (hk : lookup k fields = none) (hpre : validateKVs fields pre = .ok ()) :
    validate (.struct cls fields) (.map (pre ++ (k, v) :: post)) = .error .configKeyError := by
  rw [validate]
  simp only [Ty.core]
  exact validateKVs_append_unknown fields pre post k v hk hpre

theorem Res.ok_eq (r : Res) : (∃ u, r = .ok u) ↔ r = .ok () := by
  constructor
  · rintro ⟨u, h⟩; cases u; exact h
  · intro h; exact ⟨(), h⟩

/-- the one place where the *class* of the rejection depends on the current value of the destination -/
theorem listIntoNoneStruct_not_wellTyped (t : Ty) (d v : Val) (h : listIntoNoneStruct t d v = true) : ¬ WellTyped t v := by
  intro hw
  unfold listIntoNoneStruct at h
  split at h
  · rename_i xs c f hc
    cases hw with
    | anyList _ _ ha => rw [hc] at ha; cases ha
    | list _ e _ hl _ => rw [hc] at hl; cases hl
    | scalar _ _ hs _ => simp [Val.isScalar] at hs
  · cases h

theorem wellTyped_scalar_iff {ty : Ty} {v : Val} (hs : v.isScalar = true) :
    WellTyped ty v ↔ validateScalar ty.core v = .ok () := by
  refine ⟨fun h => ?_, WellTyped.scalar ty v hs⟩
  cases h with
  | scalar _ _ _ h => exact h
  | _ => cases hs


theorem validateElems_cons_container (e : Ty) (x : Val) (rest : List Val) (hc : x.isContainer = true) :
    validateElems e (x :: rest) = validateElems e rest := by
  cases x <;> first | rfl | cases hc

theorem validateElems_cons_other (e : Ty) (x : Val) (rest : List Val) (hc : x.isContainer = false) :
    validateElems e (x :: rest) =
      match validate e x with
      | .ok () => validateElems e rest
      | .error err => .error err := by
  cases x <;> first | rfl | cases hc

theorem elemsTyped_cons_container {e : Ty} {x : Val} {rest : List Val} (hc : x.isContainer = true) :
    ElemsTyped e (x :: rest) ↔ ElemsTyped e rest := by
  constructor
  · intro h
    cases h with
    | consList _ _ _ hr => exact hr
    | consMap _ _ _ hr => exact hr
    | consOther _ _ _ hn _ _ => rw [hn] at hc; cases hc
  · intro hr
    cases x with
    | list ys => exact .consList e ys rest hr
    | map kvs => exact .consMap e kvs rest hr
    | _ => cases hc

theorem elemsTyped_cons_other {e : Ty} {x : Val} {rest : List Val} (hc : x.isContainer = false) :
    ElemsTyped e (x :: rest) ↔ WellTyped e x ∧ ElemsTyped e rest := by
  constructor
  · intro h
    cases h with
    | consList _ _ _ _ => cases hc
    | consMap _ _ _ _ => cases hc
    | consOther _ _ _ _ hx hr => exact ⟨hx, hr⟩
  · exact fun ⟨hx, hr⟩ => .consOther e x rest hc hx hr

mutual
theorem validate_ok_iff (ty : Ty) (v : Val) : validate ty v = .ok () ↔ WellTyped ty v := by
  match v with
  | .missing =>
    rw [validate]; exact ⟨fun _ => .missing ty, fun _ => rfl⟩
  | .null =>
    rw [validate]
    constructor
    · intro h
      by_cases ho : ty.isOptional = true
      · exact .null ty ho
      · simp [ho] at h
    · intro h
      cases h with
      | null _ ho => simp [ho]
      | scalar _ _ hs _ => simp [Val.isScalar] at hs
  | .map kvs =>
    rw [validate]
    constructor
    · intro h
      split at h
      · rename_i hc; exact .anyMap ty kvs hc
      · rename_i cls fields hc; exact .struct ty cls fields kvs hc ((validateKVs_ok_iff fields kvs).mp h)
      · cases h
      · cases h
    · intro h
      cases h with
      | anyMap _ _ hc => simp [hc]
      | struct _ cls fields _ hc hf => simp only [hc]; exact (validateKVs_ok_iff fields kvs).mpr hf
      | scalar _ _ hs _ => simp [Val.isScalar] at hs
  | .list xs =>
    rw [validate]
    constructor
    · intro h
      split at h
      · rename_i hc; exact .anyList ty xs hc
      · rename_i e hc; exact .list ty e xs hc ((validateElems_ok_iff e xs).mp h)
      · cases h
    · intro h
      cases h with
      | anyList _ _ hc => simp [hc]
      | list _ e _ hc he => simp only [hc]; exact (validateElems_ok_iff e xs).mpr he
      | scalar _ _ hs _ => simp [Val.isScalar] at hs
  | .int i => rw [validate]; exact (wellTyped_scalar_iff rfl).symm
  | .float r => rw [validate]; exact (wellTyped_scalar_iff rfl).symm
  | .bool b => rw [validate]; exact (wellTyped_scalar_iff rfl).symm
  | .str s k => rw [validate]; exact (wellTyped_scalar_iff rfl).symm
termination_by structural v

theorem validateKVs_ok_iff (fields : List (Sym × Ty × Val)) (kvs : List (Sym × Val)) :
    validateKVs fields kvs = .ok () ↔ FieldsTyped fields kvs := by
  match kvs with
  | [] => rw [validateKVs]; exact ⟨fun _ => .nil fields, fun _ => rfl⟩
  | (k, v) :: rest =>
    rw [validateKVs]
    constructor
    · intro h
      split at h
      · cases h
      · rename_i t d hl
        split at h
        · cases h
        · split at h
          · rename_i hv
            exact .cons fields k v rest t d hl ((validate_ok_iff t v).mp hv) ((validateKVs_ok_iff fields rest).mp h)
          · cases h
    · intro h
      cases h with
      | cons _ _ _ _ t d hl hv hr =>
        have hn : listIntoNoneStruct t d v = false := by
          cases hb : listIntoNoneStruct t d v with
          | false => rfl
          | true => exact absurd hv (listIntoNoneStruct_not_wellTyped t d v hb)
        simp only [hl, hn, (validate_ok_iff t v).mpr hv]
        exact (validateKVs_ok_iff fields rest).mpr hr
termination_by structural kvs

theorem validateElems_ok_iff (e : Ty) (xs : List Val) : validateElems e xs = .ok () ↔ ElemsTyped e xs := by
  match xs with
  | [] => rw [validateElems]; exact ⟨fun _ => .nil e, fun _ => rfl⟩
  | x :: rest =>
    cases hc : x.isContainer
    · rw [validateElems_cons_other e x rest hc, elemsTyped_cons_other hc, ← validate_ok_iff e x,
        ← validateElems_ok_iff e rest]
      split <;> simp [*]
    · rw [validateElems_cons_container e x rest hc, elemsTyped_cons_container hc]
      exact validateElems_ok_iff e rest
termination_by structural xs
end

end DirectVerif.Config
