import DirectVerif.Lemmas.C08Sound
import DirectVerif.Model.PipelinePrePost
/-!
# C08 — the `IndexError` branch of the percentile scaling

Definedness of an instruction is invariant under positive scaling of the store (the coils the percentile keeps are
those with a non-zero entry, and `q·a = 0 ↔ a = 0`), so a well-typed program fails on the scaled input exactly when
it fails on the original one, with the same error (`execE_sound`).
-/
set_option linter.unusedSectionVars false
namespace DirectVerif.Pipeline

section generic
variable {K : Type} (S : Ops K) (X : Ext K) (m : Meta)

theorem execE_exec : ∀ (p : List Instr) (s : Store K),
    match execE S X m p s with
    | .ok s' => exec S X m p s = .ok s'
    | .error (.base e) => exec S X m p s = .error e
    | .error (.indexError _) => True
  | [], s => rfl
  | i :: is, s => by
    have ih := execE_exec is
    unfold execE exec
    by_cases hd : instrDefined S i s = true
    · rw [if_pos hd]
      cases execInstr S X m i s with
      | error e => rfl
      | ok s1 => exact ih s1
    · rw [if_neg hd]
      trivial

theorem execE_ok (p : List Instr) (s s' : Store K) (h : execE S X m p s = .ok s') : exec S X m p s = .ok s' := by
  have := execE_exec S X m p s
  rwa [h] at this

theorem execE_base (p : List Instr) (s : Store K) (e : Err) (h : execE S X m p s = .error (.base e)) :
    exec S X m p s = .error e := by
  have := execE_exec S X m p s
  rwa [h] at this

theorem exec_ok_cases (p : List Instr) (s s' : Store K) (h : exec S X m p s = .ok s') :
    execE S X m p s = .ok s' ∨ ∃ k, execE S X m p s = .error (.indexError k) := by
  have := execE_exec S X m p s
  cases he : execE S X m p s with
  | ok a => rw [he] at this; exact Or.inl (congrArg _ (Except.ok.inj (this.symm.trans h)))
  | error er =>
    cases er with
    | indexError k => exact Or.inr ⟨k, rfl⟩
    | base e => rw [he] at this; exact absurd (this.symm.trans h) (by simp)
end generic

variable {K : Type} [Field K] [LinearOrder K] [IsStrictOrderedRing K]
variable (sqrt : K → K)
local notation "S" => fieldOps sqrt

theorem kthSelection_scale (q : K) (hq : 0 < q) (x : Val K) :
    kthSelection S (scaleV q x) = (kthSelection S x).map (q * ·) := by
  unfold kthSelection
  simp only [scaleV_data, scaleV_nc, List.length_map]
  exact nonzeroCoils_scale sqrt q hq _ _ _

theorem instrDefined_scale (c : K) (hc : 0 < c) (i : Instr) (e : TEnv) (s : Store K) (h : Agree e s) :
    instrDefined S i (scaleS c e s) = instrDefined S i s := by
  unfold instrDefined
  split
  · rename_i guards dst a
    have hg : guards.all (fun g => (scaleS c e s g).isSome) = guards.all (fun g => (s g).isSome) := by
      congr 1; funext g; exact scaleS_isSome c e s h g
    rw [hg]
    split
    · have hk := h a
      cases he : e a with
      | none =>
        cases hsk : s a with
        | some v => simp [he, hsk] at hk
        | none => simp [scaleS, he, hsk]
      | some d =>
        cases hsk : s a with
        | none => simp [scaleS, he, hsk]
        | some v =>
          have hq : 0 < c ^ d := zpow_pos hc d
          simp [scaleS, he, hsk, kthSelection_scale sqrt (c ^ d) hq v]
    · rfl
  · rfl

section exec
variable {sqrt}
variable (hs : SqrtHom sqrt) {X : Ext K} (hX : ExtHom X) (c : K) (hc : 0 < c) (m : Meta)
include hs hX hc

theorem execE_sound (p : List Instr) (e e' : TEnv) (s : Store K) (h : Agree e s)
    (ht : typeProgram p e = .ok e') :
    execE S X m p (scaleS c e s) = (execE S X m p s).map (scaleS c e') := by
  induction p generalizing e s with
  | nil =>
    simp only [typeProgram, absProgram, Except.ok.injEq] at ht; subst ht
    rfl
  | cons i is ih =>
    simp only [typeProgram, absProgram] at ht
    cases hi : absInstr opDeg i e with
    | error er => simp [hi] at ht
    | ok e1 =>
      simp only [hi] at ht
      obtain ⟨s1, a1, a2, a3⟩ := execInstr_sound hs hX c hc m i e e1 s h hi
      simp only [execE, instrDefined_scale sqrt c hc i e s h, a1, a3]
      split
      · exact ih e1 s1 a2 ht
      · rfl

end exec
end DirectVerif.Pipeline
