import DirectVerif.Lemmas.C13Misc
import DirectVerif.Lemmas.C13Machine
/-!
# C13 — samplers partition the data across ranks and never mix volumes in a batch

All statements are about the executable model `Model/Sampler.lean`, which the driver runs against the real
samplers on every check.  Quantification is over **all** layouts, world sizes, ranks, batch sizes, limits and
operation histories.
-/
namespace DirectVerif.C13
open DirectVerif DirectVerif.Sampler

/-! ## `chunks` -/

theorem chunks_flatten {α} (xs : List α) (k : Nat) (hk : 0 < k) : (chunks xs k).flatten = xs :=
  chunks_flatten' xs k hk

theorem chunks_length {α} (xs : List α) (k : Nat) : (chunks xs k).length = k :=
  chunks_length' xs k

theorem chunks_sizes_differ_le_one {α} (xs : List α) (k i j : Nat) (hi : i < k) (hj : j < k) :
    ((chunks xs k).getD i []).length ≤ ((chunks xs k).getD j []).length + 1 ∧
      (i ≤ j → ((chunks xs k).getD j []).length ≤ ((chunks xs k).getD i []).length) := by
  rw [chunks_getD_length xs k i hi, chunks_getD_length xs k j hj]
  exact ⟨Nat.le_trans (chunkLen_bounds _ _ i).2 (Nat.succ_le_succ (chunkLen_bounds _ _ j).1),
    fun h => chunkLen_antitone _ _ h⟩

theorem chunks_contiguous_in_order {α} (xs : List α) (k : Nat) (hk : 0 < k) :
    (∀ r, r < k → (chunks xs k).getD r [] =
      slice xs (chunkStart xs.length k r) (chunkStart xs.length k (r + 1))) ∧
    chunkStart xs.length k 0 = 0 ∧ chunkStart xs.length k k = xs.length ∧
    (∀ i j, i ≤ j → chunkStart xs.length k i ≤ chunkStart xs.length k j) :=
  ⟨chunks_getD xs k, chunkStart_zero _ _, chunkStart_last _ _ hk, fun _ _ h => chunkStart_mono _ _ h⟩

example : chunks [10, 11, 12, 13, 14, 15, 16] 3 = [[10, 11, 12], [13, 14], [15, 16]] := by decide +kernel
example : chunks [10, 11] 4 = [[10], [11], [], []] := by decide +kernel

/-! ## `DistributedSequentialSampler` -/

/-- how many volumes `filenames[:limit]` keeps (Python slice: `None`/0 = all, negative = all but the last `-limit`) -/
def keptVolumes (len : Nat) (limit : Int) : Nat :=
  if limit = 0 then len else if limit < 0 then (limit + len).toNat else min limit.toNat len

theorem applyLimit_eq_take {α} (xs : List α) (limit : Int) :
    applyLimit xs limit = xs.take (keptVolumes xs.length limit) := by
  unfold applyLimit keptVolumes
  split
  · exact List.take_length.symm
  · -- `pySlice xs 0 limit`: the lower bound normalises to `0`, the upper one to the number kept
    simp only [pySlice, slice]
    rw [if_neg (Int.lt_irrefl 0), Int.min_eq_left (Int.natCast_nonneg _), Int.toNat_zero, List.drop_zero]
    congr 1
    split
    · -- negative limit: `max (limit + n) 0` and `limit + n` have the same `toNat`
      rcases Int.le_total 0 (limit + xs.length) with h | h
      · rw [Int.max_eq_left h]
      · rw [Int.max_eq_right h, Int.toNat_of_nonpos h]; rfl
    · rename_i hneg
      rcases Int.le_total limit xs.length with h | h
      · rw [Int.min_eq_left h, Nat.min_eq_left (Int.toNat_le.mpr h)]
      · rw [Int.min_eq_right h, Int.toNat_natCast, Nat.min_eq_right ((Int.le_toNat (Int.not_lt.mp hneg)).mpr h)]

/-- **for every value of `limit_number_of_volumes`** the ranks together cover exactly the indices of the kept
volumes, each once, in order -/
theorem ranks_cover_exactly_once_any_limit (layout : List Nat) (world : Nat) (hw : 0 < world) (limit : Int) :
    (List.range world).flatMap (fun r => seqSampler layout world r limit) =
      List.range (layout.take (keptVolumes layout.length limit)).sum := by
  unfold seqSampler
  rw [← List.flatMap_assoc, rank_volumes_cover layout world hw limit, applyLimit_eq_take, volumes,
    volsFrom_take, volsFrom_flatMap_indices, List.range_eq_range', volsFrom_length]

/-- **Concatenating the samplers of ranks `0 … world-1` gives every dataset index exactly once, in
order** (ranks may be empty when `world` exceeds the number of volumes). -/
theorem ranks_cover_exactly_once (layout : List Nat) (world : Nat) (hw : 0 < world) :
    (List.range world).flatMap (fun r => seqSampler layout world r 0) = List.range layout.sum := by
  rw [ranks_cover_exactly_once_any_limit layout world hw 0, keptVolumes, if_pos rfl, List.take_length]

theorem ranks_cover_exactly_once_limit (layout : List Nat) (world : Nat) (hw : 0 < world) (L : Nat)
    (hL : 0 < L) :
    (List.range world).flatMap (fun r => seqSampler layout world r L) =
      List.range (layout.take L).sum := by
  rw [ranks_cover_exactly_once_any_limit layout world hw L, keptVolumes, if_neg (by omega), if_neg (by omega),
    Int.toNat_natCast, ← List.take_eq_take_min]

example : keptVolumes 4 0 = 4 ∧ keptVolumes 4 2 = 2 ∧ keptVolumes 4 9 = 4 ∧ keptVolumes 4 (-1) = 3 ∧
    keptVolumes 4 (-7) = 0 := by decide +kernel
example : (List.range 2).map (fun r => seqSampler [2, 3, 1, 2] 2 r 3) = [[0, 1, 2, 3, 4], [5]] := by decide +kernel

theorem rank_indices_contiguous (layout : List Nat) (world r : Nat) (hr : r < world) :
    seqSampler layout world r 0 =
      List.range' ((layout.take (chunkStart layout.length world r)).sum)
        ((slice layout (chunkStart layout.length world r) (chunkStart layout.length world (r + 1))).sum) := by
  rw [seqSampler, rankVols, applyLimit, if_pos rfl, chunks_getD _ _ _ hr, volumes, volsFrom_length, volsFrom_slice,
    volsFrom_flatMap_indices, Nat.zero_add]

/-- **Each volume is assigned to exactly one rank**, at its position within that rank's block. -/
theorem volume_on_one_rank_in_order (layout : List Nat) (world : Nat) (hw : 0 < world) (i : Nat)
    (hi : i < layout.length) :
    ∃ r, r < world ∧
      chunkStart layout.length world r ≤ i ∧ i < chunkStart layout.length world (r + 1) ∧
      (rankVols layout world r 0)[i - chunkStart layout.length world r]? = (volumes layout)[i]? ∧
      ∀ r', r' < world → chunkStart layout.length world r' ≤ i →
        i < chunkStart layout.length world (r' + 1) → r' = r := by
  -- the owner is the last rank whose block starts at or before `i`
  obtain ⟨r, hr, h1, h2, hu⟩ := exists_unique_window (chunkStart layout.length world)
    (chunkStart_mono _ _) (chunkStart_zero _ _) i world (by rw [chunkStart_last _ _ hw]; exact hi)
  refine ⟨r, hr, h1, h2, ?_, fun r' _ => hu r'⟩
  rw [rankVols, applyLimit, if_pos rfl, chunks_getD _ _ _ hr, volumes, volsFrom_length,
    slice_getElem?, Nat.add_sub_of_le h1, if_pos h2]

example : (List.range 3).map (fun r => seqSampler [2, 3, 1, 2] 3 r 0) = [[0, 1, 2, 3, 4], [5], [6, 7]] := by
  decide
/-- ranks beyond the number of volumes are empty, not an error -/
example : (List.range 4).map (fun r => seqSampler [2, 3] 4 r 0) = [[0, 1], [2, 3, 4], [], []] := by decide +kernel

/-! ## `BatchVolumeSampler`, for every pass of every operation history -/

/-- the batch sampler that `build_batch_sampler(dataset, bs, "sequential", …)` constructs -/
def mkBVS (layout : List Nat) (world rank : Nat) (limit : Int) (bs : Nat) : BVS :=
  BVS.mk' (rankVols layout world rank limit) bs

/-- the batches of the one pass over the rank's volumes: each volume's indices cut into pieces of `bs` -/
def passSpec (layout : List Nat) (world rank : Nat) (limit : Int) (bs : Nat) : List (List Nat) :=
  (rankVols layout world rank limit).flatMap fun v => chunksOf bs v.indices

theorem bvs_run_eq (b : BVS) (ops : List Op) : b.run ops = ops.map fun op => (b.step op).2 := by
  induction ops with
  | nil => rfl
  | cons op ops ih =>
    have : (b.step op).1 = b := by cases op <;> rfl
    rw [BVS.run, this, ih, List.map_cons]

/-- **Every pass of every history** (`iter; len; iter; iter …`, any order, any length) returns the same batches. -/
theorem bvs_every_pass (layout : List Nat) (hl : ∀ n ∈ layout, 0 < n) (world rank : Nat) (limit : Int)
    (bs : Nat) (hbs : 0 < bs) (ops : List Op) (bb : List (List Nat))
    (h : Out.batches bb ∈ (mkBVS layout world rank limit bs).run ops) :
    bb = (rankVols layout world rank limit).flatMap fun v => chunksOf bs v.indices := by
  rw [bvs_run_eq, List.mem_map] at h
  obtain ⟨op, _, hop⟩ := h
  cases op with
  | len => cases hop
  | iter =>
    cases hop
    exact bvs_iterate_eq _ bs hbs (rankVols_pos layout world rank limit hl)

theorem bvs_mth_pass_eq (layout : List Nat) (hl : ∀ n ∈ layout, 0 < n) (world rank : Nat) (limit : Int)
    (bs : Nat) (hbs : 0 < bs) (m : Nat) :
    (mkBVS layout world rank limit bs).run (List.replicate m Op.iter) =
      List.replicate m (Out.batches
        ((rankVols layout world rank limit).flatMap fun v => chunksOf bs v.indices)) := by
  rw [bvs_run_eq, List.map_replicate, BVS.step, mkBVS,
    bvs_iterate_eq _ bs hbs (rankVols_pos layout world rank limit hl)]

/-- **every batch of every pass holds consecutive indices of a single volume** -/
theorem bvs_batches_single_volume_consecutive (layout : List Nat) (hl : ∀ n ∈ layout, 0 < n)
    (world rank : Nat) (limit : Int) (bs : Nat) (hbs : 0 < bs) (ops : List Op) (bb : List (List Nat))
    (h : Out.batches bb ∈ (mkBVS layout world rank limit bs).run ops) :
    ∀ batch ∈ bb, ∃ v ∈ rankVols layout world rank limit, ∃ c m,
      batch = List.range' c m ∧ v.start ≤ c ∧ c + m ≤ v.stop ∧ 0 < m := by
  rw [bvs_every_pass layout hl world rank limit bs hbs ops bb h]
  intro batch hb
  obtain ⟨v, hv, c, m, e, h1, h2, h3, _⟩ :=
    pass_batches_mem _ bs hbs (rankVols_pos layout world rank limit hl) batch hb
  exact ⟨v, hv, c, m, e, h1, h2, h3⟩

/-- **no batch is longer than the batch size** (and none is empty) -/
theorem bvs_batch_len_le (layout : List Nat) (hl : ∀ n ∈ layout, 0 < n)
    (world rank : Nat) (limit : Int) (bs : Nat) (hbs : 0 < bs) (ops : List Op) (bb : List (List Nat))
    (h : Out.batches bb ∈ (mkBVS layout world rank limit bs).run ops) :
    ∀ batch ∈ bb, 0 < batch.length ∧ batch.length ≤ bs := by
  rw [bvs_every_pass layout hl world rank limit bs hbs ops bb h]
  intro batch hb
  obtain ⟨_, _, c, m, e, _, _, h3, h4⟩ :=
    pass_batches_mem _ bs hbs (rankVols_pos layout world rank limit hl) batch hb
  rw [e, List.length_range']
  exact ⟨h3, h4⟩

/-- **the number of batches of every pass equals what `len()` reports** anywhere in the history -/
theorem bvs_num_batches_eq_len (layout : List Nat) (hl : ∀ n ∈ layout, 0 < n)
    (world rank : Nat) (limit : Int) (bs : Nat) (hbs : 0 < bs) (ops ops' : List Op)
    (bb : List (List Nat)) (n : Nat)
    (h : Out.batches bb ∈ (mkBVS layout world rank limit bs).run ops)
    (h' : Out.len n ∈ (mkBVS layout world rank limit bs).run ops') : bb.length = n := by
  rw [bvs_every_pass layout hl world rank limit bs hbs ops bb h]
  rw [bvs_run_eq, List.mem_map] at h'
  obtain ⟨op, _, hop⟩ := h'
  cases op with
  | iter => cases hop
  | len =>
    cases hop
    exact pass_length _ bs hbs

/-- **no index is dropped or duplicated**: the batches of every pass flatten to the rank's index list -/
theorem bvs_flatten_eq_indices (layout : List Nat) (hl : ∀ n ∈ layout, 0 < n)
    (world rank : Nat) (limit : Int) (bs : Nat) (hbs : 0 < bs) (ops : List Op) (bb : List (List Nat))
    (h : Out.batches bb ∈ (mkBVS layout world rank limit bs).run ops) :
    bb.flatten = seqSampler layout world rank limit := by
  rw [bvs_every_pass layout hl world rank limit bs hbs ops bb h]
  exact pass_flatten _ bs hbs

/-- the sampler built on a `DistributedSequentialSampler` never evaluates `None - 1` -/
theorem bvs_never_raises (layout : List Nat) (world rank : Nat) (limit : Int) (bs : Nat) :
    (mkBVS layout world rank limit bs).raises = false := by
  rw [mkBVS, BVS.mk', BVS.raises]
  cases rankVols layout world rank limit <;> rfl

-- hypotheses are satisfiable; three passes and a `len` in between, a rank without volumes
example : (mkBVS [3, 1, 5] 2 0 0 2).run [.iter, .len, .iter, .iter] =
    [.batches [[0, 1], [2], [3]], .len 3, .batches [[0, 1], [2], [3]], .batches [[0, 1], [2], [3]]] := by decide +kernel
example : (mkBVS [3, 1, 5] 2 1 0 2).run [.iter, .len] = [.batches [[4, 5], [6, 7], [8]], .len 3] := by decide +kernel
example : (mkBVS [3] 2 1 0 2).run [.iter, .len, .iter] = [.batches [], .len 0, .batches []] := by decide +kernel
example : ∀ n ∈ [3, 1, 5], 0 < n := by decide +kernel

/-! ## `BatchVolumeSampler` with several live iterators: abandoned passes and interleavings

`Model/C13Machine.lean`.  The object is everything `__iter__` reads from `self`; no operation writes it (bridge:
`bvs_iter_self_writes = []`, `bvs_init_iterator_attrs = []`, `seq_iter_is_indices`). -/

theorem bvs_machine_object_unchanged (b : BVS) (ops : List MOp) : ((Machine.init b).exec ops).obj = b :=
  Machine.exec_obj _ ops

/-- **Every pass started in any reachable state is the pass of a fresh object, `b.iterate`**, for an arbitrary
object (any inner sampler, any `volume_indices`, also inconsistent ones — the `bvsmraw` driver operation) and
every continuation `ops` that interleaves it with anything else. -/
theorem bvs_any_object_pass_after_any_history (b : BVS) (pre ops : List MOp)
    (hna : MOp.abandon ((Machine.init b).exec pre).gens.length ∉ ops) :
    nextOuts ((Machine.init b).exec pre).gens.length ops ((((Machine.init b).exec pre).step .iter).1.run ops) =
      (List.range (ops.count (.next ((Machine.init b).exec pre).gens.length))).map
        fun n => MOut.ofOpt (b.iterate[n]?) := by
  have hg : (((Machine.init b).exec pre).step .iter).1.gens[((Machine.init b).exec pre).gens.length]? =
      some (some GenSt.fresh) := List.getElem?_concat_length
  rw [machine_pass_general ops _ _ _ hg hna, Machine.step_obj, Machine.exec_obj]
  rfl

/-- **For the sampler over a rank's volumes that pass yields exactly the single-volume consecutive batches**
`passSpec`. -/
theorem bvs_pass_after_any_history (layout : List Nat) (hl : ∀ n ∈ layout, 0 < n) (world rank : Nat)
    (limit : Int) (bs : Nat) (hbs : 0 < bs) (pre ops : List MOp)
    (hna : MOp.abandon ((Machine.init (mkBVS layout world rank limit bs)).exec pre).gens.length ∉ ops) :
    nextOuts ((Machine.init (mkBVS layout world rank limit bs)).exec pre).gens.length ops
        ((((Machine.init (mkBVS layout world rank limit bs)).exec pre).step .iter).1.run ops) =
      (List.range (ops.count (.next ((Machine.init (mkBVS layout world rank limit bs)).exec pre).gens.length))).map
        fun n => MOut.ofOpt ((passSpec layout world rank limit bs)[n]?) := by
  rw [bvs_any_object_pass_after_any_history _ pre ops hna, mkBVS,
    bvs_iterate_eq _ bs hbs (rankVols_pos layout world rank limit hl), passSpec]

/-- with `bvs_pass_after_any_history`: the `n`-th `next` is a batch iff `n < len()` -/
theorem bvs_pass_length_eq_len (layout : List Nat) (world rank : Nat) (limit : Int) (bs : Nat) (hbs : 0 < bs) :
    (passSpec layout world rank limit bs).length = (mkBVS layout world rank limit bs).numBatches :=
  pass_length _ bs hbs

/-- **every batch that any iterator returns at any point of any interleaved history** holds consecutive
indices of a single volume of the rank, at most `bs` of them -/
theorem bvs_machine_batches_single_volume (layout : List Nat) (hl : ∀ n ∈ layout, 0 < n) (world rank : Nat)
    (limit : Int) (bs : Nat) (hbs : 0 < bs) (ops : List MOp) (batch : List Nat)
    (h : MOut.batch batch ∈ (Machine.init (mkBVS layout world rank limit bs)).run ops) :
    ∃ v ∈ rankVols layout world rank limit, ∃ c m,
      batch = List.range' c m ∧ v.start ≤ c ∧ c + m ≤ v.stop ∧ 0 < m ∧ m ≤ bs := by
  have hpos := rankVols_pos layout world rank limit hl
  have hb := machine_batches_mem _ ops _ (Machine.inv_init _) batch h
  rw [mkBVS, bvs_iterate_eq _ bs hbs hpos] at hb
  exact pass_batches_mem _ bs hbs hpos batch hb

theorem bvs_machine_len (layout : List Nat) (world rank : Nat) (limit : Int) (bs : Nat) (hbs : 0 < bs)
    (pre : List MOp) :
    (((Machine.init (mkBVS layout world rank limit bs)).exec pre).step .len).2 =
      .len (passSpec layout world rank limit bs).length := by
  rw [bvs_pass_length_eq_len _ _ _ _ _ hbs, Machine.step, Machine.exec_obj]
  rfl

-- a pass abandoned after the first volume, then a full pass; two interleaved passes (`zip(bs, bs)`)
example : (Machine.init (mkBVS [3, 2] 1 0 0 2)).run
      [.iter, .next 0, .next 0, .abandon 0, .len, .iter, .next 1, .next 1, .next 1, .next 1, .next 1] =
    [.handle 0, .batch [0, 1], .batch [2], .closed, .len 3, .handle 1, .batch [0, 1], .batch [2], .batch [3, 4],
     .stop, .stop] := by decide +kernel
example : (Machine.init (mkBVS [3, 2] 1 0 0 2)).run
      [.iter, .iter, .next 0, .next 1, .next 0, .next 1, .next 0, .next 1, .next 0, .next 1] =
    [.handle 0, .handle 1, .batch [0, 1], .batch [0, 1], .batch [2], .batch [2], .batch [3, 4], .batch [3, 4],
     .stop, .stop] := by decide +kernel
example : MOp.abandon ((Machine.init (mkBVS [3, 2] 1 0 0 2)).exec [.iter, .next 0, .abandon 0]).gens.length ∉
    [MOp.next 1, .len, .next 1] := by decide +kernel

/-- On the object of the pinned tree (iterator and `_next_value` stored on the object and
consumed) the **second** pass over layout `[2, 3]` with batch size 4 mixes both volumes in one batch. -/
theorem bvs_pinned_second_pass_violates :
    BVS.iteratePinnedTimes 2 (BVSPinned.mk' (volumes [2, 3]) 4) =
        [[[0, 1], [2, 3, 4]], [[0, 1, 2, 3], [4]]] ∧
      singleVolume (volumes [2, 3]) [0, 1, 2, 3] = false := by decide +kernel

/-- Outside the property's quantifier (volumes have ≥ 1 slice): an *empty* volume (all slices filtered
out) followed by others stalls `next_value` and batches then mix volumes.  This is why every theorem
above carries `∀ n ∈ layout, 0 < n`. -/
theorem bvs_empty_volume_mixes :
    (BVS.mk' (volumes [2, 0, 3, 3]) 4).iterate = [[0, 1], [2, 3, 4, 5], [6, 7]] ∧
      singleVolume (volumes [2, 0, 3, 3]) [2, 3, 4, 5] = false := by decide +kernel

/-! ## `ConcatDatasetBatchSampler` -/

theorem concat_offset_succ (sizes : List Nat) (m : Nat) (hm : m < sizes.length) :
    concatOffset sizes (m + 1) = concatOffset sizes m + sizes[m] := by
  rw [concatOffset_eq sizes (m + 1) hm, concatOffset_eq sizes m (Nat.le_of_lt hm), List.take_add_one,
    List.sum_append, List.getElem?_eq_getElem hm, Option.toList_some, List.sum_singleton]

/-- **Every training batch lies inside one member's index range** — the member drawn — and is full,
for every draw history and every member stream with values below the member's size. -/
theorem concat_batch_single_member (sizes : List Nat) (bs : Nat) (hbs : 0 < bs)
    (streams : List (List Nat)) (draws : List Nat)
    (hs : ∀ m (hm : m < sizes.length), ∀ x ∈ streams.getD m [], x < sizes[m])
    (i m : Nat) (hm : m < sizes.length) (batch : List Nat) (hd : draws[i]? = some m)
    (hb : (concatRun sizes bs streams draws)[i]? = some (some batch)) :
    batch.length = bs ∧
      ∀ e ∈ batch, concatOffset sizes m ≤ e ∧ e < concatOffset sizes (m + 1) := by
  obtain ⟨t, hlen, ht⟩ := concatRunFrom_spec sizes bs streams draws _ i m batch hd hb
  obtain ⟨h1, h2⟩ := concat_batch_props bs _ t hbs _ batch hlen ht
  refine ⟨h1, ?_⟩
  intro e he
  obtain ⟨x, hx, hxe⟩ := h2 e he
  have := hs m hm x (List.mem_of_mem_take hx)
  rw [concat_offset_succ sizes m hm]
  omega

example : concatRun [3, 2] 2 [[2, 0, 1, 1, 0, 2], [1, 0, 0, 1]] [1, 0, 0, 1] =
    [some [4, 3], some [2, 0], some [1, 1], some [3, 4]] := by decide +kernel

/-! ## `DistributedSampler` -/

theorem dist_stream_get (perms : List (List Nat)) (rank world : Nat) (hw : 0 < world) (k : Nat) :
    (distStream perms rank world)[k]? = (infinitePrefix perms)[rank + k * world]? :=
  isliceAux_getElem? world hw _ rank k

/-- **The rank streams partition the infinite stream.** -/
theorem strided_partition (world : Nat) (hw : 0 < world) (n : Nat) :
    ∃ r k, r < world ∧ r + k * world = n ∧
      ∀ r' k', r' < world → r' + k' * world = n → r' = r ∧ k' = k := by
  refine ⟨n % world, n / world, Nat.mod_lt _ hw, ?_, ?_⟩
  · rw [Nat.mul_comm]; exact Nat.mod_add_div n world
  · intro r' k' hr' h
    subst h
    rw [Nat.add_mul_mod_self_right, Nat.mod_eq_of_lt hr', Nat.add_mul_div_right _ _ hw,
      Nat.div_eq_of_lt hr', Nat.zero_add]
    exact ⟨rfl, rfl⟩

example : (List.range 3).map (fun r => distStream [[2, 0, 1, 3], [1, 3, 0, 2]] r 3) =
    [[2, 3, 0], [0, 1, 2], [1, 3]] := by decide +kernel

theorem infinite_get (size : Nat) (perms : List (List Nat)) (hp : ∀ p ∈ perms, p.length = size) (e j : Nat)
    (hj : j < size) :
    (infinitePrefix perms)[e * size + j]? = (perms[e]?).bind (·[j]?) := by
  induction perms generalizing e with
  | nil => rfl
  | cons p ps ih =>
    have hlen : p.length = size := hp p List.mem_cons_self
    rw [infinitePrefix, List.flatten_cons]
    cases e with
    | zero => rw [Nat.zero_mul, Nat.zero_add, List.getElem?_append_left (hlen ▸ hj)]; rfl
    | succ e =>
      have e1 : (e + 1) * size + j = p.length + (e * size + j) := by
        rw [hlen, Nat.succ_mul, Nat.add_right_comm, Nat.add_comm]
      rw [e1, List.getElem?_append_right (Nat.le_add_right _ _), Nat.add_sub_cancel_left]
      exact ih (fun q hq => hp q (List.mem_cons_of_mem _ hq)) e

/-- **Dealing the rank streams out round-robin reproduces the shared stream**: nothing is padded or duplicated when
the dataset size is not a multiple of the world size — a rank's stream runs on into the next epoch's permutation. -/
theorem dist_interleave_reconstructs (perms : List (List Nat)) (world : Nat) (hw : 0 < world) (n : Nat) :
    (distStream perms (n % world) world)[n / world]? = (infinitePrefix perms)[n]? := by
  rw [dist_stream_get perms _ world hw, Nat.mul_comm, Nat.mod_add_div]

/-- element `j` of epoch `e` goes to rank `(e·size + j) % world`, for every epoch, shuffled or not -/
theorem dist_epoch_element_owner (size : Nat) (perms : List (List Nat)) (hp : ∀ p ∈ perms, p.length = size)
    (world : Nat) (hw : 0 < world) (e j : Nat) (hj : j < size) :
    (distStream perms ((e * size + j) % world) world)[(e * size + j) / world]? = (perms[e]?).bind (·[j]?) := by
  rw [dist_interleave_reconstructs perms world hw, infinite_get size perms hp e j hj]

example : (distStream [[2, 0, 1], [1, 2, 0]] ((1 * 3 + 1) % 2) 2)[(1 * 3 + 1) / 2]? = some 2 := by decide +kernel

/-! ## `len()`: `math.ceil(n / bs)` in binary64 versus the integer ceiling

Write `F = m / 2^s` for the computed quotient and `q = q' + 1` for the integer ceiling.  Correct rounding is monotone
and exact on representable values, so `F ≤ q`, and `y₀ ≤ F` for every representable `y₀ ≤ n/bs`.  The witness is
`y₀ = q' + 2^{-t}` with `bs ≤ 2^t < 2·bs`: below `n/bs` whenever `q'·bs < n`, representable (numerator below `2^53`)
for `n < 2^52`; `q' < y₀ ≤ F ≤ q` forces `ceil F = q`. -/

theorem float_ceil_witness_le (n bs q' t : Nat) (hq : q' * bs < n) (ht : bs ≤ 2 ^ t) :
    (q' * 2 ^ t + 1) * bs ≤ n * 2 ^ t := by
  have h1 : (q' * bs + 1) * 2 ^ t ≤ n * 2 ^ t := Nat.mul_le_mul_right _ hq
  rw [Nat.add_mul, Nat.one_mul] at h1 ⊢
  rw [Nat.mul_right_comm]
  exact Nat.le_trans (Nat.add_le_add_left ht _) h1

theorem float_ceil_witness_representable (n bs q' t : Nat) (hn : n < 2 ^ 52) (hq : q' * bs < n)
    (ht : 2 ^ t < 2 * bs) : q' * 2 ^ t + 1 ≤ 2 ^ 53 := by
  have h1 : q' * 2 ^ t ≤ q' * (2 * bs) := Nat.mul_le_mul_left _ (Nat.le_of_lt ht)
  rw [Nat.mul_left_comm] at h1
  have h3 : (2 : Nat) ^ 53 = 2 * 2 ^ 52 := by decide
  omega

example : ceilDiv 7 2 = 4 ∧ ((4 - 1) * 2 ^ 1 + 1) * 2 ^ 1 ≤ 7 * 2 ^ 1 ∧ 7 ≤ 4 * 2 ^ 1 := by decide +kernel

theorem exists_pow_two_between (bs : Nat) (hbs : 0 < bs) : ∃ t, bs ≤ 2 ^ t ∧ 2 ^ t < 2 * bs := by
  have h1 : 2 ^ bs.log2 ≤ bs := Nat.log2_self_le (Nat.ne_of_gt hbs)
  have h2 : bs < 2 ^ (bs.log2 + 1) := Nat.lt_log2_self
  rw [Nat.pow_succ, Nat.mul_comm] at h2
  by_cases he : 2 ^ bs.log2 = bs
  · exact ⟨bs.log2, Nat.le_of_eq he.symm, by omega⟩
  · exact ⟨bs.log2 + 1, by rw [Nat.pow_succ, Nat.mul_comm]; exact Nat.le_of_lt h2,
      by rw [Nat.pow_succ, Nat.mul_comm]; omega⟩

/-- **`math.ceil(n / bs)` computed in binary64 is the integer ceiling for every `n < 2^52`.**  `hlow`: every dyadic
`a / 2^t` with `a ≤ 2^53` (representable) that does not exceed `n / bs` does not exceed `F`; `hup`: the mirror image.
Both follow from IEEE-754 correct rounding; it is not assumed that the quotient is computed exactly. -/
theorem float_ceil_eq (n bs : Nat) (hbs : 0 < bs) (hn : n < 2 ^ 52) (m s : Nat)
    (hlow : ∀ a t, a ≤ 2 ^ 53 → a * bs ≤ n * 2 ^ t → a * 2 ^ s ≤ m * 2 ^ t)
    (hup : ∀ a t, a ≤ 2 ^ 53 → n * 2 ^ t ≤ a * bs → m * 2 ^ t ≤ a * 2 ^ s) :
    ceilDiv m (2 ^ s) = ceilDiv n bs := by
  have hP : 0 < 2 ^ s := Nat.pow_pos (by decide)
  apply Nat.le_antisymm
  · -- upper side: `q` is representable (`q ≤ n < 2^53`) and `n / bs ≤ q`
    have hq : n ≤ ceilDiv n bs * bs := (ceilDiv_le_iff n bs _ hbs).mp (Nat.le_refl _)
    have hqn : ceilDiv n bs ≤ n := (ceilDiv_le_iff n bs n hbs).mpr (Nat.le_mul_of_pos_right n hbs)
    have h53 : (2 : Nat) ^ 53 = 2 * 2 ^ 52 := by decide
    have hU := hup (ceilDiv n bs) 0 (by omega) (by rw [Nat.pow_zero, Nat.mul_one]; exact hq)
    rw [Nat.pow_zero, Nat.mul_one] at hU
    exact (ceilDiv_le_iff m (2 ^ s) _ hP).mpr hU
  · cases hc : ceilDiv n bs with
    | zero => exact Nat.zero_le _
    | succ q' =>
      -- lower side: `q'·bs < n`, so the witness applies; `F ≤ q'` would put `F` below the witness
      have hq' : q' * bs < n := Nat.lt_of_not_le fun h => by
        have := (ceilDiv_le_iff n bs q' hbs).mpr h
        rw [hc] at this
        exact Nat.not_succ_le_self q' this
      obtain ⟨t, ht1, ht2⟩ := exists_pow_two_between bs hbs
      have hwit := hlow _ t (float_ceil_witness_representable n bs q' t hn hq' ht2)
        (float_ceil_witness_le n bs q' t hq' ht1)
      apply Nat.succ_le_of_lt
      apply Nat.lt_of_not_le
      intro hle
      have hm : m * 2 ^ t ≤ q' * 2 ^ s * 2 ^ t :=
        Nat.mul_le_mul_right _ ((ceilDiv_le_iff m (2 ^ s) q' hP).mp hle)
      rw [Nat.add_mul, Nat.one_mul, Nat.mul_right_comm] at hwit
      omega

-- the hypotheses are satisfiable: an exactly representable quotient (7 / 2 = 3.5 = 7 / 2^1)
example : ceilDiv 7 (2 ^ 1) = ceilDiv 7 2 :=
  float_ceil_eq 7 2 (by decide) (by decide) 7 1 (fun a t _ h => by simpa using h) (fun a t _ h => by simpa using h)

end DirectVerif.C13
