import DirectVerif.Model.C06Round
import Mathlib.Tactic.Ring
/-!
Lemmas about the exact binary64 glue of `Model/C06Round.lean`: Python's `round` is a nearest integer (ties to
even), `floorLog2Q` finds the binade, `fl53` is within half a unit in the 53rd place.
-/
namespace DirectVerif.C06Round

theorem roundHalfEven_cases (num den : Nat) :
    (roundHalfEven num den = num / den ∧ 2 * (num % den) ≤ den) ∨
    (roundHalfEven num den = num / den + 1 ∧ den ≤ 2 * (num % den)) := by
  unfold roundHalfEven
  simp only []
  split_ifs with h1 h2
  · exact Or.inl ⟨rfl, Nat.le_of_lt h1⟩
  · exact Or.inr ⟨rfl, Nat.le_of_lt h2⟩
  · exact Or.inl ⟨rfl, Nat.le_of_not_lt h2⟩
  · exact Or.inr ⟨rfl, Nat.le_of_not_lt h1⟩

/-- `|round(num/den) − num/den| ≤ 1/2`, cross-multiplied -/
theorem roundHalfEven_nearest (num den : Nat) (hd : 0 < den) :
    2 * (roundHalfEven num den * den) ≤ 2 * num + den ∧ 2 * num ≤ 2 * (roundHalfEven num den * den) + den := by
  have h := Nat.div_add_mod num den
  have hm := Nat.mod_lt num hd
  rcases roundHalfEven_cases num den with ⟨e, hr⟩ | ⟨e, hr⟩
  · rw [e, Nat.mul_comm (num / den) den]; omega
  · rw [e, Nat.add_mul, Nat.one_mul, Nat.mul_comm (num / den) den]; omega

theorem roundHalfEven_tie (q den : Nat) (hd : 0 < den) (heven : den % 2 = 0) :
    roundHalfEven (q * den + den / 2) den = if q % 2 = 0 then q else q + 1 := by
  have h1 : (q * den + den / 2) / den = q := by
    rw [Nat.add_comm, Nat.add_mul_div_right _ _ hd, Nat.div_eq_of_lt (by omega)]; omega
  have h2 : (q * den + den / 2) % den = den / 2 := by
    rw [Nat.add_comm, Nat.add_mul_mod_self_right, Nat.mod_eq_of_lt (by omega)]
  have h3 : 2 * (den / 2) = den := by omega
  unfold roundHalfEven
  simp only [h1, h2, h3, Nat.lt_irrefl, gt_iff_lt, if_false]

theorem roundHalfEven_int (k den : Nat) (hd : 0 < den) : roundHalfEven (k * den) den = k := by
  unfold roundHalfEven
  simp [Nat.mul_div_cancel _ hd, hd]

theorem roundHalfEven_le_succ_div (num den : Nat) : roundHalfEven num den ≤ num / den + 1 := by
  have := roundHalfEven_cases num den; omega

theorem div_le_roundHalfEven (num den : Nat) : num / den ≤ roundHalfEven num den := by
  have := roundHalfEven_cases num den; omega

/-! ### the binade

A power of two with an integer exponent `e` is the pair `2 ^ e.toNat`, `2 ^ (-e).toNat` (one of them is `1`):
`2^e ≤ num / den` reads `den * 2 ^ e.toNat ≤ num * 2 ^ (-e).toNat`. -/

def InBinade (num den : Nat) (e : Int) : Prop :=
  den * 2 ^ e.toNat ≤ num * 2 ^ (-e).toNat ∧ num * 2 ^ (-e).toNat < den * 2 ^ (e.toNat + 1)

theorem mul_pow_le_shift (x y : Nat) {a b c d : Nat} (h : a + d = b + c) :
    x * 2 ^ a ≤ y * 2 ^ b ↔ x * 2 ^ c ≤ y * 2 ^ d := by
  have e1 : x * 2 ^ a * 2 ^ d = x * 2 ^ c * 2 ^ b := by
    rw [Nat.mul_assoc, Nat.mul_assoc, ← Nat.pow_add, ← Nat.pow_add, h, Nat.add_comm]
  have e2 : y * 2 ^ b * 2 ^ d = y * 2 ^ d * 2 ^ b := Nat.mul_right_comm ..
  rw [← Nat.mul_le_mul_right_iff (Nat.two_pow_pos d), e1, e2, Nat.mul_le_mul_right_iff (Nat.two_pow_pos b)]

/-- `x / y < 2^(log2 x − log2 y + 1)`, the exponent split as `p − q` -/
theorem mul_pow_lt_of_log2 (x y p q : Nat) (hy : y ≠ 0) (h : Nat.log2 x + q = Nat.log2 y + p) :
    x * 2 ^ q < y * 2 ^ (p + 1) :=
  calc x * 2 ^ q < 2 ^ (Nat.log2 x + 1) * 2 ^ q := Nat.mul_lt_mul_of_pos_right Nat.lt_log2_self (Nat.two_pow_pos q)
    _ = 2 ^ Nat.log2 y * 2 ^ (p + 1) := by rw [← Nat.pow_add, ← Nat.pow_add]; congr 1; omega
    _ ≤ y * 2 ^ (p + 1) := Nat.mul_le_mul_right _ (Nat.log2_self_le hy)

theorem floorLog2Q_eq (num den : Nat) :
    floorLog2Q num den =
      let e0 : Int := (Nat.log2 num : Int) - (Nat.log2 den : Int)
      if den * 2 ^ e0.toNat ≤ num * 2 ^ (-e0).toNat then e0 else e0 - 1 := by
  unfold floorLog2Q
  simp only []
  generalize (Nat.log2 num : Int) - (Nat.log2 den : Int) = e0
  by_cases h : e0 ≥ 0
  · have h0 : (-e0).toNat = 0 := by omega
    simp only [h, if_true, h0, Nat.pow_zero, Nat.mul_one]
  · have h0 : e0.toNat = 0 := by omega
    simp only [h, if_false, h0, Nat.pow_zero, Nat.mul_one]

/-- the quotient of the bit lengths is off by less than one binade either way; the test decides which -/
theorem floorLog2Q_spec (num den : Nat) (hn : num ≠ 0) (hd : den ≠ 0) : InBinade num den (floorLog2Q num den) := by
  rw [floorLog2Q_eq]
  simp only []
  generalize he : (Nat.log2 num : Int) - (Nat.log2 den : Int) = e0
  have h0 := Int.toNat_sub_toNat_neg e0
  have h1 := Int.toNat_sub_toNat_neg (e0 - 1)
  have hup : num * 2 ^ (-e0).toNat < den * 2 ^ (e0.toNat + 1) := mul_pow_lt_of_log2 _ _ _ _ hd (by omega)
  have hlo : den * 2 ^ e0.toNat < num * 2 ^ ((-e0).toNat + 1) := mul_pow_lt_of_log2 _ _ _ _ hn (by omega)
  split_ifs with ht
  · exact ⟨ht, hup⟩
  · exact ⟨(mul_pow_le_shift den num (by omega)).mpr (Nat.le_of_lt hlo),
      Nat.lt_of_not_le fun hle => ht ((mul_pow_le_shift den num (by omega)).mp hle)⟩

/-- with `s = 52 − e` the mantissa is `round (num · 2^s / den)` -/
theorem fl53_eq (num den : Nat) (hn : num ≠ 0) (hd : den ≠ 0) :
    fl53 num den =
      let s : Int := (prec : Int) - 1 - floorLog2Q num den
      (roundHalfEven (num * 2 ^ s.toNat) (den * 2 ^ (-s).toNat) * 2 ^ (-s).toNat, 2 ^ s.toNat) := by
  unfold fl53
  have h0 : ¬ (num = 0 ∨ den = 0) := by omega
  simp only [h0, if_false]
  generalize (prec : Int) - 1 - floorLog2Q num den = s
  by_cases h : s ≥ 0
  · have h0 : (-s).toNat = 0 := by omega
    simp only [h, if_true, h0, Nat.pow_zero, Nat.mul_one]
  · have h0 : s.toNat = 0 := by omega
    simp only [h, if_false, h0, Nat.pow_zero, Nat.mul_one]

/-- a nearest integer `M / D` of a quotient `N / D ≥ 2^52` is within `2^-53` (relative) of it -/
theorem nearest_close (M N D : Nat) (hr : 2 * M ≤ 2 * N + D ∧ 2 * N ≤ 2 * M + D) (hnorm : D * 2 ^ 52 ≤ N) :
    (M - N) * 2 ^ 53 ≤ N ∧ (N - M) * 2 ^ 53 ≤ N := by
  -- `hr` says `2·|M − N| ≤ D`, so `|M − N| · 2^53 = 2·|M − N| · 2^52 ≤ D · 2^52 ≤ N`; all of it is linear in `M`, `N`, `D`
  -- (the truncated differences are `|M − N|` or `0`)
  omega

/-- **binary64 rounding error**: `|n'/d' − num/den| · 2^53 ≤ num/den` for `fl53 num den = (n', d')`, cross-multiplied -/
theorem fl53_close (num den : Nat) (hn : num ≠ 0) (hd : den ≠ 0) :
    let p := fl53 num den
    0 < p.2 ∧
    (p.1 * den - num * p.2) * 2 ^ 53 ≤ num * p.2 ∧ (num * p.2 - p.1 * den) * 2 ^ 53 ≤ num * p.2 := by
  have hb := (floorLog2Q_spec num den hn hd).1
  rw [fl53_eq num den hn hd]
  simp only [prec]
  generalize floorLog2Q num den = e at hb ⊢
  generalize hs : ((53 : Nat) : Int) - 1 - e = s
  -- the scaled quotient is at least `2^52`
  have hnorm : den * 2 ^ ((-s).toNat + 52) ≤ num * 2 ^ s.toNat := by
    have he := Int.toNat_sub_toNat_neg e
    have hs' := Int.toNat_sub_toNat_neg s
    exact (mul_pow_le_shift den num (by omega)).mp hb
  rw [Nat.pow_add, ← Nat.mul_assoc] at hnorm
  have hD : 0 < den * 2 ^ (-s).toNat := Nat.mul_pos (by omega) (Nat.two_pow_pos _)
  rw [Nat.mul_assoc _ _ den, Nat.mul_comm _ den]
  exact ⟨Nat.two_pow_pos _, nearest_close _ _ _ (roundHalfEven_nearest _ _ hD) hnorm⟩

/-- triangle inequality through `p1 / p2`, everything multiplied by `p2` and `p2` cancelled at the end -/
theorem close_of_nearest_of_close {L p1 p2 X D K : Nat} (hp2 : 0 < p2)
    (hr : 2 * (L * p2) ≤ 2 * p1 + p2 ∧ 2 * p1 ≤ 2 * (L * p2) + p2)
    (c1 : (p1 * D - X * p2) * K ≤ X * p2) (c2 : (X * p2 - p1 * D) * K ≤ X * p2) :
    2 * K * (L * D) ≤ 2 * K * X + K * D + 2 * X ∧ 2 * K * X ≤ 2 * K * (L * D) + K * D + 2 * X := by
  rw [Nat.sub_mul] at c1 c2
  constructor
  · apply Nat.le_of_mul_le_mul_right _ hp2
    calc 2 * K * (L * D) * p2 = K * D * (2 * (L * p2)) := by ring
      _ ≤ K * D * (2 * p1 + p2) := Nat.mul_le_mul_left _ hr.1
      _ = 2 * (p1 * D * K) + K * D * p2 := by ring
      _ ≤ 2 * (X * p2 * K + X * p2) + K * D * p2 := by omega
      _ = (2 * K * X + K * D + 2 * X) * p2 := by ring
  · apply Nat.le_of_mul_le_mul_right _ hp2
    calc 2 * K * X * p2 = 2 * (X * p2 * K) := by ring
      _ ≤ 2 * (p1 * D * K + X * p2) := by omega
      _ = K * D * (2 * p1) + 2 * (X * p2) := by ring
      _ ≤ K * D * (2 * (L * p2) + p2) + 2 * (X * p2) := Nat.add_le_add_right (Nat.mul_le_mul_left _ hr.2) _
      _ = (2 * K * (L * D) + K * D + 2 * X) * p2 := by ring

/-- **`int(round(x))` of a binary64 result with exact value `X / D`**: within `1/2 + (X/D)·2^-53` of `X / D`
(both sides times `2 · 2^53 · D`) -/
theorem roundFl_close (X D : Nat) (hX : X ≠ 0) (hD : D ≠ 0) :
    2 * 2 ^ 53 * (roundFl X D * D) ≤ 2 * 2 ^ 53 * X + 2 ^ 53 * D + 2 * X ∧
    2 * 2 ^ 53 * X ≤ 2 * 2 ^ 53 * (roundFl X D * D) + 2 ^ 53 * D + 2 * X := by
  obtain ⟨hp2, c1, c2⟩ := fl53_close X D hX hD
  exact close_of_nearest_of_close hp2 (roundHalfEven_nearest _ _ hp2) c1 c2

end DirectVerif.C06Round
