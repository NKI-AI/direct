import DirectVerif.Model.Train
/-!
# Closed form of one loop iteration and of runs (shared by C15 and C16) — no Mathlib

One iteration is either an accumulating one or a stepping one (`iter_eq`); everything about runs follows from that by
counting iterations modulo `k`.
-/
namespace DirectVerif.Train
variable {P O G B L Sc : Type} (ops : Ops P O G B L Sc) (lrAt : Nat → L) (cfg : Cfg) (batch : Nat → B)

/-- `.grad` after `backward` of batches `it0 … it0+n-1`, all at parameters `θ`, starting from `g0` -/
def windowSum (θ : P) (it0 n : Nat) (g0 : G) : G :=
  (List.range n).foldl (fun g j => ops.add g (ops.grad θ (batch (it0 + j)))) g0

/-- the state after an iteration that steps on accumulated gradient `a`; `epoch` is `last_epoch` *after* that iteration's
`lr_scheduler.step()`, so the optimiser ran at the rate of `epoch - 1` -/
def stepWith (s : St P O G Sc) (a : G) (epoch : Nat) : St P O G Sc :=
  { theta := (ops.opt (lrAt (epoch - 1)) s.theta s.ostate (received ops cfg a)).1,
    ostate := (ops.opt (lrAt (epoch - 1)) s.theta s.ostate (received ops cfg a)).2,
    grad := ops.zero, epoch := epoch, scaler := ops.supd s.scaler }

theorem windowSum_succ (θ : P) (it0 n : Nat) (g0 : G) :
    windowSum ops batch θ it0 (n + 1) g0 = ops.add (windowSum ops batch θ it0 n g0) (ops.grad θ (batch (it0 + n))) := by
  simp only [windowSum, List.range_succ, List.foldl_append, List.foldl_cons, List.foldl_nil]

/-- the left-hand side is the shape `simp` leaves of the `div_` and clip rows in `iter_eq` -/
theorem div_clip_eq (b : B) (u : St P O G Sc) :
    (if cfg.clipOn = true then
        applyEv ops lrAt cfg b (if cfg.k > 1 then applyEv ops lrAt cfg b u .divGrad else u) .clip
      else if cfg.k > 1 then applyEv ops lrAt cfg b u .divGrad else u)
      = { u with grad := received ops cfg u.grad } := by
  unfold received
  by_cases hk : cfg.k > 1
  · simp only [if_pos hk]
    cases cfg.clipOn <;> rfl
  · simp only [if_neg hk]
    cases cfg.clipOn <;> rfl

theorem iter_eq (s : St P O G Sc) (it : Nat) (b : B) :
    iter ops lrAt cfg s it b =
      if (it + 1) % cfg.k = 0 then stepWith ops lrAt cfg s (accum ops s b) (s.epoch + 1)
      else { s with grad := accum ops s b, epoch := s.epoch + 1 } := by
  unfold iter iterT loopTable
  simp only [List.foldl_cons, List.foldl_nil, List.all_cons, List.all_nil, Bool.and_true, evalGuard,
    Bool.and_eq_true, beq_iff_eq, decide_eq_true_eq]
  by_cases h : (it + 1) % cfg.k = 0
  · simp only [h, true_and, if_true, div_clip_eq]
    rfl
  · simp only [h, false_and, if_false]
    rfl

theorem iter_epoch (s : St P O G Sc) (it : Nat) (b : B) : (iter ops lrAt cfg s it b).epoch = s.epoch + 1 := by
  rw [iter_eq]; split <;> rfl

theorem iter_scaler (s : St P O G Sc) (it : Nat) (b : B) :
    (iter ops lrAt cfg s it b).scaler = if (it + 1) % cfg.k = 0 then ops.supd s.scaler else s.scaler := by
  rw [iter_eq]; split <;> rfl

theorem runRange_succ (s : St P O G Sc) (a n : Nat) :
    runRange ops lrAt cfg batch s a (n + 1) =
      iter ops lrAt cfg (runRange ops lrAt cfg batch s a n) (a + n) (batch (a + n)) := rfl

theorem runRange_zero (s : St P O G Sc) (a : Nat) : runRange ops lrAt cfg batch s a 0 = s := rfl

theorem runRange_add (s : St P O G Sc) (a n m : Nat) :
    runRange ops lrAt cfg batch s a (n + m) =
      runRange ops lrAt cfg batch (runRange ops lrAt cfg batch s a n) (a + n) m := by
  induction m with
  | zero => rfl
  | succ m ih => rw [← Nat.add_assoc, runRange_succ, ih, runRange_succ, Nat.add_assoc]

theorem runRange_epoch (s : St P O G Sc) (a n : Nat) :
    (runRange ops lrAt cfg batch s a n).epoch = s.epoch + n := by
  induction n with
  | zero => rfl
  | succ n ih => rw [runRange_succ, iter_epoch, ih, Nat.add_assoc]

theorem runRange_no_boundary (s : St P O G Sc) (it0 n : Nat)
    (h : ∀ j, j < n → (it0 + j + 1) % cfg.k ≠ 0) :
    runRange ops lrAt cfg batch s it0 n =
      { s with grad := windowSum ops batch s.theta it0 n s.grad, epoch := s.epoch + n } := by
  induction n with
  | zero => rfl
  | succ n ih =>
    rw [runRange_succ, ih (fun j hj => h j (Nat.lt_succ_of_lt hj)), iter_eq,
      if_neg (h n (Nat.lt_succ_self n)), windowSum_succ]
    rfl

/-- `h`: the last of the `n` iterations, `a + n - 1`, closes a window -/
theorem runRange_grad_zero (s : St P O G Sc) (a n : Nat) (h : (a + n) % cfg.k = 0) (hn : 0 < n) :
    (runRange ops lrAt cfg batch s a n).grad = ops.zero := by
  obtain ⟨m, rfl⟩ : ∃ m, n = m + 1 := ⟨n - 1, by omega⟩
  rw [runRange_succ, iter_eq, if_pos (by rw [Nat.add_assoc]; exact h)]
  rfl

theorem mod_window (k it0 r j : Nat) (hr : it0 % k = r) (hj : r + j + 1 < k) : (it0 + j + 1) % k ≠ 0 := by
  rw [Nat.add_assoc, Nat.add_mod, hr, Nat.mod_eq_of_lt (Nat.lt_of_le_of_lt (Nat.le_add_left (j + 1) r) hj),
    ← Nat.add_assoc, Nat.mod_eq_of_lt hj]
  exact Nat.succ_ne_zero _

theorem add_mul_mod_of_mod_eq_zero {k it0 : Nat} (h0 : it0 % k = 0) (m : Nat) : (it0 + k * m) % k = 0 := by
  rw [Nat.add_mul_mod_self_left, h0]

theorem runRange_first_step (s : St P O G Sc) (it0 r : Nat) (hr : it0 % cfg.k = r) (hrk : r < cfg.k) :
    runRange ops lrAt cfg batch s it0 (cfg.k - r) =
      stepWith ops lrAt cfg s (windowSum ops batch s.theta it0 (cfg.k - r) s.grad) (s.epoch + (cfg.k - r)) := by
  -- the window closes at `it0 + (k - r)`, a multiple of `k` …
  have hend : (it0 + (cfg.k - r)) % cfg.k = 0 := by
    have h := Nat.mod_add_div it0 cfg.k
    rw [hr] at h
    rw [← h, Nat.add_right_comm, Nat.add_mul_mod_self_left, Nat.add_sub_of_le (Nat.le_of_lt hrk), Nat.mod_self]
  -- … after `m` accumulating iterations and the one that steps
  obtain ⟨m, hm⟩ : ∃ m, cfg.k - r = m + 1 := ⟨cfg.k - r - 1, by omega⟩
  rw [hm] at hend ⊢
  rw [runRange_succ, runRange_no_boundary ops lrAt cfg batch s it0 m fun j hj => mod_window cfg.k it0 r j hr (by omega),
    iter_eq, if_pos (show (it0 + m + 1) % cfg.k = 0 from hend), windowSum_succ]
  rfl

/-- `hg` is only needed for `m = 0`; otherwise the last iteration closes a window -/
theorem runRange_grad_zero_of_aligned (s : St P O G Sc) (a m : Nat) (h0 : a % cfg.k = 0) (hg : s.grad = ops.zero) :
    (runRange ops lrAt cfg batch s a (cfg.k * m)).grad = ops.zero := by
  rcases Nat.eq_zero_or_pos (cfg.k * m) with hm | hm
  · rw [hm]; exact hg
  · exact runRange_grad_zero ops lrAt cfg batch s a (cfg.k * m) (add_mul_mod_of_mod_eq_zero h0 m) hm

theorem delivered_succ (s : St P O G Sc) (a n : Nat) :
    delivered ops lrAt cfg batch s a (n + 1) =
      if (a + n + 1) % cfg.k = 0 then
        accum ops (runRange ops lrAt cfg batch s a n) (batch (a + n)) :: delivered ops lrAt cfg batch s a n
      else delivered ops lrAt cfg batch s a n := by
  rw [delivered]
  simp only [beq_iff_eq]

theorem seen_succ (s : St P O G Sc) (a n : Nat) :
    seen ops lrAt cfg batch s a (n + 1) =
      ops.grad (runRange ops lrAt cfg batch s a n).theta (batch (a + n)) :: seen ops lrAt cfg batch s a n := rfl

theorem restore_snapshot_self {zero : G} {u : St P O G Sc} (h : u.grad = zero) : restore zero (snapshot u) = u := by
  cases u; cases h; rfl

theorem runRangeO_succ (oom : Nat → Bool) (s : St P O G Sc) (a n : Nat) :
    runRangeO ops lrAt cfg batch oom s a (n + 1) =
      if oom (a + n) then oomSkip ops (runRangeO ops lrAt cfg batch oom s a n)
      else iter ops lrAt cfg (runRangeO ops lrAt cfg batch oom s a n) (a + n) (batch (a + n)) := rfl

theorem runRangeO_add (oom : Nat → Bool) (s : St P O G Sc) (a n m : Nat) :
    runRangeO ops lrAt cfg batch oom s a (n + m) =
      runRangeO ops lrAt cfg batch oom (runRangeO ops lrAt cfg batch oom s a n) (a + n) m := by
  induction m with
  | zero => rfl
  | succ m ih => rw [← Nat.add_assoc, runRangeO_succ, ih, runRangeO_succ, Nat.add_assoc]

theorem runRangeO_no_oom {oom : Nat → Bool} {s : St P O G Sc} {a n : Nat} (h : ∀ j, j < n → oom (a + j) = false) :
    runRangeO ops lrAt cfg batch oom s a n = runRange ops lrAt cfg batch s a n := by
  induction n with
  | zero => rfl
  | succ n ih =>
    rw [runRangeO_succ, h n (Nat.lt_succ_self n), ih (fun j hj => h j (Nat.lt_succ_of_lt hj)), runRange_succ]
    rfl

/-- number of skipped iterations among `a … a+n-1` -/
def oomCount (oom : Nat → Bool) (a : Nat) : Nat → Nat
  | 0 => 0
  | n + 1 => oomCount oom a n + if oom (a + n) then 1 else 0

end DirectVerif.Train
