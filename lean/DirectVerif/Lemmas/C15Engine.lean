import DirectVerif.Model.C15Engine
import DirectVerif.Lemmas.C15History
/-!
# `training_loop` with validation events and training-mode flags refines the core machine — no Mathlib
From a state with every model in training mode the validations change nothing, so one iteration of `vloop` has the form of
`Run.loop_succ` (`vloop_succ`); refinement and directory invariant are inductions over it.
-/
namespace DirectVerif.C15E
open DirectVerif.Ckpt DirectVerif.Train
variable {P O G B L Sc : Type}

/-- a validation ends with `models_training_mode()` (the repaired tree), entering training mode is idempotent, an
optimiser step does not touch the flags -/
structure VCfg.Ok (v : VCfg P) (r : Run P O G B L Sc) : Prop where
  after : ∀ θ, v.afterVal θ = v.enter θ
  idem : ∀ θ, v.enter (v.enter θ) = v.enter θ
  opt : ∀ lr θ o g, v.enter θ = θ → v.enter (r.ops.opt lr θ o g).1 = (r.ops.opt lr θ o g).1
  init : v.enter r.init.theta = r.init.theta

/-- every model is in training mode -/
def Entered (v : VCfg P) (s : St P O G Sc) : Prop := v.enter s.theta = s.theta

theorem iterT_entered (v : VCfg P) (r : Run P O G B L Sc) (h : v.Ok r) (t : LoopTable) (it : Nat) (b : B)
    (s : St P O G Sc) (hs : Entered v s) : Entered v (iterT t r.ops r.lrAt r.cfg s it b) := by
  unfold iterT
  induction t generalizing s with
  | nil => exact hs
  | cons eg rest ih =>
    rw [List.foldl_cons]
    apply ih
    by_cases hg : eg.2.all (evalGuard r.cfg it) = true
    · rw [if_pos hg]
      -- only the optimiser step changes the parameters, and it leaves the flags alone
      cases eg.1 <;> first | exact hs | exact h.opt _ _ _ _ hs
    · rw [if_neg hg]; exact hs

theorem validate_entered (v : VCfg P) (r : Run P O G B L Sc) (h : v.Ok r) (s : St P O G Sc) (hs : Entered v s) :
    v.validate s = s := by
  unfold VCfg.validate
  by_cases hv : v.hasVal = true
  · rw [if_pos hv]
    have : v.afterVal s.theta = s.theta := by rw [h.after]; exact hs
    cases s; simp_all
  · rw [if_neg hv]

theorem afterIter_entered (v : VCfg P) (r : Run P O G B L Sc) (h : v.Ok r) (it : Nat) (s : St P O G Sc) (d : Dir)
    (ev : List Event) (hs : Entered v s) :
    (afterIter r v it s d ev).1 = s ∧ (afterIter r v it s d ev).2.1 = r.ckpt it s d := by
  unfold afterIter
  by_cases hv : valGuard it v.valSteps r.total = true
  · rw [if_pos hv]; exact ⟨validate_entered v r h s hs, rfl⟩
  · rw [if_neg hv]; exact ⟨rfl, rfl⟩

/-- state and directory reached by the engine loop (its events aside) -/
def sd (x : St P O G Sc × Dir × List Event) : St P O G Sc × Dir := (x.1, x.2.1)

/-- `Run.loop_succ` for the engine loop; a death outside the kill path leaves the directory as it is, or with the
periodic checkpoint when it comes inside `write_to_logs` -/
theorem vloop_succ (v : VCfg P) (r : Run P O G B L Sc) (h : v.Ok r) (stop : Stop) (die : Option Die) (start : Nat)
    (swv : Bool) (fuel it : Nat) (s : St P O G Sc) (d : Dir) (ev : List Event) (hs : Entered v s)
    {s' : St P O G Sc} (e : iterT r.table r.ops r.lrAt r.cfg s it (r.batch it) = s') :
    ∃ ev', sd (vloop r v stop die start swv (fuel + 1) it s d ev) =
      if it ≥ r.total then (s, d) else
      if stop = .killDuring it then (s, r.killDir it s d) else
      match die.filter (fun x => x.it == it) with
      | some x =>
        (iterT (r.table.take x.nEv) r.ops r.lrAt r.cfg s it (r.batch it),
          if x.phase ≤ 1 then d else r.ckpt it (iterT (r.table.take x.nEv) r.ops r.lrAt r.cfg s it (r.batch it)) d)
      | none =>
        if (r.after stop it s' d).2 = true then sd (vloop r v stop die start swv fuel (it + 1) s' (r.after stop it s' d).1 ev')
        else (s', (r.after stop it s' d).1) := by
  subst e
  refine ⟨(afterIter r v it (iterT r.table r.ops r.lrAt r.cfg s it (r.batch it)) d
    (if (swv && it == start) = true then (v.validate s, ev ++ [Event.validate it]) else (s, ev)).2).2.2, ?_⟩
  rw [vloop]
  by_cases hge : it ≥ r.total
  · rw [if_pos hge, if_pos hge]; rfl
  rw [if_neg hge, if_neg hge]
  -- the optional validation before the first iteration does not change a state in training mode
  have hsv : (if (swv && it == start) = true then (v.validate s, ev ++ [Event.validate it]) else (s, ev)).1 = s := by
    split
    · exact validate_entered v r h s hs
    · rfl
  simp only [hsv]
  generalize (if (swv && it == start) = true then (v.validate s, ev ++ [Event.validate it]) else (s, ev)).2 = ev₁
  by_cases hk : stop = .killDuring it
  · rw [if_pos hk, if_pos hk]; rfl
  rw [if_neg hk, if_neg hk]
  cases die.filter (fun x => x.it == it) with
  | some x =>
    simp only
    by_cases hp : x.phase ≤ 1
    · rw [if_pos hp, if_pos hp]; rfl
    · rw [if_neg hp, if_neg hp]; rfl
  | none =>
    have hs' := iterT_entered v r h r.table it (r.batch it) s hs
    generalize iterT r.table r.ops r.lrAt r.cfg s it (r.batch it) = s' at hs' ⊢
    obtain ⟨a1, a2⟩ := afterIter_entered v r h it s' d ev₁ hs'
    -- what is left is the end of the iteration: `vloop` and `Run.after` ask the same question of `stop`
    cases stop with
    | crashInSave j n m =>
      by_cases hc : j = it ∧ ckptGuard it r.ckSteps r.total = true
      · -- the process dies inside this iteration's save: both sides are the crash state
        simp only [Run.after, hc]
        rfl
      · -- it does not: the bookkeeping is done (`a1`, `a2`) and the loop goes on
        simp only [Run.after, hc, if_false, if_true, a1, a2]
    | vanishAfter j =>
      by_cases hv : Stop.vanishAfter j = Stop.vanishAfter it
      · -- the process vanishes right after the bookkeeping of this iteration
        simp only [Run.after, hv, if_true, decide_true, Bool.not_true, Bool.false_eq_true, if_false, sd, a1, a2]
      · simp only [Run.after, hv, if_false, decide_false, Bool.not_false, if_true, a1, a2]
    | finish =>
      simp only [Run.after, reduceCtorEq, if_false, decide_false, Bool.not_false, if_true, a1, a2]
    | killDuring j =>
      simp only [Run.after, reduceCtorEq, if_false, decide_false, Bool.not_false, if_true, a1, a2]

theorem vloop_eq_loop (v : VCfg P) (r : Run P O G B L Sc) (h : v.Ok r) (stop : Stop) (start : Nat) (swv : Bool)
    (fuel it : Nat) (s : St P O G Sc) (d : Dir) (ev : List Event) (hs : Entered v s) :
    sd (vloop r v stop none start swv fuel it s d ev) = r.loop stop fuel it s d := by
  induction fuel generalizing it s d ev with
  | zero => rfl
  | succ fuel ih =>
    obtain ⟨ev', e⟩ := vloop_succ v r h stop none start swv fuel it s d ev hs rfl
    rw [e, Run.loop_succ (e := rfl)]
    simp only [Option.filter_none, ih _ _ _ _ (iterT_entered v r h r.table it (r.batch it) s hs)]

theorem U_entered (v : VCfg P) (r : Run P O G B L Sc) (h : v.Ok r) (hr : r.Ok) (n : Nat) : Entered v (r.U n) := by
  induction n with
  | zero => exact h.init
  | succ n ih =>
    rw [← r.U_succ hr n]
    exact iterT_entered v r h r.table n (r.batch n) _ ih

theorem struct_eta_theta (s : St P O G Sc) : { s with theta := s.theta } = s := by cases s; rfl

/-- `Engine.train(resume=True)` without an initialization checkpoint -/
theorem vstartT_resume (r : Run P O G B L Sc) (v : VCfg P) (swv : Bool) (file : Snap P O Sc) (d : Dir) :
    vstartT initTable r v ⟨true, false, swv⟩ file d =
      match loadLatest r.decode d with
      | .none => some (⟨0, false, false, false, swv⟩, { r.init with theta := v.enter r.init.theta })
      | .ok label c =>
        some (⟨(resumeStart label).toNat, true, false, false, swv⟩, { restore r.ops.zero c with theta := v.enter c.theta })
      | .error _ => none := by
  have noinit : ∀ start, initActs start false initTable false = [] := fun start => by
    simp [initActs, initTable, InitCond.eval]
  unfold vstartT trainStartT
  cases loadLatest r.decode d <;>
    simp only [if_true, noinit, List.contains_nil, Bool.or_false, Bool.false_eq_true, if_false] <;> rfl

theorem vprocess_eq_process (v : VCfg P) (r : Run P O G B L Sc) (h : v.Ok r) (hr : r.Ok) (swv : Bool)
    (file : Snap P O Sc) (stop : Stop) (d : Dir) (hd : r.Inv d) :
    (vprocess r v ⟨true, false, swv⟩ file stop d).map (fun x => (x.2.1, x.2.2.1)) = r.process stop d := by
  rw [vprocess, vprocessT, vstartT_resume, Run.process]
  rcases hd with e | ⟨t, _, e⟩
  · simp only [e, Option.map_some]
    rw [show ({ r.init with theta := v.enter r.init.theta } : St P O G Sc) = r.init by rw [h.init]]
    exact congrArg some (vloop_eq_loop v r h stop 0 swv r.total 0 r.init d [] h.init)
  · have hu := U_entered v r h hr (t + 1)
    -- the state is made opaque: comparing `restore` of its snapshot with it would unfold the run that produced it
    generalize r.U (t + 1) = u at e hu
    have hent : Entered v (restore r.ops.zero (snapshot u)) := hu
    simp only [e, Option.map_some]
    rw [show ({ restore r.ops.zero (snapshot u) with theta := v.enter (snapshot u).theta } : St P O G Sc)
      = restore r.ops.zero (snapshot u) from congrArg (fun θ => ({ restore r.ops.zero (snapshot u) with theta := θ }
        : St P O G Sc)) hent]
    exact congrArg some (vloop_eq_loop v r h stop _ swv r.total _ _ d [] hent)

theorem vhistory_eq_history (v : VCfg P) (r : Run P O G B L Sc) (h : v.Ok r) (hr : r.Ok) (file : Snap P O Sc)
    (stops : List (Stop × Bool)) (d : Dir) (hd : r.Inv d) (ha : r.AlignedHist (stops.map (·.1)) d) :
    vhistory r v file stops d = r.history (stops.map (·.1)) d := by
  induction stops generalizing d with
  | nil => rfl
  | cons x rest ih =>
    obtain ⟨st, swv⟩ := x
    obtain ⟨start, _, e⟩ := r.process_eq hr st d hd ha.1
    have ha2 := ha.2
    simp only [e] at ha2
    obtain ⟨y, hy, hdir⟩ := Option.map_eq_some_iff.mp ((vprocess_eq_process v r h hr swv file st d hd).trans e)
    have hdir : y.2.2.1 = (r.loop st r.total start (r.U start) d).2 := congrArg Prod.snd hdir
    simp only [List.map_cons, vhistory, Run.history, e, hy, hdir]
    exact ih _ (r.loop_inv hr st _ _ d hd) ha2

/-- a process that is said to die inside `write_to_logs` has executed the whole loop body -/
def Die.wf (x : Die) (r : Run P O G B L Sc) : Prop := 2 ≤ x.phase → r.table.length ≤ x.nEv

/-- also for a death at a statement boundary outside the kill path -/
theorem vloop_inv (v : VCfg P) (r : Run P O G B L Sc) (h : v.Ok r) (hr : r.Ok) (stop : Stop) (die : Option Die)
    (hdie : ∀ x, die = some x → x.wf r) (start : Nat) (swv : Bool) (fuel it : Nat) (d : Dir) (ev : List Event)
    (hd : r.Inv d) : r.Inv (vloop r v stop die start swv fuel it (r.U it) d ev).2.1 := by
  induction fuel generalizing it d ev with
  | zero => exact hd
  | succ fuel ih =>
    obtain ⟨ev', e⟩ := vloop_succ v r h stop die start swv fuel it (r.U it) d ev (U_entered v r h hr it) (r.U_succ hr it)
    show r.Inv (sd (vloop r v stop die start swv (fuel + 1) it (r.U it) d ev)).2
    rw [e]
    by_cases hge : it ≥ r.total
    · rw [if_pos hge]; exact hd
    rw [if_neg hge]
    by_cases hk : stop = .killDuring it
    · rw [if_pos hk]; exact r.inv_killDir hr d it (by omega) hd
    rw [if_neg hk]
    cases hf : die.filter (fun x => x.it == it) with
    | some x =>
      have hx : die = some x := by
        cases die with
        | none => cases hf
        | some y => rw [Option.filter] at hf; split at hf <;> cases hf; rfl
      simp only
      by_cases hp : x.phase ≤ 1
      · rw [if_pos hp]; exact hd
      · -- inside `write_to_logs`: the loop body is complete, the periodic checkpoint (if due) is the regular one
        rw [if_neg hp, List.take_of_length_le (hdie x hx (by omega)), r.U_succ hr it]
        exact r.inv_ckpt hr d it (by omega) hd
    | none =>
      simp only
      have ha := r.inv_after hr stop d it (by omega) hd
      split
      · exact ih _ _ _ ha
      · exact ha

theorem afterIter_events (r : Run P O G B L Sc) (v : VCfg P) (it : Nat) (s : St P O G Sc) (d : Dir) (ev : List Event) :
    (afterIter r v it s d ev).2.2 = ev ++ bookkeeping r.ckSteps v.valSteps r.total it := by
  unfold afterIter bookkeeping
  by_cases hv : valGuard it v.valSteps r.total = true
  · simp only [hv, if_true, List.append_assoc]
  · simp only [hv, Bool.false_eq_true, if_false, List.append_nil, List.append_assoc]

theorem schedule_add (ck vs total it n m : Nat) :
    schedule ck vs total it (n + m) = schedule ck vs total it n ++ schedule ck vs total (it + n) m := by
  induction n generalizing it with
  | zero => simp [schedule]
  | succ n ih =>
    have : n + 1 + m = (n + m) + 1 := by omega
    rw [this, schedule, schedule, ih, List.append_assoc]
    congr 3
    omega

theorem vloop_finish_events (r : Run P O G B L Sc) (v : VCfg P) (start : Nat) (swv : Bool) (fuel it : Nat)
    (s : St P O G Sc) (d : Dir) (ev : List Event) (hle : start ≤ it) (hf : r.total - it ≤ fuel) :
    (vloop r v .finish none start swv fuel it s d ev).2.2 =
      ev ++ (if (swv && it == start) = true ∧ it < r.total then [Event.validate it] else [])
        ++ schedule r.ckSteps v.valSteps r.total it (r.total - it) := by
  have done : ∀ it ev, it ≥ r.total → ev = ev ++ (if (swv && it == start) = true ∧ it < r.total then [Event.validate it]
      else []) ++ schedule r.ckSteps v.valSteps r.total it (r.total - it) := fun it ev hge => by
    rw [Nat.sub_eq_zero_of_le hge, if_neg fun hh => Nat.not_lt.mpr hge hh.2]
    simp [schedule]
  induction fuel generalizing it s d ev with
  | zero => exact done it ev (by omega)
  | succ fuel ih =>
    rw [vloop]
    by_cases hge : it ≥ r.total
    · rw [if_pos hge]; exact done it ev hge
    · rw [if_neg hge, if_neg (by simp)]
      simp only [Option.filter_none]
      have hlt : it < r.total := by omega
      have hn : r.total - it = (r.total - (it + 1)) + 1 := by omega
      have hnext : ¬ ((swv && it + 1 == start) = true ∧ it + 1 < r.total) := by
        intro hh
        have := hh.1
        simp only [Bool.and_eq_true, beq_iff_eq] at this
        omega
      rw [if_neg (by simp)]
      rw [ih (it + 1) _ _ _ (by omega) (by omega), afterIter_events, if_neg hnext, hn, schedule]
      by_cases hc : (swv && it == start) = true
      · simp only [hc, if_true, true_and, hlt, List.append_nil, List.append_assoc]
      · simp only [hc, Bool.false_eq_true, false_and, if_false, List.append_nil, List.append_assoc]

end DirectVerif.C15E
