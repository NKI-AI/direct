import DirectVerif.Model.C16Events
import DirectVerif.Lemmas.C16
/-!
# C16 — what between-iteration events and histories of stops and resumes preserve (no Mathlib)

Under a well-formed table every call site but the prologue is the identity, so an iteration of a process is the loop
body plus bookkeeping.  Any property `R n s` of the trainer state in front of iteration `n` that the loop body and a
checkpoint/restore keep (`Legit`) is then kept by whole histories (`history_inv`); the schedule being in step and the
state being that of the uninterrupted run are the two instances.  Last: the step branch under a GradScaler.
-/
namespace DirectVerif.C16E
open DirectVerif DirectVerif.Train

variable {P O G B L Sc : Type} {ops : Ops P O G B L Sc} {lrAt : Nat → L} {cfg : Cfg} {e : EvCfg} {batch : Nat → B}
  {tbl : Table}

theorem allPrologueZero_cons {r : Row} {t : Table} (h : allPrologueZero (r :: t) = true) :
    r = { site := .prologue, touch := .zeroGrad } ∧ allPrologueZero t = true := by
  obtain ⟨st, tch, nv⟩ := r
  simp only [allPrologueZero, List.all_cons, Bool.and_eq_true, beq_iff_eq, Bool.not_eq_true'] at h
  obtain ⟨⟨⟨rfl, rfl⟩, rfl⟩, ht⟩ := h
  exact ⟨rfl, ht⟩

theorem site_of_all (h : allPrologueZero tbl = true) (hv : Bool) (st : Site) (s : St P O G Sc) :
    site tbl ops lrAt hv st s = if st = .prologue ∧ tbl ≠ [] then { s with grad := ops.zero } else s := by
  induction tbl generalizing s with
  | nil => rw [if_neg (fun h => h.2 rfl)]; rfl
  | cons r t ih =>
    obtain ⟨rfl, ht⟩ := allPrologueZero_cons h
    -- the head row is the prologue's `zero_grad()`: it fires at the prologue (whatever `hasVal`) and at no other site
    have hhead : site ({ site := .prologue, touch := .zeroGrad } :: t) ops lrAt hv st s =
        site t ops lrAt hv st (if st = .prologue then { s with grad := ops.zero } else s) := by
      cases st <;> rfl
    rw [hhead]
    by_cases hst : st = .prologue
    · -- clearing twice is clearing once
      rw [if_pos hst, if_pos (show st = .prologue ∧ _ :: t ≠ [] from ⟨hst, List.cons_ne_nil _ _⟩), ih ht]
      split <;> rfl
    · rw [if_neg hst, ih ht, if_neg (fun h => hst h.1), if_neg (fun h => hst h.1)]

section wf
variable (h : wfBetween tbl = true)
include h

theorem site_of_wf (hv : Bool) {st : Site} (hst : st ≠ .prologue) (s : St P O G Sc) :
    site tbl ops lrAt hv st s = s := by
  rw [site_of_all (Bool.and_eq_true_iff.mp h).1, if_neg (fun h => hst h.1)]

/-- the `!t.isEmpty` half of `wfBetween`: the prologue's `zero_grad()` must be there -/
theorem site_prologue_clears (hv : Bool) (s : St P O G Sc) :
    site tbl ops lrAt hv .prologue s = { s with grad := ops.zero } := by
  obtain ⟨hall, hne⟩ := Bool.and_eq_true_iff.mp h
  rw [site_of_all hall, if_pos ⟨rfl, fun h0 => by rw [h0] at hne; cases hne⟩]

theorem site_prologue_addStale (hv : Bool) (init : St P O G Sc) (p : Proc) {s : St P O G Sc} (hg : s.grad = ops.zero) :
    site tbl ops lrAt hv .prologue (addStale ops batch init p s) = s := by
  rw [site_prologue_clears h]
  unfold addStale
  cases s; cases hg
  cases p.stale <;> rfl

variable {p : Proc} {ps : PS P O G Sc} {it : Nat}

/-- the kill path: `save(iter_idx - 1)` of the state before the iteration, when `iter_idx ≥ 5` -/
theorem oneIter_kill (hd : ps.dead = false) (hk : p.kill = some it) :
    oneIter tbl ops lrAt cfg e batch p ps it =
      { ps with dead := true, latest := if killGuard it then some (it - 1, snapshot ps.s) else ps.latest } := by
  have hl : (killLabel (it : Int)).toNat = it - 1 := by simp only [killLabel]; omega
  rw [oneIter, if_neg (by rw [hd]; exact Bool.false_ne_true), if_pos hk, hl, site_of_wf h e.hasVal (by decide)]

theorem oneIter_alive (hd : ps.dead = false) (hk : p.kill ≠ some it) :
    oneIter tbl ops lrAt cfg e batch p ps it =
      { ps with
        s := iter ops lrAt cfg ps.s it (batch it),
        latest := if ckptGuard it e.ckSteps p.total then some (it, snapshot (iter ops lrAt cfg ps.s it (batch it)))
                  else ps.latest,
        recs := ps.recs ++ [⟨it, ps.s.epoch, (iter ops lrAt cfg ps.s it (batch it)).theta,
                             (iter ops lrAt cfg ps.s it (batch it)).epoch⟩] } := by
  have hs : ∀ {st : Site}, st ≠ .prologue → ∀ s : St P O G Sc, site tbl ops lrAt e.hasVal st s = s :=
    fun hst s => site_of_wf h e.hasVal hst s
  simp only [oneIter, hd, Bool.false_eq_true, if_false, hk, hs (st := .logFirst) (by decide),
    hs (st := .validationLoop) (by decide), hs (st := .checkpoint) (by decide), hs (st := .writeLogs) (by decide), ite_self]

omit h in
theorem runFrom_succ (a n : Nat) :
    runFrom tbl ops lrAt cfg e batch p ps a (n + 1) =
      oneIter tbl ops lrAt cfg e batch p (runFrom tbl ops lrAt cfg e batch p ps a n) (a + n) := by
  simp only [runFrom, List.range'_concat, List.foldl_append, List.foldl_cons, List.foldl_nil, Nat.one_mul]

omit h in
theorem runFrom_start (a n : Nat) : (runFrom tbl ops lrAt cfg e batch p ps a n).start = ps.start := by
  have step : ∀ (ps : PS P O G Sc) it, (oneIter tbl ops lrAt cfg e batch p ps it).start = ps.start := fun ps it => by
    unfold oneIter
    by_cases hd : ps.dead = true
    · rw [if_pos hd]
    · rw [if_neg hd]
      by_cases hk : p.kill = some it
      · rw [if_pos hk]
      · rw [if_neg hk]
  induction n with
  | zero => rfl
  | succ n ih => rw [runFrom_succ, step, ih]

theorem runFrom_eq_runRange {a n : Nat} (hd : ps.dead = false) (hk : ∀ j, p.kill = some j → j < a ∨ a + n ≤ j) :
    (runFrom tbl ops lrAt cfg e batch p ps a n).s = runRange ops lrAt cfg batch ps.s a n ∧
    (runFrom tbl ops lrAt cfg e batch p ps a n).dead = false := by
  induction n with
  | zero => exact ⟨rfl, hd⟩
  | succ n ih =>
    obtain ⟨h1, h2⟩ := ih (fun j hj => by have := hk j hj; omega)
    have hkn : p.kill ≠ some (a + n) := fun hj => by have := hk _ hj; omega
    rw [runFrom_succ, oneIter_alive h h2 hkn, runRange_succ, ← h1]
    exact ⟨rfl, h2⟩

variable {rs : Int → Int → Int} {init : St P O G Sc} {latest : Option (Nat × Snap P O Sc)}

theorem procStart_fresh (hg0 : init.grad = ops.zero) (hsel : (if p.resume then latest else none) = none) :
    procStart tbl rs ops lrAt cfg e batch init latest p = ⟨0, init, latest, [], false⟩ := by
  rw [procStart, hsel]
  simp only [site_prologue_addStale h e.hasVal init p hg0]

/-- `hrs` is what `Bridge/C16.lean : resume_start_eq` gives for the translated `start_iter` arithmetic -/
theorem procStart_resume (hrs : ∀ label : Nat, rs (label : Int) (cfg.k : Int) = (label : Int) + 1) {label : Nat}
    {c : Snap P O Sc} (hsel : (if p.resume then latest else none) = some (label, c)) :
    procStart tbl rs ops lrAt cfg e batch init latest p = ⟨label + 1, restore ops.zero c, latest, [], false⟩ := by
  rw [procStart, hsel]
  simp only [site_prologue_addStale h e.hasVal init p (s := restore ops.zero c) rfl, hrs]
  rfl

end wf

def RecOK (r : Rec P) : Prop := r.epochBefore = r.it ∧ r.epochAfter = r.it + 1
def LatestOK (l : Option (Nat × Snap P O Sc)) : Prop := ∀ lab c, l = some (lab, c) → c.epoch = lab + 1

/-- `R n s`: `s` is a legitimate trainer state in front of iteration `n`; `A`: the iterations at which a process may
start, where `R` has to survive checkpoint + restore (which forgets `.grad`) -/
structure Legit (ops : Ops P O G B L Sc) (lrAt : Nat → L) (cfg : Cfg) (batch : Nat → B) (init : St P O G Sc)
    (R : Nat → St P O G Sc → Prop) (A : Nat → Prop) : Prop where
  grad0 : init.grad = ops.zero
  init : R 0 init
  epoch : ∀ n s, R n s → s.epoch = n
  step : ∀ n s, R n s → R (n + 1) (iter ops lrAt cfg s n (batch n))
  resume : ∀ n s, A n → R n s → R n (restore ops.zero (snapshot s))

def Saved (R : Nat → St P O G Sc → Prop) (l : Option (Nat × Snap P O Sc)) : Prop :=
  ∀ lab c, l = some (lab, c) → ∃ u, R (lab + 1) u ∧ c = snapshot u

theorem Saved.update {R : Nat → St P O G Sc → Prop} {l : Option (Nat × Snap P O Sc)} (hl : Saved R l) (g : Bool)
    (lab : Nat) (u : St P O G Sc) (hu : g = true → R (lab + 1) u) :
    Saved R (if g then some (lab, snapshot u) else l) := by
  intro lab' c h
  cases g with
  | true =>
    rw [if_pos rfl] at h
    cases h
    exact ⟨u, hu rfl, rfl⟩
  | false => exact hl lab' c (by rw [if_neg Bool.false_ne_true] at h; exact h)

/-- invariant of a process about to run iteration `next` -/
structure Inv (R : Nat → St P O G Sc → Prop) (ps : PS P O G Sc) (next : Nat) : Prop where
  st : ps.dead = false → R next ps.s
  recs : ∀ r ∈ ps.recs, RecOK r
  latest : Saved R ps.latest

section history
variable {R : Nat → St P O G Sc → Prop} {A : Nat → Prop} {rs : Int → Int → Int} {init : St P O G Sc}
  (hR : Legit ops lrAt cfg batch init R A) (h : wfBetween tbl = true)
  (hrs : ∀ label : Nat, rs (label : Int) (cfg.k : Int) = (label : Int) + 1)
include hR h

theorem runFrom_inv (p : Proc) {ps : PS P O G Sc} {a : Nat} (n : Nat) (hi : Inv R ps a) :
    Inv R (runFrom tbl ops lrAt cfg e batch p ps a n) (a + n) := by
  induction n with
  | zero => exact hi
  | succ n ih =>
    rw [runFrom_succ]
    show Inv R _ (a + n + 1)
    generalize runFrom tbl ops lrAt cfg e batch p ps a n = ps' at ih ⊢
    generalize a + n = it at ih ⊢
    cases hd : ps'.dead with
    | true =>
      rw [oneIter, if_pos hd]
      exact ⟨fun h0 => (by rw [hd] at h0; cases h0), ih.recs, ih.latest⟩
    | false =>
      have hst := ih.st hd
      by_cases hk : p.kill = some it
      · rw [oneIter_kill h hd hk]
        -- the label `it - 1` is only written when `it ≥ 5`, so `it - 1 + 1 = it`
        refine ⟨fun h0 => (by cases h0), ih.recs, ih.latest.update _ _ _ fun hg => ?_⟩
        have h5 : (it : Int) ≥ 5 := of_decide_eq_true hg
        rw [Nat.sub_add_cancel (by omega)]
        exact hst
      · rw [oneIter_alive h hd hk]
        have hnext := hR.step it ps'.s hst
        refine ⟨fun _ => hnext, fun r hr => ?_, ih.latest.update _ _ _ fun _ => hnext⟩
        rcases List.mem_append.mp hr with hr | hr
        · exact ih.recs r hr
        · cases List.mem_singleton.mp hr
          exact ⟨hR.epoch _ _ hst, hR.epoch _ _ hnext⟩

include hrs

/-- the index stays in the form `start + (total − start)` that `runFrom_inv` yields: it is `total` only when
`start ≤ total` -/
theorem runProc_inv {latest : Option (Nat × Snap P O Sc)} (hl : Saved R latest) (p : Proc)
    (hal : A (runProc tbl rs ops lrAt cfg e batch init latest p).start) :
    Inv R (runProc tbl rs ops lrAt cfg e batch init latest p)
      ((runProc tbl rs ops lrAt cfg e batch init latest p).start +
        (p.total - (runProc tbl rs ops lrAt cfg e batch init latest p).start)) := by
  rw [show (runProc tbl rs ops lrAt cfg e batch init latest p).start =
    (procStart tbl rs ops lrAt cfg e batch init latest p).start from runFrom_start _ _] at hal ⊢
  refine runFrom_inv hR h p _ ?_
  cases hsel : (if p.resume then latest else none) with
  | none =>
    rw [procStart_fresh h hR.grad0 hsel]
    exact ⟨fun _ => hR.init, fun r hr => (by cases hr), hl⟩
  | some lc =>
    obtain ⟨label, c⟩ := lc
    rw [procStart_resume h hrs hsel] at hal ⊢
    have hlat : latest = some (label, c) := by
      cases hr : p.resume with
      | true => rw [hr, if_pos rfl] at hsel; exact hsel
      | false => rw [hr, if_neg Bool.false_ne_true] at hsel; cases hsel
    obtain ⟨u, hu, rfl⟩ := hl label c hlat
    exact ⟨fun _ => hR.resume _ u hal hu, fun r hr => (by cases hr), hl⟩

theorem history_inv (procs : List Proc) {latest : Option (Nat × Snap P O Sc)} (hl : Saved R latest)
    (hal : ∀ ps ∈ history tbl rs ops lrAt cfg e batch init latest procs, A ps.start) :
    ∀ ps ∈ history tbl rs ops lrAt cfg e batch init latest procs,
      ∃ p ∈ procs, Inv R ps (ps.start + (p.total - ps.start)) := by
  induction procs generalizing latest with
  | nil => intro ps hps; cases hps
  | cons p rest ih =>
    have hp := runProc_inv hR h hrs hl p (hal _ (List.mem_cons_self ..))
    intro ps hps
    rcases List.mem_cons.mp hps with rfl | hps
    · exact ⟨p, List.mem_cons_self .., hp⟩
    · obtain ⟨p', hp', hi⟩ := ih hp.latest (fun ps' hps' => hal ps' (List.mem_cons_of_mem _ hps')) ps hps
      exact ⟨p', List.mem_cons_of_mem _ hp', hi⟩

end history

variable {init : St P O G Sc}

/-- the schedule is in step with the iteration counter; survives every restore -/
theorem legit_epoch (h0 : init.epoch = 0) (hg0 : init.grad = ops.zero) :
    Legit ops lrAt cfg batch init (fun n s => s.epoch = n) (fun _ => True) where
  grad0 := hg0
  init := h0
  epoch _ _ hs := hs
  step n s hs := by rw [iter_epoch, hs]
  resume _ _ _ hs := hs

/-- being the state of the uninterrupted run; survives a restore only at a window boundary, where nothing is
pending in `.grad` -/
theorem legit_run (h0 : init.epoch = 0) (hg0 : init.grad = ops.zero) :
    Legit ops lrAt cfg batch init (fun n s => s = runRange ops lrAt cfg batch init 0 n) (fun n => n % cfg.k = 0) where
  grad0 := hg0
  init := rfl
  epoch n s hs := by rw [hs, runRange_epoch, h0, Nat.zero_add]
  step n s hs := by rw [hs, runRange_succ, Nat.zero_add]
  resume n s hn hs := by
    subst hs
    refine restore_snapshot_self ?_
    cases n with
    | zero => exact hg0
    | succ n => exact runRange_grad_zero ops lrAt cfg batch init 0 (n + 1) (by rw [Nat.zero_add]; exact hn) (Nat.succ_pos n)

/-- `unscale_` comes before clipping when clipping is on, otherwise inside `scaler.step`; no double `unscale_` -/
theorem ampRun_step {G S : Type} (o : AmpOps G S) (cfg : Cfg) (it : Nat) (hs : (it + 1) % cfg.k = 0) (g : G) (sc : S) :
    ampRun ampTable o cfg it { grad := g, scale := sc } =
      { grad := if cfg.clipOn then o.clip (o.unscale sc (if cfg.k > 1 then o.divk cfg.k g else g))
                else o.unscale sc (if cfg.k > 1 then o.divk cfg.k g else g),
        scale := o.grow sc,
        delivered := some (if cfg.clipOn then o.clip (o.unscale sc (if cfg.k > 1 then o.divk cfg.k g else g))
                           else o.unscale sc (if cfg.k > 1 then o.divk cfg.k g else g)) } := by
  unfold ampRun ampTable
  simp only [List.foldl_cons, List.foldl_nil, List.all_cons, List.all_nil, Bool.and_true, evalGuard,
    beq_iff_eq.mpr hs, Bool.true_and]
  by_cases hk : cfg.k > 1
  · simp only [decide_eq_true hk, if_pos hk, if_true]
    cases cfg.clipOn <;> rfl
  · simp only [decide_eq_false hk, if_neg hk, Bool.false_eq_true, if_false]
    cases cfg.clipOn <;> rfl

end DirectVerif.C16E
