import DirectVerif.Lemmas.Basic
/-!
# List facts behind C12

Integer intervals `irange`; prefix sums `(ns.take k).sum`, the offsets at which consecutive blocks of sizes `ns`
start; indexing into a `flatMap` through these offsets.  Nothing here mentions the dataset model.
-/
namespace DirectVerif.Dataset
open DirectVerif

theorem irange_length (a b : Int) : (irange a b).length = (b - a).toNat := by simp [irange]

theorem irange_getElem? (a b : Int) (k : Nat) :
    (irange a b)[k]? = if k < (b - a).toNat then some (a + k) else none := by
  unfold irange
  rw [List.getElem?_map]
  by_cases h : k < (b - a).toNat <;> simp [h]

theorem mem_irange {a b p : Int} : p ∈ irange a b ↔ a ≤ p ∧ p < b := by
  simp only [irange, List.mem_map, List.mem_range]
  constructor
  · rintro ⟨k, hk, rfl⟩; omega
  · intro h; exact ⟨(p - a).toNat, by omega⟩

theorem irange_append {a b c : Int} (hab : a ≤ b) (hbc : b ≤ c) : irange a b ++ irange b c = irange a c := by
  have e : (c - a).toNat = (b - a).toNat + (c - b).toNat := by
    rw [← Int.toNat_add (Int.sub_nonneg.2 hab) (Int.sub_nonneg.2 hbc)]
    congr 1
    omega
  simp only [irange, e, List.range_add, List.map_append, List.map_map]
  congr 1
  apply List.map_congr_left
  intro k _
  simp only [Function.comp_apply, Int.natCast_add, Int.toNat_of_nonneg (Int.sub_nonneg.2 hab)]
  omega

theorem sum_take_succ (ns : List Nat) (k : Nat) (hk : k < ns.length) :
    (ns.take (k + 1)).sum = (ns.take k).sum + ns[k] := by
  rw [List.take_add_one, List.sum_append, List.getElem?_eq_getElem hk]
  simp

theorem sum_take_le (ns : List Nat) (k : Nat) : (ns.take k).sum ≤ ns.sum := by
  have := congrArg List.sum (List.take_append_drop k ns)
  rw [List.sum_append] at this
  omega

theorem sum_take_mono (ns : List Nat) {a b : Nat} (h : a ≤ b) : (ns.take a).sum ≤ (ns.take b).sum := by
  have := sum_take_le (ns.take b) a
  rwa [List.take_take, Nat.min_eq_left h] at this

/-- block `a` ends where block `a + 1` starts, hence before every later block -/
theorem sum_take_block_le (ns : List Nat) {a b : Nat} (hab : a < b) (hb : b ≤ ns.length) :
    (ns.take a).sum + ns[a]'(Nat.lt_of_lt_of_le hab hb) ≤ (ns.take b).sum := by
  rw [← sum_take_succ ns a (Nat.lt_of_lt_of_le hab hb)]
  exact sum_take_mono ns hab

/-- `[q + 1] * r ++ [q] * (k - r)` sums to `k * q + r` (for `r ≤ k`) -/
theorem sum_range_quot_rem (q r k : Nat) :
    ((List.range k).map fun i => q + if i < r then 1 else 0).sum = k * q + min r k := by
  induction k with
  | zero => simp
  | succ k ih =>
    rw [List.range_succ, List.map_append, List.sum_append, ih, Nat.succ_mul]
    simp only [List.map_cons, List.map_nil, List.sum_cons, List.sum_nil]
    split <;> omega

theorem takeWhile_of_all {α : Type} (p : α → Bool) (l : List α) (h : ∀ v ∈ l, p v = true) : l.takeWhile p = l := by
  induction l with
  | nil => rfl
  | cons x xs ih =>
    rw [List.takeWhile_cons, h x (List.mem_cons_self ..), if_pos rfl, ih fun v hv => h v (List.mem_cons_of_mem _ hv)]

theorem getElem?_flatMap_block {α β : Type} (f : α → List β) (xs : List α) (k : Nat) (hk : k < xs.length) (r : Nat)
    (hr : r < (f xs[k]).length) :
    (xs.flatMap f)[((xs.take k).map fun x => (f x).length).sum + r]? = (f xs[k])[r]? := by
  induction xs generalizing k with
  | nil => simp at hk
  | cons x xs ih =>
    cases k with
    | zero =>
      rw [List.take_zero, List.map_nil, List.sum_nil, Nat.zero_add, List.flatMap_cons]
      exact List.getElem?_append_left hr
    | succ k =>
      rw [List.flatMap_cons, List.take_succ_cons, List.map_cons, List.sum_cons, Nat.add_assoc,
        List.getElem?_append_right (Nat.le_add_right _ _), Nat.add_sub_cancel_left]
      exact ih k (Nat.lt_of_succ_lt_succ hk) hr

theorem flatMap_range_length {α β : Type} (xs : List α) (nz : Nat) (f : α → Nat → β) :
    (xs.flatMap fun x => (List.range nz).map (f x)).length = xs.length * nz := by
  simp [List.length_flatMap, sum_map_const]

/-- blocks of equal length `nz`: position `k * nz + s` is entry `s` of block `k` -/
theorem flatMap_range_getElem? {α β : Type} (xs : List α) (nz : Nat) (f : α → Nat → β) (k s : Nat)
    (hk : k < xs.length) (hs : s < nz) :
    (xs.flatMap fun x => (List.range nz).map (f x))[k * nz + s]? = some (f xs[k] s) := by
  have e : ((xs.take k).map fun x => ((List.range nz).map (f x)).length).sum = k * nz := by
    simp only [List.length_map, List.length_range, sum_map_const, List.length_take, Nat.min_eq_left (Nat.le_of_lt hk)]
  rw [← e, getElem?_flatMap_block _ xs k hk s (by simpa using hs), List.getElem?_map, List.getElem?_range hs]
  rfl

end DirectVerif.Dataset
