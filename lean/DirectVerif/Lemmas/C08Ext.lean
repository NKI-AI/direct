import DirectVerif.Lemmas.C08Sound
import DirectVerif.Lemmas.TensorLift
import DirectVerif.Driver.C08
import Mathlib.Algebra.Order.Ring.Rat
import Mathlib.Algebra.Order.Field.Rat
/-!
# C08 — discharging the homogeneity assumption about the externals

`ExtHom X`, a hypothesis of the equivariance theorems, is a theorem for every external that acts on the flat data as
a matrix whose coefficients depend on the sizes and the metadata only (`linear_externals_hom` in Props/C08: DFT in real/imaginary form,
crop, zero pad, interpolating resize, flip, rotation, Gaussian weighting), and for the externals the driver executes
(`driver_ext_hom`: identities and C10's `Crop.centerCrop` lifted along the two spatial axes by `Tensor.alongAxis`).
-/
set_option linter.unusedSectionVars false
namespace DirectVerif.Pipeline
open DirectVerif DirectVerif.Tensor

section natural
variable {α : Type} [Inhabited α] (g : α → α) (hg : g default = default)
include hg

theorem fibre_map (D : List α) (n inner o i : Nat) : fibre (D.map g) n inner o i = (fibre D n inner o i).map g := by
  simp only [fibre, List.map_map]
  apply List.map_congr_left
  intro k _
  exact getD_map g _ hg D _

theorem fibres_map (f : List α → List α) (hf : ∀ xs, f (xs.map g) = (f xs).map g) (D : List α) (outer n inner : Nat) :
    fibres (D.map g) outer n inner f = (fibres D outer n inner f).map (List.map g) := by
  simp only [fibres, fibre_map g hg, hf, List.map_flatMap, List.map_map]
  rfl

theorem outLen_map (F : List (List α)) (n : Nat) (f : List α → List α) :
    outLen (F.map (List.map g)) n f = outLen F n f := by
  cases F <;> simp [outLen]

theorem gather_map (F : List (List α)) (outer m inner : Nat) :
    gather (F.map (List.map g)) outer m inner = (gather F outer m inner).map g := by
  simp only [gather, List.map_flatMap, List.map_map]
  apply TensorLift.flatMap_congr_mem
  intro o _
  apply TensorLift.flatMap_congr_mem
  intro k _
  apply List.map_congr_left
  intro i _
  simp only [Function.comp, getD_map (List.map g) [] rfl]
  exact getD_map g _ hg _ _

/-- `hg`: positions outside the data read as `default` -/
theorem alongAxis_map (f : List α → List α) (hf : ∀ xs, f (xs.map g) = (f xs).map g) (t : Tensor α) (axis : Nat) :
    (({ shape := t.shape, data := t.data.map g } : Tensor α).alongAxis axis f)
      = { shape := (t.alongAxis axis f).shape, data := (t.alongAxis axis f).data.map g } := by
  rw [TensorLift.alongAxis_eq_alongAxisL, TensorLift.alongAxis_eq_alongAxisL]
  simp only [alongAxisL, fibres_map g hg f hf, outLen_map g hg, gather_map g hg]

end natural

theorem centerCrop_map {α : Type} (g : α → α) (s : Nat) (xs : List α) :
    Crop.centerCrop s (xs.map g) = (Crop.centerCrop s xs).map g := by
  simp [Crop.centerCrop, slice, List.map_take, List.map_drop]

open Driver.C08 in
theorem cropHW_scale (q : Rat) (blocks h w stride ch cw : Nat) (data : List Rat) :
    cropHW blocks h w stride ch cw (data.map (q * ·)) = (cropHW blocks h w stride ch cw data).map (q * ·) := by
  have hg : (q * · : Rat → Rat) default = default := by show q * (0 : Rat) = 0; simp
  unfold cropHW
  simp only
  rw [alongAxis_map (q * ·) hg (Crop.centerCrop ch) (fun xs => centerCrop_map _ ch xs)
        ({ shape := [blocks, h, w, stride], data := data } : Tensor Rat) 1]
  rw [alongAxis_map (q * ·) hg (Crop.centerCrop cw) (fun xs => centerCrop_map _ cw xs) _ 2]

open Driver.C08 in
theorem mkExt_lin_cropMask (l : Line) (m : Meta) (v : Val Rat) :
    (mkExt l).lin .cropMask m v = if l.ch = 0 then v else { v with data := cropHW 1 l.h l.w 1 l.ch l.cw v.data } := rfl

open Driver.C08 in
theorem mkExt_lin_other (l : Line) (ln : Lin) (h : ln ≠ .cropMask) (m : Meta) (v : Val Rat) : (mkExt l).lin ln m v = v := by
  cases ln <;> first | rfl | exact absurd rfl h

open Driver.C08 in
theorem mkExt_crop (l : Line) (c : Bool) (sd : Option (List Nat)) (v : Val Rat) :
    (mkExt l).crop c sd v = if !c || l.ch = 0 then v else
      { v with data := cropHW (v.nc * v.ns) l.h l.w v.stride l.ch l.cw v.data } := rfl

open Driver.C08 in
theorem driver_ext_hom (l : Line) : ExtHom (mkExt l) := by
  refine ⟨?_, ?_⟩
  · intro ln m q v _
    by_cases hl : ln = .cropMask
    · subst hl
      rw [mkExt_lin_cropMask, mkExt_lin_cropMask]
      split
      · rfl
      · simp only [scaleV, Val.map, cropHW_scale]
    · rw [mkExt_lin_other l ln hl, mkExt_lin_other l ln hl]
  · intro c sd q v _
    rw [mkExt_crop, mkExt_crop]
    split
    · rfl
    · simp only [scaleV, Val.map, cropHW_scale, Val.stride]
      rfl

section linear
variable {K : Type} [Field K] [LinearOrder K] [IsStrictOrderedRing K]
variable (sqrt : K → K)
local notation "S" => fieldOps sqrt

/-- `out[i] = Σ_j A i j · x[j]` for `i < rows` -/
def matApply (S' : Ops K) (A : Nat → Nat → K) (rows : Nat) (x : List K) : List K :=
  (List.range rows).map fun i => sumList S' (mapIdx (fun j a => S'.mul (A i j) a) x)

theorem matApply_scale (A : Nat → Nat → K) (rows : Nat) (q : K) (x : List K) :
    matApply S A rows (x.map (q * ·)) = (matApply S A rows x).map (q * ·) := by
  simp only [matApply, List.map_map]
  apply List.map_congr_left
  intro i _
  simp only [Function.comp, mapIdx, mapIdxAux_map]
  have : mapIdxAux (fun j a => (fieldOps sqrt).mul (A i j) (q * a)) 0 x
      = (mapIdxAux (fun j a => (fieldOps sqrt).mul (A i j) a) 0 x).map (q * ·) := by
    rw [map_mapIdxAux]
    apply mapIdxAux_congr
    intro j a
    simp only [fo_mul]; ring
  rw [this, sumList_scale]

/-- output length, coil count and coefficients are functions of the operator, the metadata and the *sizes* of the
argument — never of its values -/
structure LinearExt (K : Type) where
  rows : Lin → Meta → Nat → Nat → Bool → Nat → Nat
  ncOut : Lin → Meta → Nat → Nat → Bool → Nat → Nat
  coef : Lin → Meta → Nat → Nat → Bool → Nat → Nat → Nat → K
  cropRows : Bool → Option (List Nat) → Nat → Nat → Bool → Nat → Nat
  cropCoef : Bool → Option (List Nat) → Nat → Nat → Bool → Nat → Nat → Nat → K

def LinearExt.lin (L : LinearExt K) (S' : Ops K) (l : Lin) (m : Meta) (v : Val K) : Val K :=
  let n := v.data.length
  { nc := L.ncOut l m v.nc v.ns v.cplx n, ns := v.ns, cplx := v.cplx,
    data := matApply S' (L.coef l m v.nc v.ns v.cplx n) (L.rows l m v.nc v.ns v.cplx n) v.data }

def LinearExt.crop (L : LinearExt K) (S' : Ops K) (c : Bool) (sd : Option (List Nat)) (v : Val K) : Val K :=
  let n := v.data.length
  { v with data := matApply S' (L.cropCoef c sd v.nc v.ns v.cplx n) (L.cropRows c sd v.nc v.ns v.cplx n) v.data }

def LinearExt.toExt (L : LinearExt K) (S' : Ops K) (X : Ext K) : Ext K :=
  { X with lin := L.lin S', crop := L.crop S' }

end linear
end DirectVerif.Pipeline
