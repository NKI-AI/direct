import DirectVerif.Gen.C17
import DirectVerif.Lemmas.C17
/-!
# Bridge C17 — the pad / crop arithmetic translated from `/repo` equals the hand-written shape model

Fixed scripts (`simp only [defs …]; omega`, `decide` for the literal tables).  Sizes are natural numbers in the model and
Python ints in the translation, hence the casts.
-/
namespace DirectVerif.Bridge.C17
open DirectVerif DirectVerif.Shapes DirectVerif.Gen.C17

theorem pyOr_mult (n : Nat) : Shapes.pyOr ((n : Int) - 1) 15 + 1 = (mult16 n : Int) := by
  cases n with
  | zero => decide
  | succ k =>
    have e : ((k + 1 : Nat) : Int) - 1 = (k : Int) := by omega
    simp only [e, pyOr, mult16, Int.natCast_nonneg, if_true, Int.toNat_natCast, Nat.add_sub_cancel, Nat.succ_ne_zero, if_false]
    rfl

theorem normunet_w_mult_eq (n : Nat) : normunet_w_mult n = (mult16 n : Int) := by
  first | exact pyOr_mult n | simp only [normunet_w_mult, Int.toNat_natCast]
theorem normunet_h_mult_eq (n : Nat) : normunet_h_mult n = (mult16 n : Int) := by
  first | exact pyOr_mult n | simp only [normunet_h_mult, Int.toNat_natCast]
theorem normunet3d_z_mult_eq (n : Nat) : normunet3d_z_mult n = (mult16 n : Int) := by
  first | exact pyOr_mult n | simp only [normunet3d_z_mult, Int.toNat_natCast]

/-- the pad amounts at `m = mult16 n`: floor and ceiling of half the difference — whatever spelling the source uses
(`math.floor(d / 2)` / `math.ceil(d / 2)`, `d // 2` / `d - d // 2`, with `m` a parameter or inlined as `((n − 1) | 15) + 1`):
the equality is arithmetic, proved by `omega` after normalising the bit trick with `pyOr_mult` -/
theorem normunet_w_pad_lo_eq (n : Nat) : normunet_w_pad_lo (mult16 n) n = (pad16Lo n : Int) := by
  have := C17L.le_mult16 n
  simp only [normunet_w_pad_lo, pad16Lo, pyOr_mult, fdiv_two]; omega
theorem normunet_w_pad_hi_eq (n : Nat) : normunet_w_pad_hi (mult16 n) n = (pad16Hi n : Int) := by
  have := C17L.le_mult16 n
  simp only [normunet_w_pad_hi, pad16Hi, pyOr_mult, fdiv_two]; omega
theorem normunet_h_pad_lo_eq (n : Nat) : normunet_h_pad_lo (mult16 n) n = (pad16Lo n : Int) := by
  have := C17L.le_mult16 n
  simp only [normunet_h_pad_lo, pad16Lo, pyOr_mult, fdiv_two]; omega
theorem normunet_h_pad_hi_eq (n : Nat) : normunet_h_pad_hi (mult16 n) n = (pad16Hi n : Int) := by
  have := C17L.le_mult16 n
  simp only [normunet_h_pad_hi, pad16Hi, pyOr_mult, fdiv_two]; omega

theorem pad16_amounts (n : Nat) : pad16Lo n = (mult16 n - n) / 2 ∧ pad16Hi n = (mult16 n - n + 1) / 2 := ⟨rfl, rfl⟩

theorem normunet_unpad_eq (lo hi m : Int) :
    normunet_unpad_h_lower lo hi m = lo ∧ normunet_unpad_h_upper lo hi m = m - hi ∧
      normunet_unpad_w_lower lo hi m = lo ∧ normunet_unpad_w_upper lo hi m = m - hi := ⟨rfl, rfl, rfl, rfl⟩

/-- … which on an axis of length `c` keeps `min (m − hi) c − min lo c` samples: the model's `unpad16` -/
theorem unpad16_is_slice (orig c : Nat) :
    unpad16 orig c = min (mult16 orig - pad16Hi orig) c - min (pad16Lo orig) c := rfl

theorem normunet_pad_order_eq : normunet_pad_order = ["w_pad", "h_pad"] ∧ normunet3d_pad_order = ["w_pad", "h_pad", "z_pad"] ∧
    normunet_pad_modes = ["constant"] := by decide +kernel

theorem pow2_model (n k : Nat) : (n : Int) + (pow2Lo k n : Int) + (pow2Hi k n : Int) = (padPow2 k n : Int) := by
  simp only [pow2Lo, pow2Hi, padPow2]
  generalize 2 ^ k = P
  split <;> omega

/-- the translator's spelling of Python `abs` -/
theorem pyAbs (d : Int) : (if d < 0 then -d else d) = (d.natAbs : Int) := by split <;> omega

/-- `lo` and `hi` are the model's (by cases on the `if`s of the translation, or by unfolding when the generated definition
is the model's own); their sum with `n` is then `pow2_model` -/
theorem pow2_eq (n k : Nat) : pow2_lo n k = (pow2Lo k n : Int) ∧ pow2_hi n k = (pow2Hi k n : Int) ∧
    (n : Int) + pow2_lo n k + pow2_hi n k = (padPow2 k n : Int) := by
  have e : ((2 : Int) ^ ((k : Int).toNat)) = ((2 ^ k : Nat) : Int) := by
    rw [Int.toNat_natCast, Int.natCast_pow]; rfl
  have lo : pow2_lo n k = (pow2Lo k n : Int) := by
    first
    | (simp only [pow2_lo, pow2Lo, e, fdiv_two, pyAbs, decide_eq_true_eq]
       generalize 2 ^ k = P
       (repeat' split) <;> omega)
    | simp only [pow2_lo, Int.toNat_natCast]
  have hi : pow2_hi n k = (pow2Hi k n : Int) := by
    first
    | (simp only [pow2_hi, pow2Hi, e, fdiv_two, pyAbs, decide_eq_true_eq]
       generalize 2 ^ k = P
       (repeat' split) <;> omega)
    | simp only [pow2_hi, Int.toNat_natCast]
  exact ⟨lo, hi, by rw [lo, hi]; exact pow2_model n k⟩

theorem pow2_tables : pow2_pad_modes = ["constant"] ∧ unet3d_unpad = [[2, 4, 2, 5], [3, 2, 3, 3], [4, 0, 4, 1]] := by decide +kernel

/-- `crop_to_shape` (three copies, textually equal after unfolding: `and_self` leaves one goal) -/
theorem crop_eq (n s : Nat) : mwcnn_crop_h n s = (cropTo s n : Int) ∧ mwcnn_crop_w n s = (cropTo s n : Int) ∧
    dub_crop_h n s = (cropTo s n : Int) ∧ dub_crop_w n s = (cropTo s n : Int) ∧
    didn_crop_h n s = (cropTo s n : Int) ∧ didn_crop_w n s = (cropTo s n : Int) := by
  have c : (cropTo s n : Int) = min (n : Int) s := by rw [C17L.cropTo_eq_min]; omega
  simp only [mwcnn_crop_h, mwcnn_crop_w, dub_crop_h, dub_crop_w, didn_crop_h, didn_crop_w, c, pyMin, decide_eq_true_eq, and_self]
  (repeat' apply And.intro) <;> (repeat' split) <;> omega

theorem iwt_eq (r n : Int) : iwt_out_height r n = r * n ∧ iwt_out_width r n = r * n := ⟨rfl, rfl⟩

theorem dwt_slices_eq : dwt_slices = [[2, 0, 2], [2, 1, 2], [3, 0, 2], [3, 0, 2], [3, 1, 2], [3, 1, 2]] := by decide +kernel

theorem even1 (n : Nat) : (if (Int.fmod (n : Int) 2 != 0) then (1 : Int) else 0) = ((padEvenOut n - n : Nat) : Int) := by
  simp only [padEvenOut, fmod_two, bne_iff_ne, ne_eq]
  split <;> omega

/-- reflect pad by one on odd axes: `F.pad` list `[0, p_w, 0, p_h]` — whether written `1 if n % 2 != 0 else 0` or `n % 2` -/
theorem pad_even_list_eq (h w : Nat) :
    mwcnn_pad_list h w = [0, ((padEvenOut w - w : Nat) : Int), 0, ((padEvenOut h - h : Nat) : Int)] ∧
      dub_pad_list h w = [0, ((padEvenOut w - w : Nat) : Int), 0, ((padEvenOut h - h : Nat) : Int)] := by
  have e2 : ∀ n : Nat, Int.fmod (n : Int) 2 = ((padEvenOut n - n : Nat) : Int) := by
    intro n; simp only [padEvenOut, fmod_two]; omega
  have e1 : ∀ n : Nat, (if (((padEvenOut n - n : Nat) : Int) != 0) then (1 : Int) else 0) = ((padEvenOut n - n : Nat) : Int) := by
    intro n; simp only [padEvenOut, bne_iff_ne, ne_eq]; split <;> omega
  constructor <;> simp only [mwcnn_pad_list, dub_pad_list, e2, e1]

theorem pad_modes_eq : mwcnn_pad_modes = ["reflect"] ∧ dub_pad_modes = ["reflect"] ∧ unet2d_pad_modes = ["reflect"] ∧
    unet3d_pad_modes = ["reflect"] := by decide +kernel

theorem up1 (o d : Nat) : (if ((o : Int) != (d : Int)) then (1 : Int) else 0) = ((upPad d o : Nat) : Int) := by
  simp only [upPad, bne_iff_ne, ne_eq, Int.natCast_inj]
  split <;> rfl

/-- U-Net up path: pad by one exactly where the up-sampled size differs from the skip connection -/
theorem unet_up_padding_eq (o1 d1 o2 d2 : Nat) :
    unet2d_up_padding o1 d1 o2 d2 = [0, (upPad d1 o1 : Int), 0, (upPad d2 o2 : Int)] ∧
      multidomain_up_padding o1 d1 o2 d2 = [0, (upPad d1 o1 : Int), 0, (upPad d2 o2 : Int)] := by
  simp only [unet2d_up_padding, multidomain_up_padding, up1, and_self]

theorem unet3d_up_padding_eq (o1 d1 o2 d2 o3 d3 : Nat) :
    unet3d_up_padding o1 d1 o2 d2 o3 d3 = [0, (upPad d1 o1 : Int), 0, (upPad d2 o2 : Int), 0, (upPad d3 o3 : Int)] := by
  simp only [unet3d_up_padding, up1]

theorem pool_eq : unet2d_pool = [(UnetP.std.pk : Int), UnetP.std.ps, 0] ∧ unet3d_pool = [(UnetP.std.pk : Int), UnetP.std.ps, 0] ∧
    multidomain_pool = [(UnetP.std.pk : Int), UnetP.std.ps, 0] := by decide +kernel

/-- Conv2dGRU block `idx`: the model's `gruBlock` uses exactly the translated kernel / dilation / padding expressions
(zero padding `2 if idx in (0, 1) else 1` after the repair) -/
theorem gru_block_eq (idx : Nat) :
    gruBlock false idx = [.conv (gru_kernel idx).toNat 1 (gru_padding 0 idx).toNat (gru_dilation idx).toNat] ∧
      gruBlock true idx = [.replPad (gru_repl_pad idx).toNat,
        .conv (gru_kernel idx).toNat 1 (gru_padding 1 idx).toNat (gru_dilation idx).toNat] := by
  simp only [gruBlock, gru_kernel, gru_padding, gru_dilation, gru_repl_pad]
  by_cases h0 : idx = 0
  · subst h0; decide
  · by_cases h1 : idx = 1
    · subst h1; decide
    · have a : ¬ ((idx : Int) = 0) := by omega
      have b : ¬ ((idx : Int) = 1) := by omega
      simp [h0, h1, a, b]


/-- no functional pad / pool / interpolate / fold call under `direct/nn` outside the functions the shape model covers (and
the table is not empty: the scan found the known sites) -/
theorem size_sites_ok : sizeSitesOk size_sites = true ∧ 8 ≤ size_sites.length := by decide +kernel

/-! ## forward programs: the AST of every `forward`, interpreted on instantiated modules, is the expansion of the
hand-written shape program the theorems are about (`C17.expanded_program_equiv` relates the two semantically) -/

theorem forward_unet2d_eq :
    fw_unet2d_L1 = expand (unet UnetP.std 1) ∧
    fw_unet2d_L2 = expand (unet UnetP.std 2) ∧
    fw_unet2d_L3 = expand (unet UnetP.std 3) ∧
    fw_unet2d_L4 = expand (unet UnetP.std 4) ∧
    fw_unet2d_L5 = expand (unet UnetP.std 5) := by decide +kernel

theorem forward_normunet2d_eq :
    fw_normunet2d_L1 = expand (normUnet UnetP.std 1) ∧
    fw_normunet2d_L2 = expand (normUnet UnetP.std 2) ∧
    fw_normunet2d_L3 = expand (normUnet UnetP.std 3) ∧
    fw_normunet2d_L4 = expand (normUnet UnetP.std 4) := by decide +kernel

theorem forward_unet3d_eq :
    fw_unet3d_L1 = expand (unet3d UnetP.std 1) ∧
    fw_unet3d_L2 = expand (unet3d UnetP.std 2) ∧
    fw_unet3d_L3 = expand (unet3d UnetP.std 3) := by decide +kernel

theorem forward_normunet3d_eq :
    fw_normunet3d_L1 = expand (normUnet3d UnetP.std 1) ∧
    fw_normunet3d_L2 = expand (normUnet3d UnetP.std 2) := by decide +kernel

theorem forward_mwcnn_eq :
    fw_mwcnn_S1 = expand (mwcnn MwP.std 1) ∧
    fw_mwcnn_S2 = expand (mwcnn MwP.std 2) ∧
    fw_mwcnn_S3 = expand (mwcnn MwP.std 3) ∧
    fw_mwcnn_S4 = expand (mwcnn MwP.std 4) ∧
    fw_mwcnn_S5 = expand (mwcnn MwP.std 5) ∧
    fw_mwcnn_S3_bn = expand (mwcnn MwP.std 3) := by decide +kernel

theorem forward_dub_eq :
    fw_dub_hooked = expand (dub DidnP.std true) ∧
    fw_dub_plain = expand (dub DidnP.std false) := by decide +kernel

theorem forward_didn_eq :
    fw_didn_1_1_noskip = expand (didn DidnP.std 1 1 false) ∧
    fw_didn_1_1_skip = expand (didn DidnP.std 1 1 true) ∧
    fw_didn_2_3_noskip = expand (didn DidnP.std 2 3 false) ∧
    fw_didn_2_3_skip = expand (didn DidnP.std 2 3 true) ∧
    fw_didn_3_2_noskip = expand (didn DidnP.std 3 2 false) ∧
    fw_didn_3_2_skip = expand (didn DidnP.std 3 2 true) := by decide +kernel

theorem forward_resnet_eq :
    fw_resnet_B1 = expand (resnet 3 1 1) ∧
    fw_resnet_B2 = expand (resnet 3 1 2) ∧
    fw_resnet_B3 = expand (resnet 3 1 3) ∧
    fw_resnet_B2_nobn = expand (resnet 3 1 2) := by decide +kernel

theorem forward_conv_eq :
    fw_conv_N1 = expand (convNet 3 1 false 1) ∧
    fw_conv_N1_bn = expand (convNet 3 1 true 1) ∧
    fw_conv_N2 = expand (convNet 3 1 false 2) ∧
    fw_conv_N2_bn = expand (convNet 3 1 true 2) ∧
    fw_conv_N3 = expand (convNet 3 1 false 3) ∧
    fw_conv_N3_bn = expand (convNet 3 1 true 3) ∧
    fw_conv_N4 = expand (convNet 3 1 false 4) ∧
    fw_conv_N4_bn = expand (convNet 3 1 true 4) := by decide +kernel

theorem forward_gru_eq :
    fw_gru_repl_noin_1 = expand (gru true false 1) ∧
    fw_gru_repl_noin_2 = expand (gru true false 2) ∧
    fw_gru_repl_noin_3 = expand (gru true false 3) ∧
    fw_gru_repl_in_1 = expand (gru true true 1) ∧
    fw_gru_repl_in_2 = expand (gru true true 2) ∧
    fw_gru_repl_in_3 = expand (gru true true 3) ∧
    fw_gru_zero_noin_1 = expand (gru false false 1) ∧
    fw_gru_zero_noin_2 = expand (gru false false 2) ∧
    fw_gru_zero_noin_3 = expand (gru false false 3) ∧
    fw_gru_zero_in_1 = expand (gru false true 1) ∧
    fw_gru_zero_in_2 = expand (gru false true 2) ∧
    fw_gru_zero_in_3 = expand (gru false true 3) := by decide +kernel

theorem forward_normgru_eq :
    fw_normgru_2 = expand (gru true false 2) := by decide +kernel


/-! ## channel programs: the channel arithmetic read from the AST of every `forward` (and from the `in_channels` /
`out_channels` of the instantiated layers, i.e. from the width arithmetic of every `__init__`) is the hand-written
parametric channel program the full-shape theorems are about.  Widths are pairwise different where the architecture
allows. -/

theorem channels_unet2d_eq :
    fwc_unet2d_2_2_2_L1 = unetC 2 2 2 1 ∧
    fwc_unet2d_3_5_2_L2 = unetC 3 5 2 2 ∧
    fwc_unet2d_2_2_3_L3 = unetC 2 2 3 3 ∧
    fwc_unet2d_4_2_2_L4 = unetC 4 2 2 4 := by decide +kernel

theorem channels_mdunet_eq :
    fwc_mdunet_2_2_4_L1 = mdUnetC 2 2 4 1 ∧
    fwc_mdunet_4_3_2_L2 = mdUnetC 4 3 2 2 ∧
    fwc_mdunet_2_5_6_L3 = mdUnetC 2 5 6 3 ∧
    fwc_mdunet_6_2_4_L0 = mdUnetC 6 2 4 0 := by decide +kernel

theorem channels_normunet2d_eq :
    fwc_normunet2d_2_2_2_L2 = normUnetC 2 2 2 2 ∧
    fwc_normunet2d_6_2_3_L1 = normUnetC 6 2 3 1 ∧
    fwc_normunet2d_4_4_2_L4 = normUnetC 4 4 2 4 := by decide +kernel

theorem channels_unet3d_eq :
    fwc_unet3d_2_2_2_L1 = unetC 2 2 2 1 ∧
    fwc_unet3d_3_2_2_L2 = unetC 3 2 2 2 ∧
    fwc_unet3d_6_2_3_L3 = unetC 6 2 3 3 := by decide +kernel

theorem channels_normunet3d_eq :
    fwc_normunet3d_2_2_2_L1 = normUnetC 2 2 2 1 ∧
    fwc_normunet3d_6_2_3_L2 = normUnetC 6 2 3 2 := by decide +kernel

theorem channels_mwcnn_eq :
    fwc_mwcnn_2_2_S1 = mwcnnC false 2 2 1 ∧
    fwc_mwcnn_2_3_S2 = mwcnnC false 2 3 2 ∧
    fwc_mwcnn_4_2_S3 = mwcnnC false 4 2 3 ∧
    fwc_mwcnn_2_2_S3_bn = mwcnnC true 2 2 3 ∧
    fwc_mwcnn_2_2_S4 = mwcnnC false 2 2 4 ∧
    fwc_mwcnn_6_3_S2_bn = mwcnnC true 6 3 2 ∧
    fwc_mwcnn_2_2_S5 = mwcnnC false 2 2 5 := by decide +kernel

theorem channels_dub_eq :
    fwc_dub_4_hooked = dubC 4 true ∧
    fwc_dub_3_plain = dubC 3 false := by decide +kernel

theorem channels_didn_eq :
    fwc_didn_2_2_4_1_1_noskip = didnC 2 2 4 1 1 false ∧
    fwc_didn_2_2_4_1_2_skip = didnC 2 2 4 1 2 true ∧
    fwc_didn_2_2_4_2_3_skip = didnC 2 2 4 2 3 true ∧
    fwc_didn_2_4_3_3_2_skip = didnC 2 4 3 3 2 false ∧
    fwc_didn_3_3_2_4_1_skip = didnC 3 3 2 4 1 true ∧
    fwc_didn_2_2_3_3_1_noskip = didnC 2 2 3 3 1 false := by decide +kernel

theorem channels_resnet_eq :
    fwc_resnet_2_2_4_B1 = resnetC 2 2 4 true 0 ∧
    fwc_resnet_2_3_4_B2 = resnetC 2 3 4 true 1 ∧
    fwc_resnet_3_3_5_B3_nobn = resnetC 3 3 5 false 2 ∧
    fwc_resnet_2_5_3_B4 = resnetC 2 5 3 true 3 := by decide +kernel

theorem channels_conv_eq :
    fwc_conv_2_2_4_N1 = convNetC 2 2 4 false 1 ∧
    fwc_conv_2_3_4_N2_bn = convNetC 2 3 4 true 2 ∧
    fwc_conv_3_2_5_N3 = convNetC 3 2 5 false 3 ∧
    fwc_conv_2_2_4_N4_bn = convNetC 2 2 4 true 4 ∧
    fwc_conv_2_3_4_N1_bn = convNetC 2 3 4 true 1 := by decide +kernel

/-- the learned initialisers: dilated chain, multi-scale concatenation of the last `multiscale_depth` feature maps, 1×1 output
block with `sum(channels[-multiscale_depth:])` input channels (2-D and 3-D vSHARP: the parametric `lagrangeC`; RIMInit /
RecurrentInit with their `depth` output blocks: the program runs, ends with `out_channels` and leaves no register) -/
theorem channels_initializers_ok :
    fwc_lagrange_2_2_ms1 = lagrangeC 2 2 [2, 3, 4, 5] 1 ∧
    fwc_lagrange_2_3_ms3 = lagrangeC 2 3 [2, 3, 4] 3 ∧
    fwc_lagrange_2_2_ms2 = lagrangeC 2 2 [3, 4, 5, 6] 2 ∧
    fwc_lagrange3d_2_2_ms2 = lagrangeC 2 2 [2, 3, 4] 2 ∧
    runC fwc_riminit_2_5_ms2 ⟨2, [], []⟩ = .ok ⟨5, [], []⟩ ∧
    runC fwc_recurrentinit_2_4_ms3 ⟨2, [], []⟩ = .ok ⟨4, [], []⟩ ∧
    runC (lagrangeC 2 3 [2, 3, 4] 3) ⟨2, [], []⟩ = .ok ⟨3, [], []⟩ ∧
    runC (lagrangeC 2 2 [3, 4, 5, 6] 2) ⟨2, [], []⟩ = .ok ⟨2, [], []⟩ := by decide +kernel

/-- Conv2dGRU (with and without dense connections, normalised variant): the channel program read from `forward` runs for
the instantiated widths, ends with `out_channels`, leaves no register behind, and shows `hidden_channels` at every
hooked conv block and `out_channels` at the last (`gruChanTrace`, which the driver uses for the full hook shapes) -/
theorem channels_gru_ok :
    runC fwc_gru_4_3_2_L1_d0 ⟨4, [], []⟩ = .ok ⟨2, [], gruChanTrace 3 2 1⟩ ∧
    runC fwc_gru_4_3_2_L2_d0 ⟨4, [], []⟩ = .ok ⟨2, [], gruChanTrace 3 2 2⟩ ∧
    runC fwc_gru_4_3_2_L2_d1 ⟨4, [], []⟩ = .ok ⟨2, [], gruChanTrace 3 2 2⟩ ∧
    runC fwc_gru_4_5_2_L3_d2 ⟨4, [], []⟩ = .ok ⟨2, [], gruChanTrace 5 2 3⟩ ∧
    runC fwc_gru_4_3_2_L3_d1 ⟨4, [], []⟩ = .ok ⟨2, [], gruChanTrace 3 2 3⟩ ∧
    runC fwc_gru_4_3_2_L2_d1_norm ⟨4, [], []⟩ = .ok ⟨2, [], gruChanTrace 3 2 2⟩ ∧
    runC fwc_gru_6_4_3_L4_d3 ⟨6, [], []⟩ = .ok ⟨3, [], gruChanTrace 4 3 4⟩ := by decide +kernel


/-! ## block schedules of the unrolled networks: read from each `forward` = hand-written `Shapes.Sched` -/

theorem schedule_Unet2d_eq :
    sched_Unet2d_plain_sense = Sched.blocks (schedUnet2d) 0 ∧
    sched_Unet2d_plain_sense_skip = Sched.blocks (schedUnet2d) 0 ∧
    sched_Unet2d_plain_zero_filled = Sched.blocks (schedUnet2d) 0 ∧
    sched_Unet2d_norm_sense = Sched.blocks (schedUnet2d) 0 ∧
    sched_Unet2d_norm_sense_skip = Sched.blocks (schedUnet2d) 0 ∧
    sched_Unet2d_norm_zero_filled = Sched.blocks (schedUnet2d) 0 ∧
    sched_Unet2d_norm_sense_dropout = Sched.blocks (schedUnet2d) 0 := by decide +kernel

theorem schedule_EndToEndVarNet_eq :
    sched_EndToEndVarNet_dropout = Sched.blocks (schedSingle 2 2) 2 ∧
    sched_EndToEndVarNet = Sched.blocks (schedSingle 2 2) 2 := by decide +kernel

theorem schedule_RIM_eq :
    sched_RIM_default = Sched.blocks (schedSingle 4 2) 2 ∧
    sched_RIM_shared = Sched.blocks (schedSingle 4 2) 2 ∧
    sched_RIM_instnorm = Sched.blocks (schedSingle 4 2) 2 ∧
    sched_RIM_dense = Sched.blocks (schedSingle 4 2) 2 ∧
    sched_RIM_sense = Sched.blocks (schedSingle 4 2) 2 ∧
    sched_RIM_learned_init = Sched.blocks (schedSingle 4 2) 2 ∧
    sched_RIM_normalized = Sched.blocks (schedSingle 4 2) 2 ∧
    sched_RIM_noskip = Sched.blocks (schedSingle 4 2) 2 ∧
    sched_RIM_zeropad = Sched.blocks (schedSingle 4 2) 2 ∧
    sched_RIM_scaled_loglikelihood = Sched.blocks (schedSingle 4 2) 2 := by decide +kernel

theorem schedule_LPDNet_eq :
    sched_LPDNet_MWCNN_DIDN = Sched.blocks (schedLpd 2 2) 2 ∧
    sched_LPDNet_MWCNN_CONV = Sched.blocks (schedLpd 2 2) 2 ∧
    sched_LPDNet_UNET_UNET = Sched.blocks (schedLpd 2 2) 2 ∧
    sched_LPDNet_NORMUNET_NORMUNET = Sched.blocks (schedLpd 2 2) 2 ∧
    sched_LPDNet_UNET_DIDN = Sched.blocks (schedLpd 2 2) 2 ∧
    sched_LPDNet_NORMUNET_CONV = Sched.blocks (schedLpd 2 2) 2 := by decide +kernel

theorem schedule_XPDNet_eq :
    sched_XPDNet_primal_only = Sched.blocks (schedXpd 1 2 false) 2 ∧
    sched_XPDNet_CONV = Sched.blocks (schedXpd 2 2 true) 2 ∧
    sched_XPDNet_DIDN = Sched.blocks (schedXpd 2 2 true) 2 ∧
    sched_XPDNet_primal_only_bn = Sched.blocks (schedXpd 1 2 false) 2 ∧
    sched_XPDNet_normalize = Sched.blocks (schedXpd 1 2 false) 2 := by decide +kernel

theorem schedule_KIKINet_eq :
    sched_KIKINet_MWCNN_DIDN = Sched.blocks (schedKiki) 2 ∧
    sched_KIKINet_UNET_CONV = Sched.blocks (schedKiki) 2 ∧
    sched_KIKINet_NORMUNET_UNET = Sched.blocks (schedKiki) 2 ∧
    sched_KIKINet_MWCNN_NORMUNET = Sched.blocks (schedKiki) 2 ∧
    sched_KIKINet_normalize = Sched.blocks (schedKiki) 2 := by decide +kernel

theorem schedule_JointICNet_eq :
    sched_JointICNet_unet = Sched.blocks (schedJointIC) 2 ∧
    sched_JointICNet_normunet = Sched.blocks (schedJointIC) 2 := by decide +kernel

theorem schedule_MultiDomainNet_eq :
    sched_MultiDomainNet_std_dropout = Sched.blocks (schedMultiDomain true) 0 ∧
    sched_MultiDomainNet_std = Sched.blocks (schedMultiDomain true) 0 ∧
    sched_MultiDomainNet_nostd = Sched.blocks (schedMultiDomain false) 0 := by decide +kernel

theorem schedule_RecurrentVarNet_eq :
    sched_RecurrentVarNet_default = Sched.blocks (schedSingle 2 2) 2 ∧
    sched_RecurrentVarNet_shared = Sched.blocks (schedSingle 2 2) 2 ∧
    sched_RecurrentVarNet_normalized = Sched.blocks (schedSingle 2 2) 2 ∧
    sched_RecurrentVarNet_learned_sense = Sched.blocks (schedSingle 2 2) 2 ∧
    sched_RecurrentVarNet_learned_zero_filled = Sched.blocks (schedSingle 2 2) 2 := by decide +kernel

theorem schedule_CIRIM_eq :
    sched_CIRIM_noshare = Sched.blocks (schedCirim 2 4) 4 ∧
    sched_CIRIM_share = Sched.blocks (schedCirim 2 4) 4 := by decide +kernel

theorem schedule_IterDualNet_eq :
    sched_IterDualNet_default = Sched.blocks (schedIterDual true) 2 ∧
    sched_IterDualNet_normunets = Sched.blocks (schedIterDual true) 2 ∧
    sched_IterDualNet_shared_nopercoil = Sched.blocks (schedIterDual false) 2 := by decide +kernel

theorem schedule_ConjGradNet_eq :
    sched_ConjGradNet_resnet_sense_FR = Sched.blocks (schedSingle 2 2) 2 ∧
    sched_ConjGradNet_unet_zero_filled_PRP = Sched.blocks (schedSingle 2 2) 2 ∧
    sched_ConjGradNet_normunet_zeros_DY = Sched.blocks (schedSingle 2 2) 2 ∧
    sched_ConjGradNet_didn_sense_BAN = Sched.blocks (schedSingle 2 2) 2 ∧
    sched_ConjGradNet_conv_sense_FR = Sched.blocks (schedSingle 2 2) 2 ∧
    sched_ConjGradNet_conv_sense_FR_tol1e_3 = Sched.blocks (schedSingle 2 2) 2 := by decide +kernel

theorem schedule_MRIVarSplitNet_eq :
    sched_MRIVarSplitNet_unet_None_sense = Sched.blocks (schedVarSplit false) 2 ∧
    sched_MRIVarSplitNet_resnet_conv_sense = Sched.blocks (schedVarSplit true) 2 ∧
    sched_MRIVarSplitNet_didn_unet_sense = Sched.blocks (schedVarSplit true) 2 ∧
    sched_MRIVarSplitNet_conv_didn_zero_filled = Sched.blocks (schedVarSplit true) 2 ∧
    sched_MRIVarSplitNet_unet_resnet_sense = Sched.blocks (schedVarSplit true) 2 ∧
    sched_MRIVarSplitNet_unet_normunet_sense = Sched.blocks (schedVarSplit true) 2 ∧
    sched_MRIVarSplitNet_normunet_None_zero_filled = Sched.blocks (schedVarSplit false) 2 := by decide +kernel

theorem schedule_VSharpNet_eq :
    sched_VSharpNet_unet_sense = Sched.blocks (schedVSharp) 2 ∧
    sched_VSharpNet_normunet_zero_filled = Sched.blocks (schedVSharp) 2 ∧
    sched_VSharpNet_resnet_sense = Sched.blocks (schedVSharp) 2 ∧
    sched_VSharpNet_didn_sense = Sched.blocks (schedVSharp) 2 ∧
    sched_VSharpNet_conv_zero_filled = Sched.blocks (schedVSharp) 2 := by decide +kernel

theorem schedule_VSharpNet3D_eq :
    sched_VSharpNet3D_unet = Sched.blocks (schedVSharp) 2 ∧
    sched_VSharpNet3D_normunet = Sched.blocks (schedVSharp) 2 := by decide +kernel


/-! ### further zoo entries (architecture options, call options; `harness/props/c17_zoo.py`) -/

theorem schedule_RIM_more_eq :
    sched_RIM_given_input_image = Sched.blocks (schedSingle 4 2) 2 ∧
    sched_RIM_init_input_kspace = Sched.blocks (schedSingle 4 2) 2 ∧
    sched_RIM_init_input_image = Sched.blocks (schedSingle 4 2) 2 ∧
    sched_RIM_two_calls_previous_state = Sched.blocks (schedSingle 4 2) 2 ∧
    sched_RIM_learned_init_ms1_depth2 = Sched.blocks (schedSingle 4 2) 2 ∧
    sched_RIM_shared_length3 = Sched.blocks (schedSingle 4 2) 3 := by decide +kernel

theorem schedule_RecurrentVarNet_more_eq :
    sched_RecurrentVarNet_learned_sense_ms3 = Sched.blocks (schedSingle 2 2) 3 := by decide +kernel

theorem schedule_ConjGradNet_more_eq :
    sched_ConjGradNet_resnet_sense_FR_shared = Sched.blocks (schedSingle 2 2) 3 := by decide +kernel

theorem schedule_MRIVarSplitNet_more_eq :
    sched_MRIVarSplitNet_conv_conv_sense_shared = Sched.blocks (schedVarSplit true) 3 := by decide +kernel

theorem schedule_VSharpNet_more_eq :
    sched_VSharpNet_unet_sense_shared = Sched.blocks (schedVSharp) 3 ∧
    sched_VSharpNet_conv_sense_aux1_ms1_relu = Sched.blocks (schedVSharp) 3 ∧
    sched_VSharpNet_resnet_zero_filled_aux2_leaky = Sched.blocks (schedVSharp) 3 := by decide +kernel

theorem schedule_IterDualNet_more_eq :
    sched_IterDualNet_image_normunet = Sched.blocks (schedIterDual true) 2 ∧
    sched_IterDualNet_kspace_normunet_shared_image = Sched.blocks (schedIterDual true) 2 := by decide +kernel

theorem schedule_LPDNet_more_eq :
    sched_LPDNet_MWCNN_UNET = Sched.blocks (schedLpd 2 3) 2 ∧
    sched_LPDNet_MWCNN_NORMUNET = Sched.blocks (schedLpd 2 3) 2 ∧
    sched_LPDNet_UNET_CONV = Sched.blocks (schedLpd 2 3) 2 ∧
    sched_LPDNet_UNET_NORMUNET = Sched.blocks (schedLpd 2 3) 2 ∧
    sched_LPDNet_NORMUNET_DIDN = Sched.blocks (schedLpd 2 3) 2 ∧
    sched_LPDNet_NORMUNET_UNET = Sched.blocks (schedLpd 2 3) 2 := by decide +kernel

theorem schedule_KIKINet_more_eq :
    sched_KIKINet_MWCNN_CONV = Sched.blocks (schedKiki) 3 ∧
    sched_KIKINet_MWCNN_UNET = Sched.blocks (schedKiki) 3 ∧
    sched_KIKINet_UNET_DIDN = Sched.blocks (schedKiki) 3 ∧
    sched_KIKINet_UNET_UNET = Sched.blocks (schedKiki) 3 ∧
    sched_KIKINet_UNET_NORMUNET = Sched.blocks (schedKiki) 3 ∧
    sched_KIKINet_NORMUNET_CONV = Sched.blocks (schedKiki) 3 ∧
    sched_KIKINet_NORMUNET_DIDN = Sched.blocks (schedKiki) 3 ∧
    sched_KIKINet_NORMUNET_NORMUNET = Sched.blocks (schedKiki) 3 := by decide +kernel

theorem schedule_VSharpNet3D_more_eq :
    sched_VSharpNet3D_unet_zero_filled_shared = Sched.blocks (schedVSharp) 2 ∧
    sched_VSharpNet3D_normunet_aux1_ms2 = Sched.blocks (schedVSharp) 2 := by decide +kernel

/-- every denoiser call of every unrolled network is made on the channels-first view of its tensor (behind the batch axis,
or behind batch and coil for per-coil calls) and its result is brought back by the inverse permutation (RIM keeps the
documented channels-first output) -/
theorem schedule_permute_pairs_ok : sched_permute_pairs.all permRowOk = true ∧ sched_permute_pairs ≠ [] := by decide +kernel

/-- the permuted views on which the denoisers are called are the channel-first layouts of the model -/
theorem schedule_permutes_eq :
    sched_permutes = [(0, toChannelsFirst4), (0, toChannelsFirst3d), (1, toChannelsFirst5)] := by decide +kernel

end DirectVerif.Bridge.C17
