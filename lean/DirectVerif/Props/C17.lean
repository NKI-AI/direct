import DirectVerif.Lemmas.C17Nets
import DirectVerif.Lemmas.C17ChanEmit
import DirectVerif.Lemmas.C17Min
import DirectVerif.Model.BatchSep
/-!
# C17 — every network in the zoo honours its shape contract for all input sizes

The theorems are about the shape programs of `Model/Shapes.lean` and the channel programs of `Model/ShapesChan.lean`, the
definitions the driver executes against the forward hooks of the real networks.  A shape is the list of spatial axes, so
every statement holds for 2-D and 3-D inputs alike; `stk`/`tr` are the arbitrary surrounding stack and trace (the programs
are sub-programs of one another).  "Finite values" is checked at run time only.
-/
namespace DirectVerif.C17
open DirectVerif.Shapes DirectVerif.C17L

/-! ## the bit trick of `NormUnetModel2d.pad` -/

theorem normunet_pad_formula (n : Nat) : mult16 n = 16 * ((n + 15) / 16) := mult16_eq n

/-- `NormUnetModel2d.pad`: the least multiple of 16 that is `≥ n`, including 0 and exact multiples -/
theorem normunet_pad_multiple_of_16 (n : Nat) :
    16 ∣ mult16 n ∧ n ≤ mult16 n ∧ ∀ m, 16 ∣ m → n ≤ m → mult16 n ≤ m := by
  rw [mult16_eq]
  refine ⟨⟨_, rfl⟩, by omega, ?_⟩
  rintro m ⟨k, rfl⟩ h
  omega

theorem normunet_pad_unpad (n : Nat) :
    pad16Lo n + pad16Hi n = mult16 n - n ∧ pad16Lo n ≤ pad16Hi n ∧ pad16Hi n ≤ pad16Lo n + 1 ∧
      unpad16 n (mult16 n) = n := by
  refine ⟨pad16_sum n, ?_, ?_, unpad16_mult16 n⟩
  · simp only [pad16Lo, pad16Hi]
    omega
  · simp only [pad16Lo, pad16Hi]
    omega

/-! ## U-Net (2-D and 3-D) -/

theorem unet_pad_by_one (n : Nat) : 2 * (n / 2) + upPad n (2 * (n / 2)) = n := upPad_half n

/-- **C17, U-Net**: every admissible size — odd, even, non-square — comes back unchanged -/
theorem unet_shape_id (L : Nat) (s : Shape) (stk tr : List Shape) (h : UAdm L s) :
    ∃ tr', run (unet UnetP.std L) ⟨s, stk, tr⟩ = .ok ⟨s, stk, tr'⟩ := unet_ok L stk h tr

/-- otherwise `InstanceNorm` raises `ValueError` on a single-element bottleneck, or `avg_pool` raises `RuntimeError` on an
axis of length 1 -/
theorem unet_min_size (L : Nat) (s : Shape) :
    UAdm L s ↔ (∀ n ∈ s, 2 ^ L ≤ n) ∧ 1 < numel (s.map (· / 2 ^ L)) := UAdm_iff L s

theorem unet_fails_below_min (L : Nat) (s : Shape) (stk tr : List Shape) (hs : ∀ n ∈ s, 1 ≤ n) (h : ¬ UAdm L s) :
    ∃ e, run (unet UnetP.std L) ⟨s, stk, tr⟩ = .error e := unet_fail L stk hs h tr

theorem unet2d_shape_id (L h w : Nat) (hh : 2 ^ L ≤ h) (hw : 2 ^ L ≤ w) (hb : 2 ≤ (h / 2 ^ L) * (w / 2 ^ L)) :
    ∃ tr', run (unet UnetP.std L) ⟨[h, w], [], []⟩ = .ok ⟨[h, w], [], tr'⟩ := by
  apply unet_shape_id
  rw [unet_min_size]
  refine ⟨by simp [hh, hw], ?_⟩
  simp only [List.map_cons, List.map_nil, numel, Nat.mul_one]; omega

/-- `NormUnetModel2d`: admissibility is asked of the padded size … -/
theorem normunet_shape_id (L : Nat) (s : Shape) (stk tr : List Shape) (h : UAdm L (s.map mult16)) :
    ∃ tr', run (normUnet UnetP.std L) ⟨s, stk, tr⟩ = .ok ⟨s, stk, tr'⟩ := by
  -- pad (remembering `s`), the U-Net on the padded shape, the hook, un-pad back to `s`
  have inner : SRun (unet UnetP.std L) (s.map mult16) (s :: stk) (s.map mult16) (s :: stk) := unet_ok L _ h
  have back : SRun [.emit, .unpad16] (s.map mult16) (s :: stk) s stk := SRun.cons SRun.emit unpad16_after
  exact ((pad16.append inner).append back) tr

/-- … which for `L ≤ 3` is every non-empty 2-D size … -/
theorem normunet2d_shape_id_le3 (L h w : Nat) (hL : L ≤ 3) (hh : 1 ≤ h) (hw : 1 ≤ w) :
    ∃ tr', run (normUnet UnetP.std L) ⟨[h, w], [], []⟩ = .ok ⟨[h, w], [], tr'⟩ := by
  apply normunet_shape_id
  -- every padded axis is at least 16 = 2^4 ≥ 2^(L+1): both the halvings and a bottleneck with more than one element are there
  have p : 2 ^ (L + 1) ≤ 2 ^ 4 := Nat.pow_le_pow_right (by decide) (by omega)
  have p' : 2 ^ L ≤ 2 ^ (L + 1) := Nat.pow_le_pow_right (by decide) (Nat.le_succ L)
  have hm : ∀ n, 1 ≤ n → 2 ^ 4 ≤ mult16 n := by
    intro n hn
    rw [mult16_eq]
    omega
  have h16 := hm h hh
  have w16 := hm w hw
  have hge : ∀ n ∈ [h, w].map mult16, 2 ^ L ≤ n := by
    simp only [List.map_cons, List.map_nil, List.mem_cons, List.not_mem_nil, or_false, forall_eq_or_imp, forall_eq]
    omega
  exact (UAdm_iff_of_ge hge).mpr ⟨mult16 h, by simp, by omega⟩

/-- … while for `L = 4` (the default depth) the padded 16 × 16 bottleneck is 1 × 1: sizes with `h ≤ 16` and `w ≤ 16`
are below the architecture's minimum (`ValueError` from `InstanceNorm2d`). -/
theorem normunet2d_L4_min (h w : Nat) (hh : 1 ≤ h) (hw : 1 ≤ w) :
    UAdm 4 ([h, w].map mult16) ↔ (16 < h ∨ 16 < w) := by
  have hge : ∀ n ∈ [h, w].map mult16, 2 ^ 4 ≤ n := by
    simp only [List.map_cons, List.map_nil, List.mem_cons, List.not_mem_nil, or_false, forall_eq_or_imp, forall_eq, mult16_eq]
    omega
  rw [UAdm_iff_of_ge hge]
  -- `16·⌈n/16⌉` reaches `2^5 = 32` exactly when `n > 16`
  simp only [List.map_cons, List.map_nil, List.mem_cons, List.not_mem_nil, or_false, exists_eq_or_imp, exists_eq_left, mult16_eq]
  omega

/-- `UnetModel3d` (`pad_to_pow_of_2`) -/
theorem unet3d_shape_id (L : Nat) (s : Shape) (stk tr : List Shape) (h : UAdm L (s.map (padPow2 L))) :
    ∃ tr', run (unet3d UnetP.std L) ⟨s, stk, tr⟩ = .ok ⟨s, stk, tr'⟩ := unet3d_ok L stk h tr

theorem normunet3d_shape_id (L : Nat) (s : Shape) (stk tr : List Shape)
    (h : UAdm L ((s.map mult16).map (padPow2 L))) :
    ∃ tr', run (normUnet3d UnetP.std L) ⟨s, stk, tr⟩ = .ok ⟨s, stk, tr'⟩ := by
  have inner : SRun (unet3d UnetP.std L) (s.map mult16) (s :: stk) (s.map mult16) (s :: stk) := unet3d_ok L _ h
  have back : SRun [.emit, .unpad16] (s.map mult16) (s :: stk) s stk := SRun.cons SRun.emit unpad16_after
  exact ((pad16.append inner).append back) tr

theorem unet3d_pad_crop (k n : Nat) : unpadPow2 k n (padPow2 k n) = n := unpadPow2_padPow2 k n

/-! ## MWCNN -/

/-- `MWCNN` for every number of scales -/
theorem mwcnn_shape_id (S : Nat) (s : Shape) (stk tr : List Shape) (h : ∀ n ∈ s, mwAxisOk S n = true) :
    ∃ tr', run (mwcnn MwP.std S) ⟨s, stk, tr⟩ = .ok ⟨s, stk, tr'⟩ := by
  suffices SRun (mwcnn MwP.std S) s stk s stk from this tr
  open SRun in
    match S with
    | 0 => exact nil
    | S + 1 =>
      have h' : ∀ n ∈ s, 1 ≤ n ∧ (n % 2 = 0 ∨ 2 ≤ n) := fun n hn => by
        cases S
        · exact (mwAxisOk_one n).mp (h n hn)
        · have := (mwAxisOk_succ_succ _ n).mp (h n hn); exact ⟨this.1, this.2.1⟩
      have he : Pos (s.map padEvenOut) := Pos.padEven fun n hn => (h' n hn).1
      have hev : ∀ m ∈ s.map padEvenOut, m % 2 = 0 := fun m hm => by
        obtain ⟨n, _, rfl⟩ := List.mem_map.mp hm
        simp only [padEvenOut]; omega
      have crop : SRun [.emit, .popCrop] (s.map padEvenOut) (s :: stk) s stk := cons emit (popCrop fun n _ => cropTo_padEven n)
      match S with
      | 0 =>
        rw [mwcnn]
        exact (cons push (padEven fun n hn => (h' n hn).2)) |>.append (mwDown_keeps 2 3 _ _ he)
          |>.append (cons emit (padEven_even hev)) |>.append (mwUp_keeps 3 2 _ _ he) |>.append crop
      | S + 1 =>
        have HB : ∀ m ∈ s.map padEvenOut, belowOk S m = true := fun m hm => by
          obtain ⟨n, hn, rfl⟩ := List.mem_map.mp hm
          exact ((mwAxisOk_succ_succ S n).mp (h n hn)).2.2
        rw [mwcnn]
        exact (cons push (padEven fun n hn => (h' n hn).2)) |>.append (mwDown_keeps 2 1 _ _ he)
          |>.append (cons emit (cons (padEven_even hev) push)) |>.append (mwBelow_ok S _ HB)
          |>.append (mwUp_keeps 2 1 _ _ he) |>.append crop

/-- below: `RuntimeError`, the reflect padding by one needs a second sample -/
theorem mwcnn_min_size (S n : Nat) : mwAxisOk (S + 2) n = true ↔ 2 ^ S + 1 ≤ n := by
  -- the first level pads `n` to the even `n + n % 2`, which the levels below admit iff it exceeds `2^S`
  rw [mwAxisOk_succ_succ, belowOk_iff]
  cases S with
  | zero =>
    simp only [padEvenOut]
    omega
  | succ r =>
    -- `2^(r+1)` is even, so an odd `n` with `2^(r+1) < n + 1` exceeds it as well
    have hq : 2 ^ (r + 1) = 2 * 2 ^ r := by rw [Nat.pow_succ]; omega
    have : 1 ≤ 2 ^ r := Nat.one_le_two_pow
    simp only [padEvenOut]
    omega

theorem mwcnn_iwt_crop (n : Nat) (h : n % 2 = 0) : cropTo n (2 * padEvenOut (n / 2)) = n := cropTo_iwt h

/-! ## DIDN / DUB -/

theorem dub_shape_id (e : Bool) (s : Shape) (stk tr : List Shape) (h : ∀ n ∈ s, 2 ≤ n) :
    ∃ tr', run (dub DidnP.std e) ⟨s, stk, tr⟩ = .ok ⟨s, stk, tr'⟩ :=
  dub_ok e stk h tr

/-- `DIDN` for any number of DUBs and reconstruction convs, with or without the skip connection -/
theorem didn_shape_id (ndubs nconv : Nat) (skip : Bool) (s : Shape) (stk tr : List Shape) (h : ∀ n ∈ s, 3 ≤ n) :
    ∃ tr', run (didn DidnP.std ndubs nconv skip) ⟨s, stk, tr⟩ = .ok ⟨s, stk, tr'⟩ := by
  suffices SRun (didn DidnP.std ndubs nconv skip) s stk s stk from this tr
  open SRun in
    have hs : Pos s := fun n hn => by have := h n hn; omega
    have hm := Pos.map (fun n _ => half_pos n) hs
    have hm2 : ∀ n ∈ s.map (convOut 3 2 1 1), 2 ≤ n := by
      intro m hm
      obtain ⟨n, hn, rfl⟩ := List.mem_map.mp hm
      have := h n hn
      simp only [convOut]; omega
    have hu : Pos ((s.map (convOut 3 2 1 1)).map (2 * ·)) := Pos.map (fun n h => by omega) hm
    have last : SRun [if skip then Op.popCropSame else Op.popCrop] ((s.map (convOut 3 2 1 1)).map (2 * ·)) (s :: stk) s stk := by
      rw [List.map_map]
      cases skip
      · exact popCrop fun n hn => cropTo_up_down (hs n hn)
      · exact popCropSame fun n hn => cropTo_up_down (hs n hn)
    unfold didn
    exact push.append (cons (conv3 hs) (cons emit (cons (conv fun n hn => convOk_half (hs n hn)) (cons emit nil))))
      |>.append (dubs_ok ndubs _ hm2)
      |>.append (reconBlocks_keeps nconv ndubs _ _ hm)
      |>.append (cons (conv1 hm) (cons emit (cons (conv3 hm) (cons emit (cons (conv1 hm) (cons scale (cons emit
        (cons (conv3 hu) (cons emit last)))))))))

theorem didn_subpixel_crop (n : Nat) (h : 1 ≤ n) :
    cropTo n (2 * convOut 3 2 1 1 n) = n ∧ 2 * convOut 3 2 1 1 n ≤ n + 1 := by
  refine ⟨cropTo_up_down h, ?_⟩
  simp only [convOut]
  omega

/-! ## ResNet, Conv2d, Conv2dGRU -/

theorem resnet_shape_id (nblocks : Nat) (s : Shape) (stk tr : List Shape) (h : ∀ n ∈ s, 1 ≤ n) :
    ∃ tr', run (resnet 3 1 nblocks) ⟨s, stk, tr⟩ = .ok ⟨s, stk, tr'⟩ := by
  -- every piece is made of stride-1 convolutions with compensating padding and hooks, so it keeps any positive shape
  have c3 : ∀ {p : List Op}, Keeps p → Keeps (.conv 3 1 1 1 :: p) := Keeps.conv (by decide) (by decide)
  have convIn : Keeps [.conv 3 1 1 1, .emit, .conv 3 1 1 1, .emit] := c3 (.emit (c3 (.emit .nil)))
  have blocks : Keeps (List.replicate (2 * nblocks) (Op.conv 3 1 1 1)) := .replicate (c3 .nil) _
  have convOut : Keeps [.emit, .conv 3 1 1 1, .conv 1 1 0 1, .emit] := .emit (c3 (.conv (by decide) (by decide) (.emit .nil)))
  exact ((convIn.append blocks).append convOut) s stk h tr

theorem conv_shape_id (bn : Bool) (m : Nat) (s : Shape) (stk tr : List Shape) (h : ∀ n ∈ s, 1 ≤ n) :
    ∃ tr', run (convNet 3 1 bn m) ⟨s, stk, tr⟩ = .ok ⟨s, stk, tr'⟩ := convNet_keeps bn m s stk h tr

/-- any stride-1 convolution whose padding compensates its dilated kernel preserves every axis (this is the contract
`padding = k // 2 (+ dilation − 1)` used throughout `direct/nn`) -/
theorem same_conv_preserves (k p d n : Nat) (hk : d * (k - 1) = 2 * p) (hk1 : 1 ≤ k) (hn : 1 ≤ n) :
    convOk k 1 p d n = true ∧ convOut k 1 p d n = n := by
  refine ⟨?_, convOut_same hk hn⟩
  simp only [convOk, Bool.and_eq_true, decide_eq_true_eq]
  omega

/-- `Conv2dGRU`: replication and zero padding, with or without instance normalisation in the gates -/
theorem gru_shape_id (repl inorm : Bool) (layers : Nat) (s : Shape) (stk tr : List Shape) (h : ∀ n ∈ s, 1 ≤ n)
    (hn : inorm = true → 1 < numel s) :
    ∃ tr', run (gru repl inorm layers) ⟨s, stk, tr⟩ = .ok ⟨s, stk, tr'⟩ := by
  -- the layers with their gates, then the output block and its hook
  have layersOk : SRun (gruLayers repl inorm layers) s stk s stk := gruLayers_ok repl inorm h hn layers
  have outBlock : SRun (gruBlock repl layers) s stk s stk := gruBlock_keeps repl layers s stk h
  exact ((layersOk.append outBlock).append SRun.emit) tr

/-- the fine-grained programs the translator emits (`padTop`/`cropTop`/`pop`/`popSame` instead of the composite stack
operations) run exactly like the programs the theorems are about -/
theorem expanded_program_equiv (p : List Op) (st : State) : run (expand p) st = run p st := by
  induction p generalizing st with
  | nil => rfl
  | cons op ops ih =>
    simp only [expand, List.flatMap_cons] at *
    rw [run_append, step_expand1]
    simp only [run]
    cases step op st with
    | ok s => simp [ih]
    | error e => simp

/-- regression witness (pinned tree, repaired by bf46aca): with `replication_padding=False` the dilated block
`idx == 1` (`kernel 3, dilation 2`) was given `padding = 1` instead of `2`: a one-layer cell returned `(H − 2, W − 2)` … -/
theorem gru_zero_padding_pinned_violates :
    (run (gruPinned 1) ⟨[9, 10], [], []⟩).toOption.map (·.cur) = some [7, 8] := by decide +kernel

/-- … and a cell with two or more layers raised (`torch.cat` of the block output with the recurrent state). -/
theorem gru_zero_padding_pinned_violates_deep :
    run (gruPinned 2) ⟨[9, 10], [], []⟩ = .error .runtime := by decide +kernel

/-! ## group normalisation reshape (known findings), scaling-factor broadcast -/

/-- the `reshape(b, groups, -1)` of the Norm-U-Nets (the 2-, 4-, 6-channel uses) … -/
theorem norm_reshape_ok (groups c : Nat) (sp : Shape) (hg : groups ≠ 0) (h : groups ∣ c) :
    groupReshapeOk groups c sp = true := by
  obtain ⟨k, rfl⟩ := h
  simp only [groupReshapeOk, Bool.and_eq_true, bne_iff_ne, ne_eq, hg, not_false_eq_true, beq_iff_eq, true_and]
  rw [Nat.mul_assoc]; exact Nat.mul_mod_right _ _

theorem normunet_groups_odd_fails (sp : Shape) (h : numel sp % 2 = 1) : groupReshapeOk 2 5 sp = false := by
  simp only [groupReshapeOk, Bool.and_eq_false_iff, beq_eq_false_iff_ne, ne_eq]
  right; omega

/-- KNOWN FINDING (current tree): `MRIVarSplitNet(kspace_model_architecture="normunet")` builds a Norm-U-Net with **5**
input channels and 2 groups: the reshape fails for every image with an odd number of pixels -/
theorem normunet_groups_current_violates : groupReshapeOk 2 5 [21, 19] = false :=
  normunet_groups_odd_fails _ (by decide)

/-- **scaling-factor broadcast** (`CrossDomainNetwork`, repaired by c4a262f): the per-sample factor reshaped to
`(N, 1, 1, 1)` broadcasts against the `(N, H, W, C)` image for every batch size, size and channel count … -/
theorem scaling_broadcast_image (n h w c : Nat) : broadcast [n, h, w, c] [n, 1, 1, 1] = some [n, h, w, c] :=
  broadcast_eq_left (by simp) (by simp)

/-- … and `(N, 1, 1, 1, 1)` against the `(N, coil, H, W, 2)` k-space -/
theorem scaling_broadcast_kspace (n k h w : Nat) : broadcast [n, k, h, w, 2] [n, 1, 1, 1, 1] = some [n, k, h, w, 2] :=
  broadcast_eq_left (by simp) (by simp)

/-- regression witness (pinned tree): dividing the `(N, H, W, 2)` image by the `(N,)` factor the engine passes aligned
the batch of factors with the *complex* axis — an error for `N ≥ 3` … -/
theorem scaling_broadcast_pinned_violates (n h w : Nat) (h1 : n ≠ 1) (h2 : n ≠ 2) :
    broadcast [n, h, w, 2] [n] = none := by
  have e : (2 : Nat) ≠ n := fun e => h2 e.symm
  simp [broadcast, h1, e]

/-- … and for `N = 2` it silently scaled the real part by the first sample's factor and the imaginary part by the
second's (the shapes are compatible). -/
theorem scaling_broadcast_n2_pinned_mixes (h w : Nat) : broadcast [2, h, w, 2] [2] = some [2, h, w, 2] :=
  broadcast_eq_left (by simp) (by simp)

theorem foldl_add_replicate_zero (n : Nat) (a : Int) : (List.replicate n (0 : Int)).foldl (· + ·) a = a := by
  induction n generalizing a with
  | zero => rfl
  | succ n ih => simp [List.replicate_succ, ih]

/-- KNOWN FINDING (current tree, finiteness): `MRIVarSplitNet(image_model_architecture="normunet")` feeds the Norm-U-Net
`cat([z, mu·(z − image)])` with `z = image.clone()` in the first iteration: the second normalisation group is
identically zero, so its statistics are `S = 0`, `Q = Σ (n·x − S)² = 0` — `std = 0`, and `(x − mean) / std = 0 / 0`
(NaN) for every input size. -/
theorem normunet_zero_group_current_violates (n : Nat) :
    BatchSep.groupStat (List.replicate n 0) = [(n : Int), 0, 0] := by
  simp only [BatchSep.groupStat, List.length_replicate, List.map_replicate, foldl_add_replicate_zero]
  simp [foldl_add_replicate_zero]

/-! ## the glue of the unrolled networks -/

/-- the `permute` pairs around a denoiser call (rank 4, rank 5 with coils, 3-D vSHARP) and `coil_to_batch` -/
theorem permute_reshape_roundtrip4 (n h w c : Nat) :
    permute toChannelsLast4 (permute toChannelsFirst4 [n, h, w, c]) = [n, h, w, c] ∧
      permute toChannelsFirst4 [n, h, w, c] = [n, c, h, w] := by
  constructor <;> rfl

theorem permute_reshape_roundtrip5 (n k h w c : Nat) :
    permute toChannelsLast5 (permute toChannelsFirst5 [n, k, h, w, c]) = [n, k, h, w, c] ∧
      permute toChannelsFirst5 [n, k, h, w, c] = [n, k, c, h, w] := by
  constructor <;> rfl

theorem permute_reshape_roundtrip3d (n z h w c : Nat) :
    permute toChannelsLast3d (permute toChannelsFirst3d [n, z, h, w, c]) = [n, z, h, w, c] ∧
      permute toChannelsFirst3d [n, z, h, w, c] = [n, c, z, h, w] := by
  constructor <;> rfl

/-- the reshape back infers `-1` -/
theorem permute_reshape_roundtrip (n k h w c : Nat) :
    batchToCoil n k (coilToBatch [n, k, h, w, c]) = [n, k, h, w, c] ∧
      numel (coilToBatch [n, k, h, w, c]) = numel [n, k, h, w, c] := by
  refine ⟨rfl, ?_⟩
  simp only [coilToBatch, numel, Nat.mul_one, Nat.mul_assoc]

theorem select_stack_roundtrip (n k c h w : Nat) :
    insertAxis 1 k (dropAxis 1 [n, k, c, h, w]) = [n, k, c, h, w] := rfl

theorem reduce_expand_shapes (n k h w : Nat) :
    dropAxis 1 [n, k, h, w, 2] = [n, h, w, 2] ∧
      broadcast (insertAxis 1 1 [n, h, w, 2]) [n, k, h, w, 2] = some [n, k, h, w, 2] := by
  refine ⟨rfl, ?_⟩
  -- axis by axis `(n, n), (1, k), (h, h), (w, w), (2, 2)`: only the inserted axis differs, and it is 1
  by_cases a : k = 1
  · subst a
    simp [broadcast, insertAxis]
  · have a' : ¬ 1 = k := fun e => a e.symm
    simp [broadcast, insertAxis, a']

/-- `permInverse p q` is what the bridge checks for every (argument permute, result permute) pair found around a denoiser
call in `direct/nn`; it gives the round trip for non-square sizes and sizes that collide with the batch, coil or complex
axes alike -/
theorem permute_pair_roundtrip (p q : List Nat) (h : permInverse p q = true) (s : Shape) (hs : s.length = p.length) :
    permute q (permute p s) = s := by
  simp only [permInverse, Bool.and_eq_true, beq_iff_eq, List.all_eq_true, decide_eq_true_eq, List.mem_range] at h
  obtain ⟨⟨hl, hq⟩, hi⟩ := h
  apply List.ext_getElem
  · simp [permute, ← hl, hs]
  · -- entry `i` of the result is `(permute p s)[q[i]] = s[p[q[i]]] = s[i]`
    intro i h1 h2
    have hiq : i < q.length := by simpa [permute] using h1
    have hqi : q[i] < p.length := hq _ (List.getElem_mem hiq)
    have e := hi i hiq
    rw [getD_of_lt _ _ hiq, getD_of_lt _ _ hqi] at e
    simp only [permute, List.getElem_map]
    rw [getD_of_lt _ _ (by simpa using hqi)]
    simp only [List.getElem_map, e]
    rw [getD_of_lt _ _ h2]

/-- the channels-first permutations used in `direct/nn` are `toChannelsFirst lead rank`, their partners are inverse, and a
transposing partner (`(0, 3, 2, 1)` for `(0, 2, 3, 1)`) is rejected -/
theorem channels_first_perms :
    toChannelsFirst 1 4 = toChannelsFirst4 ∧ toChannelsFirst 1 5 = toChannelsFirst3d ∧ toChannelsFirst 2 5 = toChannelsFirst5 ∧
      permInverse toChannelsFirst4 toChannelsLast4 = true ∧ permInverse toChannelsFirst5 toChannelsLast5 = true ∧
      permInverse toChannelsFirst3d toChannelsLast3d = true ∧ permInverse [0, 3, 1, 2] [0, 3, 2, 1] = false := by decide +kernel

/-- the wrapper around a denoiser call (image domain, per-coil k-space domain, 3-D) -/
theorem wrapper_shapes (n k z h w cin cout : Nat) :
    permute toChannelsLast4 ((permute toChannelsFirst4 [n, h, w, cin]).set 1 cout) = [n, h, w, cout] ∧
      permute toChannelsLast5 ((permute toChannelsFirst5 [n, k, h, w, cin]).set 2 cout) = [n, k, h, w, cout] ∧
      permute toChannelsLast3d ((permute toChannelsFirst3d [n, z, h, w, cin]).set 1 cout) = [n, z, h, w, cout] :=
  ⟨rfl, rfl, rfl⟩

/-- every denoiser call of an unrolled network is made on the spatial size `sp` with batch `N` or `N·coil`.  The output shape
of a `Call` is `cout :: sp` by the definition of `Block.calls`: the denoisers' own contracts (`*_shape_id`) are what
justifies that definition, they are not hypotheses here. -/
theorem unrolled_preserves_shape (pre body : List Block) (iters n coil : Nat) (sp : Shape) :
    ∀ c ∈ unrolledCalls pre body iters n coil sp,
      c.inp.drop 2 = sp ∧ c.out.drop 2 = sp ∧ c.inp.head? = c.out.head? ∧
        (c.inp.head? = some n ∨ c.inp.head? = some (n * coil)) := by
  have hb : ∀ b : Block, ∀ c ∈ b.calls n coil sp,
      c.inp.drop 2 = sp ∧ c.out.drop 2 = sp ∧ c.inp.head? = c.out.head? ∧
        (c.inp.head? = some n ∨ c.inp.head? = some (n * coil)) := by
    intro b c hc
    unfold Block.calls at hc
    cases hd : b.dom <;> simp only [hd] at hc
    · simp only [List.mem_singleton] at hc; subst hc; simp
    · have := List.eq_of_mem_replicate hc; subst this; simp
    · simp only [List.mem_singleton] at hc; subst hc; simp
  intro c hc
  unfold unrolledCalls at hc
  rcases List.mem_append.mp hc with h | h
  · obtain ⟨b, _, hcb⟩ := List.mem_flatMap.mp h
    exact hb b c hcb
  · obtain ⟨l, hl, hcl⟩ := List.mem_flatten.mp h
    have := List.eq_of_mem_replicate hl
    subst this
    obtain ⟨b, _, hcb⟩ := List.mem_flatMap.mp hcl
    exact hb b c hcb

theorem unrolled_call_count (pre body : List Block) (iters n coil : Nat) (sp : Shape) :
    (unrolledCalls pre body iters n coil sp).length =
      (pre.flatMap fun b => b.calls n coil sp).length + iters * (body.flatMap fun b => b.calls n coil sp).length := by
  simp only [unrolledCalls, List.length_append, List.length_flatten, List.map_replicate, List.sum_replicate_nat]

/-- the calls of an unrolled network are the calls of its block sequence (`Sched.blocks`, which the bridge compares with
the schedule read from each `forward`) -/
theorem unrolledCalls_eq_blocks (pre body : List Block) (iters n coil : Nat) (sp : Shape) :
    unrolledCalls pre body iters n coil sp = (unrolledBlocks pre body iters).flatMap fun b => b.calls n coil sp := by
  simp only [unrolledCalls, unrolledBlocks, List.flatMap_append]
  congr 1
  induction iters with
  | zero => rfl
  | succ k ih => simp only [List.replicate_succ, List.flatten_cons, List.flatMap_append, ih]


/-! ## minimum sizes of the other architectures (what is admissible, and that below it the network *fails*) -/

/-- every axis is first padded to at least `2^L`, so some axis must reach `2^(L+1)` — otherwise the bottleneck is a single
voxel and `InstanceNorm3d` raises -/
theorem unet3d_min_size (L : Nat) (s : Shape) : UAdm L (s.map (padPow2 L)) ↔ ∃ n ∈ s, 2 ^ (L + 1) ≤ n := by
  have key : ∀ n, 2 ^ (L + 1) ≤ padPow2 L n ↔ 2 ^ (L + 1) ≤ n := by
    intro n
    have := Nat.two_pow_pos L
    simp only [padPow2, Nat.pow_succ]
    split <;> omega
  rw [UAdm_iff_of_ge (by intro n hn; obtain ⟨m, _, rfl⟩ := List.mem_map.mp hn; exact padPow2_ge L m), exists_mem_map]
  simp only [key]

theorem unet3d_fails_below_min (L : Nat) (s : Shape) (stk tr : List Shape) (h : ¬ ∃ n ∈ s, 2 ^ (L + 1) ≤ n) :
    ∃ e, run (unet3d UnetP.std L) ⟨s, stk, tr⟩ = .error e :=
  unet3d_fail L stk (fun a => h ((unet3d_min_size L s).mp a)) tr

/-- for `L ≤ 3` every non-empty volume; for `L = 4` some axis must exceed 16 -/
theorem normunet3d_min_size (L : Nat) (s : Shape) :
    UAdm L ((s.map mult16).map (padPow2 L)) ↔ ∃ n ∈ s, 2 ^ (L + 1) ≤ mult16 n := by
  rw [unet3d_min_size, exists_mem_map]

theorem normunet3d_fails_below_min (L : Nat) (s : Shape) (stk tr : List Shape) (h : ¬ ∃ n ∈ s, 2 ^ (L + 1) ≤ mult16 n) :
    ∃ e, run (normUnet3d UnetP.std L) ⟨s, stk, tr⟩ = .error e :=
  (pad16.append_fail (unet3d_fail L _ fun a => h ((normunet3d_min_size L s).mp a))).append_right tr

theorem normunet_fails_below_min (L : Nat) (s : Shape) (stk tr : List Shape) (hs : ∀ n ∈ s, 1 ≤ n) (h : ¬ UAdm L (s.map mult16)) :
    ∃ e, run (normUnet UnetP.std L) ⟨s, stk, tr⟩ = .error e :=
  (pad16.append_fail (unet_fail L _ (Pos.map (fun n hn => Nat.le_trans hn (le_mult16 n)) hs) h)).append_right tr

/-- the reflect pad of an odd axis needs a neighbour -/
theorem dub_min_size (n : Nat) : dubAxisOk n = true ↔ 2 ≤ n := by
  simp only [dubAxisOk, Bool.and_eq_true, Bool.or_eq_true, beq_iff_eq, decide_eq_true_eq]; omega

theorem dub_fails_below_min (e : Bool) (s : Shape) (stk tr : List Shape) (hs : ∀ n ∈ s, 1 ≤ n) (h : ∃ n ∈ s, n < 2) :
    ∃ err, run (dub DidnP.std e) ⟨s, stk, tr⟩ = .error err := by
  obtain ⟨n, hn, h2⟩ := h
  exact dubWith_fail _ stk ⟨n, hn, by have := hs n hn; omega⟩ tr

/-- the strided input convolution halves, the first DUB needs `≥ 2` -/
theorem didn_min_size (n : Nat) : didnAxisOk n = true ↔ 3 ≤ n := by
  simp only [didnAxisOk, dub_min_size, Bool.and_eq_true, decide_eq_true_eq]; omega

theorem didn_fails_below_min (ndubs nconv : Nat) (skip : Bool) (s : Shape) (stk tr : List Shape) (hs : ∀ n ∈ s, 1 ≤ n)
    (hd : 1 ≤ ndubs) (h : ∃ n ∈ s, n < 3) :
    ∃ err, run (didn DidnP.std ndubs nconv skip) ⟨s, stk, tr⟩ = .error err := by
  suffices SFail (didn DidnP.std ndubs nconv skip) s stk from this tr
  open SRun in
    obtain ⟨m, rfl⟩ : ∃ m, ndubs = m + 1 := ⟨ndubs - 1, by omega⟩
    obtain ⟨n, hn, h3⟩ := h
    have hone : ∃ m ∈ s.map (convOut 3 2 1 1), m = 1 :=
      ⟨_, List.mem_map.mpr ⟨n, hn, rfl⟩, by have := hs n hn; simp only [convOut]; omega⟩
    unfold didn
    exact ((push.append (cons (conv3 hs) (cons emit (cons (conv fun n hn => convOk_half (hs n hn)) (cons emit nil))))).append_fail
      (dubWith_fail _ _ hone).append_right.append_right).append_right.append_right

/-- ResNet, Conv2d, Conv2dGRU without instance normalisation have no minimum size; the only exception … -/
theorem no_minimum_size (nblocks m layers : Nat) (bn repl : Bool) (h w : Nat) (hh : 1 ≤ h) (hw : 1 ≤ w) :
    (∃ t, run (resnet 3 1 nblocks) ⟨[h, w], [], []⟩ = .ok ⟨[h, w], [], t⟩) ∧
      (∃ t, run (convNet 3 1 bn m) ⟨[h, w], [], []⟩ = .ok ⟨[h, w], [], t⟩) ∧
      (∃ t, run (gru repl false layers) ⟨[h, w], [], []⟩ = .ok ⟨[h, w], [], t⟩) := by
  have hs : ∀ n ∈ [h, w], 1 ≤ n := by simp [hh, hw]
  exact ⟨resnet_shape_id nblocks _ [] [] hs, conv_shape_id bn m _ [] [] hs, gru_shape_id repl false layers _ [] [] hs (by simp)⟩

/-- … is instance normalisation in the GRU gates: `ValueError` on a single pixel -/
theorem gru_instnorm_fails_single_pixel (repl : Bool) (layers : Nat) (s : Shape) (stk tr : List Shape) (hs : ∀ n ∈ s, 1 ≤ n)
    (h1 : ¬ 1 < numel s) : run (gru repl true (layers + 1)) ⟨s, stk, tr⟩ = .error .value := by
  simp only [gru, List.append_assoc]
  exact run_append_err (gruLayers_instnorm_fails repl layers s stk tr hs h1)

/-- the reflect pad of a length-1 axis raises; never a padded or cropped size -/
theorem mwcnn_fails_below_min (S : Nat) (s : Shape) (stk tr : List Shape) (hs : ∀ n ∈ s, 1 ≤ n)
    (h : ∃ n ∈ s, mwAxisOk S n = false) : ∃ e, run (mwcnn MwP.std S) ⟨s, stk, tr⟩ = .error e := mwcnn_fail S stk hs h tr

theorem mwcnn_succeeds_iff (S : Nat) (s : Shape) (hs : ∀ n ∈ s, 1 ≤ n) :
    (∃ st, run (mwcnn MwP.std S) ⟨s, [], []⟩ = .ok st) ↔ ∀ n ∈ s, mwAxisOk S n = true := by
  constructor
  · rintro ⟨st, h⟩ n hn
    refine Decidable.byContradiction fun hf => ?_
    obtain ⟨e, he⟩ := mwcnn_fail S [] hs ⟨n, hn, Bool.eq_false_iff.mpr hf⟩ []
    rw [h] at he
    cases he
  · intro h; obtain ⟨t, ht⟩ := mwcnn_shape_id S s [] [] h; exact ⟨_, ht⟩

/-! ## full shapes `(N, C, *spatial)`

`fullRun sp ch n c s` runs the spatial program `sp` and the channel program `ch` (register machine of
`Model/ShapesChan.lean`) side by side.  Each theorem gives the final full shape, the number of hook records, and the batch
axis `N` at every hook; the U-Net family needs `1 ≤ L` (with `L = 0` there is no final 1×1 convolution). -/

/-- `UnetModel2d/3d(cin, cout, num_filters = F, num_pool_layers = L)` -/
theorem unet_full_shape (L n cin cout F : Nat) (s : Shape) (hL : 1 ≤ L) (h : UAdm L s) :
    ∃ t, fullRun (unet UnetP.std L) (unetC cin cout F L) n cin s = .ok ⟨n :: cout :: s, t⟩ ∧ t.length = 3 * L + 1 ∧
      ∀ x ∈ t, x.head? = some n :=
  fullRun_ok (unet_shape_id L s [] [] h) (unetC_ok_pos hL cin cout F []) (emits_unet _ L) (cemits_unetC cin cout F L)

/-- `MultiDomainUnet2d` with an even `F`: every `MultiDomainConv2d(a, b)` runs two convolutions with `b // 2` filters and
concatenates them -/
theorem mdunet_full_shape (L n cin cout F : Nat) (s : Shape) (hL : 1 ≤ L) (hF : F % 2 = 0) (h : UAdm L s) :
    ∃ t, fullRun (unet UnetP.std L) (mdUnetC cin cout F L) n cin s = .ok ⟨n :: cout :: s, t⟩ ∧ t.length = 3 * L + 1 ∧
      ∀ x ∈ t, x.head? = some n :=
  fullRun_ok (unet_shape_id L s [] [] h) (mdUnetC_ok L cin cout F [] hF) (emits_unet _ L) (by rw [cemits_mdUnetC]; omega)

theorem mdunet_channels (L cin cout F : Nat) (hF : F % 2 = 0) (regs : List Nat) (tr : List Nat) :
    ∃ tr', runC (mdUnetC cin cout F L) ⟨cin, regs, tr⟩ = .ok ⟨cout, regs, tr'⟩ :=
  mdUnetC_ok L cin cout F regs hF tr

/-- `out_channels // 2` twice: an odd `num_filters` loses a channel in the first multi-domain convolution and the second
one (built for `num_filters` input channels) rejects its input -/
theorem mdunet_odd_filters_fail : ∀ F ∈ [1, 3, 5, 7], ∀ L ∈ [0, 1, 2, 3],
    runC (mdUnetC 2 2 F L) ⟨2, [], []⟩ = .error .runtime := by decide +kernel

example : (fullRun (unet UnetP.std 2) (mdUnetC 2 3 4 2) 2 2 [9, 6]).toOption.map (·.final) = some [2, 3, 9, 6] := by decide +kernel
example : (fullRun (unet UnetP.std 1) (mdUnetC 4 2 6 1) 3 4 [5, 6]).toOption.map (·.trace) =
    some [[3, 6, 5, 6], [3, 12, 2, 3], [3, 6, 4, 6], [3, 2, 5, 6]] := by decide +kernel

theorem unet_channels (L cin cout F : Nat) (hL : 1 ≤ L) (regs : List Nat) (tr : List Nat) :
    ∃ tr', runC (unetC cin cout F L) ⟨cin, regs, tr⟩ = .ok ⟨cout, regs, tr'⟩ := unetC_ok_pos hL cin cout F regs tr

theorem normunet_full_shape (L n cin cout F : Nat) (s : Shape) (hL : 1 ≤ L) (h : UAdm L (s.map mult16)) :
    ∃ t, fullRun (normUnet UnetP.std L) (normUnetC cin cout F L) n cin s = .ok ⟨n :: cout :: s, t⟩ ∧ t.length = 3 * L + 2 ∧
      ∀ x ∈ t, x.head? = some n :=
  fullRun_ok (normunet_shape_id L s [] [] h) (normUnetC_ok L cin cout F hL []) (emits_normUnet _ L)
    (cemits_normUnetC cin cout F L)

theorem unet3d_full_shape (L n cin cout F : Nat) (s : Shape) (hL : 1 ≤ L) (h : UAdm L (s.map (padPow2 L))) :
    ∃ t, fullRun (unet3d UnetP.std L) (unetC cin cout F L) n cin s = .ok ⟨n :: cout :: s, t⟩ ∧ t.length = 3 * L + 1 ∧
      ∀ x ∈ t, x.head? = some n :=
  fullRun_ok (unet3d_shape_id L s [] [] h) (unetC_ok_pos hL cin cout F []) (emits_unet3d _ L) (cemits_unetC cin cout F L)

theorem normunet3d_full_shape (L n cin cout F : Nat) (s : Shape) (hL : 1 ≤ L) (h : UAdm L ((s.map mult16).map (padPow2 L))) :
    ∃ t, fullRun (normUnet3d UnetP.std L) (normUnetC cin cout F L) n cin s = .ok ⟨n :: cout :: s, t⟩ ∧ t.length = 3 * L + 2 ∧
      ∀ x ∈ t, x.head? = some n :=
  fullRun_ok (normunet3d_shape_id L s [] [] h) (normUnetC_ok L cin cout F hL []) (emits_normUnet3d _ L)
    (cemits_normUnetC cin cout F L)

/-- `MWCNN` for every number of scales, width and batch-norm option -/
theorem mwcnn_full_shape (bn : Bool) (S n cin F : Nat) (s : Shape) (h : ∀ x ∈ s, mwAxisOk S x = true) :
    ∃ t, fullRun (mwcnn MwP.std S) (mwcnnC bn cin F S) n cin s = .ok ⟨n :: cin :: s, t⟩ ∧
      t.length = emits (mwcnn MwP.std S) ∧ ∀ x ∈ t, x.head? = some n :=
  fullRun_ok (mwcnn_shape_id S s [] [] h) (mwcnnC_ok bn cin F S []) rfl (emits_mwcnn_eq _ bn cin F S).symm

theorem dub_full_shape (e : Bool) (n c : Nat) (s : Shape) (h : ∀ x ∈ s, 2 ≤ x) :
    ∃ t, fullRun (dub DidnP.std e) (dubC c e) n c s = .ok ⟨n :: c :: s, t⟩ ∧ t.length = emits (dub DidnP.std e) ∧
      ∀ x ∈ t, x.head? = some n :=
  fullRun_ok (dub_shape_id e s [] [] h) (dubC_ok c e []) rfl (emits_dub_eq _ c e).symm

/-- `DIDN`; `hskip`: with the (effective) skip connection input and output channel counts must agree -/
theorem didn_full_shape (nd nc n cin cout c : Nat) (skip : Bool) (s : Shape) (h : ∀ x ∈ s, 3 ≤ x) (hnd : 1 ≤ nd)
    (hskip : skip = true → cin = cout) :
    ∃ t, fullRun (didn DidnP.std nd nc skip) (didnC cin cout c nd nc skip) n cin s = .ok ⟨n :: cout :: s, t⟩ ∧
      t.length = emits (didn DidnP.std nd nc skip) ∧ ∀ x ∈ t, x.head? = some n :=
  fullRun_ok (didn_shape_id nd nc skip s [] [] h) (didnC_ok cin cout c nd nc skip hnd hskip []) rfl
    (emits_didn_eq _ cin cout c nd nc skip skip).symm

/-- why `DIDN.__init__` computes `self.skip_connection = in_channels == out_channels and skip_connection`: with different
counts the final `x + out` cannot be formed -/
theorem didn_skip_needs_equal_channels :
    (runC (didnC 2 4 3 1 1 true) ⟨2, [], []⟩).toOption = none ∧
      ((runC (didnC 2 4 3 1 1 false) ⟨2, [], []⟩).toOption.map (·.cur)) = some 4 := by decide +kernel

theorem resnet_full_shape (nb n cin cout h : Nat) (bn : Bool) (s : Shape) (hs : ∀ x ∈ s, 1 ≤ x) :
    ∃ t, fullRun (resnet 3 1 (nb + 1)) (resnetC cin cout h bn nb) n cin s = .ok ⟨n :: cout :: s, t⟩ ∧
      t.length = emits (resnet 3 1 (nb + 1)) ∧ ∀ x ∈ t, x.head? = some n :=
  fullRun_ok (resnet_shape_id (nb + 1) s [] [] hs) (resnetC_ok cin cout h bn nb []) rfl (emits_resnet_eq cin cout h bn nb).symm

theorem conv_full_shape (bn : Bool) (m n cin cout h : Nat) (s : Shape) (hs : ∀ x ∈ s, 1 ≤ x) :
    ∃ t, fullRun (convNet 3 1 bn (m + 1)) (convNetC cin cout h bn (m + 1)) n cin s = .ok ⟨n :: cout :: s, t⟩ ∧
      t.length = emits (convNet 3 1 bn (m + 1)) ∧ ∀ x ∈ t, x.head? = some n :=
  fullRun_ok (conv_shape_id bn (m + 1) s [] [] hs) (convNetC_ok bn m cin cout h []) rfl (emits_convNet_eq bn (m + 1) cin cout h).symm

theorem unet_full_fails_below_min (L n cin cout F : Nat) (s : Shape) (hs : ∀ x ∈ s, 1 ≤ x) (h : ¬ UAdm L s) :
    ∃ e, fullRun (unet UnetP.std L) (unetC cin cout F L) n cin s = .error e := by
  obtain ⟨e, he⟩ := unet_fails_below_min L s [] [] hs h
  exact ⟨e, by unfold fullRun; rw [he]⟩

/-- a wrong width anywhere makes the channel program fail: e.g. an up-path block built as `ConvBlock(ch, ch)` instead of
`ConvBlock(ch * 2, ch)` sees `2·F` channels after the concatenation -/
theorem unet_wrong_width_fails :
    (runC ([.conv 2 3, .conv 3 3, .save, .emit] ++ unetLvC 3 6 0 ++ [.conv 6 3, .emit, .cat [0], .drop 0] ++
      convBlockC 3 3 ++ [.conv 3 2, .emit]) ⟨2, [], []⟩).toOption = none := by decide +kernel

/-! ## instances: the hypotheses are met by odd, even, non-square, non-power-of-two sizes -/

example : UAdm 3 [37, 24] := by simp [UAdm, Pos, numel]
example : UAdm 2 ([5, 7, 9].map (padPow2 2)) := by simp [UAdm, Pos, numel, padPow2]
example : (run (unet UnetP.std 3) ⟨[37, 24], [], []⟩).toOption.map (·.cur) = some [37, 24] := by decide +kernel
example : run (unet UnetP.std 2) ⟨[2, 2], [], []⟩ = .error .value := by decide +kernel
example : run (unet UnetP.std 2) ⟨[2, 9], [], []⟩ = .error .runtime := by decide +kernel
example : (run (normUnet UnetP.std 4) ⟨[17, 5], [], []⟩).toOption.map (·.cur) = some [17, 5] := by decide +kernel
example : run (normUnet UnetP.std 4) ⟨[16, 13], [], []⟩ = .error .value := by decide +kernel
example : (run (unet3d UnetP.std 2) ⟨[3, 7, 10], [], []⟩).toOption.map (·.cur) = some [3, 7, 10] := by decide +kernel
example : ∀ n ∈ [9, 14], mwAxisOk 4 n = true := by decide +kernel
example : (run (mwcnn MwP.std 4) ⟨[9, 14], [], []⟩).toOption.map (·.cur) = some [9, 14] := by decide +kernel
example : run (mwcnn MwP.std 3) ⟨[2, 8], [], []⟩ = .error .runtime := by decide +kernel
example : (run (didn DidnP.std 2 3 true) ⟨[3, 11], [], []⟩).toOption.map (·.cur) = some [3, 11] := by decide +kernel
example : run (didn DidnP.std 2 3 false) ⟨[2, 11], [], []⟩ = .error .runtime := by decide +kernel
example : (run (gru true true 3) ⟨[5, 6], [], []⟩).toOption.map (·.cur) = some [5, 6] := by decide +kernel
example : (run (gru false false 3) ⟨[5, 6], [], []⟩).toOption.map (·.cur) = some [5, 6] := by decide +kernel
example : (fullRun (unet UnetP.std 2) (unetC 3 5 7 2) 2 3 [9, 6]).toOption.map (·.final) = some [2, 5, 9, 6] := by decide +kernel
example : (fullRun (unet UnetP.std 1) (unetC 3 5 7 1) 2 3 [5, 6]).toOption.map (·.trace) =
    some [[2, 7, 5, 6], [2, 14, 2, 3], [2, 7, 4, 6], [2, 5, 5, 6]] := by decide +kernel
example : (fullRun (mwcnn MwP.std 3) (mwcnnC true 4 3 3) 1 4 [7, 10]).toOption.map (·.final) = some [1, 4, 7, 10] := by decide +kernel
example : (fullRun (didn DidnP.std 3 2 true) (didnC 2 2 5 3 2 true) 3 2 [5, 9]).toOption.map (·.final) = some [3, 2, 5, 9] := by decide +kernel
example : (fullRun (resnet 3 1 2) (resnetC 2 3 4 true 1) 1 2 [1, 7]).toOption.map (·.final) = some [1, 3, 1, 7] := by decide +kernel
example : run (unet3d UnetP.std 2) ⟨[7, 7, 7], [], []⟩ = .error .value := by decide +kernel
example : (run (unet3d UnetP.std 2) ⟨[1, 1, 8], [], []⟩).toOption.map (·.cur) = some [1, 1, 8] := by decide +kernel
example : (run (resnet 3 1 2) ⟨[1, 1], [], []⟩).toOption.map (·.cur) = some [1, 1] := by decide +kernel
example : (run (gru false false 2) ⟨[1, 31], [], []⟩).toOption.map (·.cur) = some [1, 31] := by decide +kernel
example : run (gru true true 2) ⟨[1, 1], [], []⟩ = .error .value := by decide +kernel
example : mwAxisOk 3 2 = false ∧ mwAxisOk 3 3 = true ∧ didnAxisOk 2 = false ∧ dubAxisOk 1 = false := by decide +kernel
example : ¬ ∃ n ∈ [7, 7, 7], 2 ^ (2 + 1) ≤ n := by decide +kernel
example : ∃ n ∈ [1, 1, 8], 2 ^ (2 + 1) ≤ n := by decide +kernel
example : run (didn DidnP.std 1 1 false) ⟨[2, 9], [], []⟩ = .error .runtime ∧ run (dub DidnP.std true) ⟨[1, 4], [], []⟩ = .error .runtime := by
  decide +kernel
example : permInverse [0, 1, 4, 2, 3] [0, 1, 3, 4, 2] = true ∧ permRowOk ("RIM", 0, [0, 3, 1, 2], []) = true ∧
    permRowOk ("Unet2d", 0, [0, 3, 1, 2], [0, 3, 2, 1]) = false := by decide +kernel
example : mult16 17 = 32 ∧ mult16 16 = 16 ∧ mult16 1 = 16 ∧ pad16Lo 21 = 5 ∧ pad16Hi 21 = 6 := by decide +kernel
example : unrolledCalls [] [⟨.perCoil, 2, 2⟩, ⟨.image, 2, 2⟩] 2 1 3 [5, 6] =
    [⟨[1, 2, 5, 6], [1, 2, 5, 6]⟩, ⟨[1, 2, 5, 6], [1, 2, 5, 6]⟩, ⟨[1, 2, 5, 6], [1, 2, 5, 6]⟩, ⟨[1, 2, 5, 6], [1, 2, 5, 6]⟩,
     ⟨[1, 2, 5, 6], [1, 2, 5, 6]⟩, ⟨[1, 2, 5, 6], [1, 2, 5, 6]⟩, ⟨[1, 2, 5, 6], [1, 2, 5, 6]⟩, ⟨[1, 2, 5, 6], [1, 2, 5, 6]⟩] := by
  decide +kernel

end DirectVerif.C17
