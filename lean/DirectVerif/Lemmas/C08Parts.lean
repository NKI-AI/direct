import DirectVerif.Model.Pipeline
/-!
# C08 — `build` in named parts

`Lemmas/C08Tags.lean` evaluates the part that fixes the spatial size and simulates the rest; `Lemmas/C08Consist.lean`
runs the core `ApplyMask → ComputeScalingFactor → Normalize` on an arbitrary store.
-/
namespace DirectVerif.Pipeline

/-- the stages that change the spatial size -/
def sizeStages (c : Config) : List Stage :=
  [.toTensor] ++ (opt (c.crop != .none) [.cropKspace c.imageCenterCrop c.useSeed]
  ++ (opt c.rescale [.rescaleKspace .kspace] ++ opt c.pad [.padKspace .kspace]))

/-- from there to `ApplyMask` (excluded) -/
def sampleStages (c : Config) : List Stage :=
  opt c.rotation [.randomRotation]
  ++ (opt c.flip [.randomFlip]
  ++ (opt c.reverse [.randomReverse]
  ++ (opt c.paddingEps [.computeZeroPadding .kspace .padding thrCurrent, .applyZeroPadding .kspace .padding]
  ++ (opt c.maskFunc [.createSamplingMask (c.crop == .tuple) (seedOf c.useSeed [.filename]) c.estimateSmaps]
  ++ (opt c.compressCoils [.compressCoil .kspace]
  ++ (opt c.padCoils [.padCoilDimension .kspace]
  ++ (opt (c.bodyCoil && c.maskFunc) [.estimateBodyCoilImage (seedOf c.useSeed [.filename])]
  ++ (opt c.estimateSmaps [.estimateSensitivityMap .kspace c.smapType c.smapGaussian]
  ++ opt (if !c.ssl then c.deleteAcsMask else false) [.deleteKeys [.acsMask]]))))))))

def coreStages (c : Config) : List Stage :=
  [.applyMask .samplingMask .kspace .maskedKspace,
   .computeScalingFactor c.scalingKey c.percentile .scalingFactor,
   .normalize .scalingFactor [.kspace, .maskedKspace]]

/-- the SSL tail up to (excluding) the second `ComputeImage` -/
def sslTail (c : Config) : List Stage :=
  [.maskSplitter c.split c.splitKeepAcs (seedOf c.useSeed [.filename, .sliceNo]) .maskedKspace,
   .deleteKeys [.acsMask],
   .renameKeys [.inputMaskedKspace, .targetMaskedKspace] [.inputKspace, .kspace],
   .deleteKeys [.maskedKspace, .samplingMask]]

/-- everything after the first `ComputeImage` -/
def tailStages (c : Config) : List Stage :=
  opt (if !c.ssl then c.deleteKspace else false) [.deleteKeys [.kspace]]
  ++ ([.addBooleanKeys] ++ opt c.ssl (sslTail c ++ [.computeImage .kspace .target c.recon]))

theorem build_split (c : Config) :
    build c = sizeStages c ++ (sampleStages c ++ (coreStages c
      ++ ([.computeImage .kspace .target c.recon] ++ tailStages c))) := by
  simp [build, buildSupervised, sizeStages, sampleStages, coreStages, tailStages, sslTail, List.append_assoc]

end DirectVerif.Pipeline
