import DirectVerif.Lemmas.C04List
/-!
Shared by C04 and C06.  The centre block of `center_mask_func` is the interval `[(n − l + 1) / 2, (n − l + 1) / 2 + l)`
(`getD_centerMask`), which makes its counts and balance interval arithmetic; `Sub` (mask inclusion) is carried through
`orL`, tiling and flattening up to the whole tensor; `assemble_ok` inverts a successful `assemble`.
-/
namespace DirectVerif.MaskGeom
open DirectVerif

theorem centerPad_add_le (n l : Nat) (h : l ≤ n) : (n - l + 1) / 2 + l ≤ n := by omega

theorem centerMask_bounds (n l : Nat) (h : l ≤ n) :
    normIdx n (centerPad n l) = (n - l + 1) / 2 ∧ normIdx n (centerPad n l + l) = (n - l + 1) / 2 + l := by
  have hb := centerPad_add_le n l h
  have e : centerPad (n : Int) (l : Int) = (((n - l + 1) / 2 : Nat) : Int) := by unfold centerPad; omega
  rw [e, ← Int.natCast_add]
  exact ⟨normIdx_nonneg n _ (Nat.le_trans (Nat.le_add_right _ l) hb), normIdx_nonneg n _ hb⟩

theorem getD_centerMask (n l : Nat) (h : l ≤ n) (i : Nat) :
    (centerMask n l).getD i false = decide ((n - l + 1) / 2 ≤ i ∧ i < (n - l + 1) / 2 + l) := by
  have hb := centerPad_add_le n l h
  unfold centerMask
  rw [getD_sliceMask, (centerMask_bounds n l h).1, (centerMask_bounds n l h).2, decide_eq_decide]
  generalize (n - l + 1) / 2 = pad at hb ⊢
  omega

theorem length_centerMask (n : Nat) (l : Int) : (centerMask n l).length = n :=
  length_sliceMask n _ _

theorem count_centerMask (n l : Nat) (h : l ≤ n) : (centerMask n l).count true = l := by
  have hb := centerPad_add_le n l h
  unfold centerMask
  rw [count_sliceMask, (centerMask_bounds n l h).1, (centerMask_bounds n l h).2, Nat.min_eq_left hb,
    Nat.min_eq_left (Nat.le_trans (Nat.le_add_right _ l) hb), Nat.add_sub_cancel_left]

theorem countIn_interval_le (a b n : Nat) (hb : b ≤ n) : countIn (fun i => decide (a ≤ i ∧ i < b)) n = b - a := by
  rw [countIn_interval, Nat.min_eq_left hb]
  omega

/-- `[a, b)` reaches the centre column `c = length / 2` and starts at or before `c + 1` -/
theorem leftRight_block (m : List Bool) (a b : Nat) (hm : ∀ i, m.getD i false = decide (a ≤ i ∧ i < b))
    (ha : a ≤ m.length / 2 + 1) (hc : m.length / 2 ≤ b) (hb : b ≤ m.length) :
    leftCount m = m.length / 2 - a ∧ rightCount m = b - (m.length / 2 + 1) := by
  unfold leftCount rightCount
  rw [← countIn_interval_le a _ _ (Nat.div_le_self m.length 2), ← countIn_interval_le _ b _ hb]
  constructor
  · apply countIn_congr
    intro i _
    rw [hm, ← Bool.decide_and, decide_eq_decide]
    omega
  · apply countIn_congr
    intro i _
    rw [hm, ← Bool.decide_and, decide_eq_decide]
    omega

theorem leftRight_centerMask (n l : Nat) (h : l ≤ n) :
    leftCount (centerMask n l) = n / 2 - (n - l + 1) / 2 ∧
    rightCount (centerMask n l) = (n - l + 1) / 2 + l - 1 - n / 2 := by
  have ha : (n - l + 1) / 2 ≤ 1 + n / 2 := by omega
  have hc : n / 2 ≤ (n - l + 1) / 2 + l := by omega
  have := leftRight_block _ _ _ (getD_centerMask n l h)
  rw [length_centerMask, Nat.add_comm (n / 2) 1, Nat.sub_add_eq] at this
  exact this ha hc (centerPad_add_le n l h)

theorem zeroPadRow_eq_centerMask (n l : Nat) (h : l ≤ n) : zeroPadRow n l = some (centerMask n l) := by
  -- for `l = n` numpy copies the block: the centre block of full width is all ones
  have hfull : centerMask n (n : Int) = List.replicate n true := by
    refine List.eq_replicate_iff.mpr ⟨length_centerMask n n, fun b hb => ?_⟩
    obtain ⟨i, hi, rfl⟩ := List.getElem_of_mem hb
    rw [length_centerMask] at hi
    rw [List.getElem_eq_getD false, getD_centerMask n n (Nat.le_refl n), decide_eq_true_eq]
    omega
  unfold zeroPadRow zeroPadRowWith
  by_cases e : l = n
  · rw [if_pos e, e, hfull]
  · rw [if_neg e, if_neg (by omega)]
    rfl

theorem length_zeroPadRow (n l : Nat) (r : List Bool) (h : zeroPadRow n l = some r) : r.length = n := by
  unfold zeroPadRow zeroPadRowWith at h
  split at h
  · cases h
    exact List.length_replicate
  split at h
  · cases h
  · cases h
    exact length_sliceMask n _ _

theorem sq_neg (a : Int) : sq (-a) = sq a := by unfold sq; exact Int.neg_mul_neg a a

theorem sq_nonneg (a : Int) : 0 ≤ sq a := by
  unfold sq
  rw [← Int.natAbs_mul_self]
  exact Int.natCast_nonneg _

theorem div_mod_cell (cols x y : Nat) (hy : y < cols) : (x * cols + y) / cols = x ∧ (x * cols + y) % cols = y :=
  TensorLift.idx2 x y cols hy

theorem cell_lt (rows cols x y : Nat) (hx : x < rows) (hy : y < cols) : x * cols + y < rows * cols :=
  TensorLift.idx2_lt x y rows cols hx hy

theorem length_centeredDisk (rows cols : Nat) (radius : Int) : (centeredDisk rows cols radius).length = rows * cols := by
  simp [centeredDisk]

theorem length_diskLe (rows cols : Nat) (t : Int) : (diskLe rows cols t).length = rows * cols := by
  simp [diskLe]

theorem mirror_on_axis (n : Nat) (radius : Int) (x : Nat) (hx : x < n) (hr : radius ≤ (n / 2 : Nat)) (h0 : 0 ≤ radius)
    (h : sq ((x : Int) - ((n / 2 : Nat) : Int)) < sq radius) : 2 * (n / 2) - x < n ∧ x ≤ 2 * (n / 2) := by
  have lt_of_sq_lt : ∀ a : Int, sq a < sq radius → a < radius := fun a ha =>
    Int.lt_of_not_ge fun hc => Int.lt_irrefl _ (Int.lt_of_lt_of_le ha (Int.mul_self_le_mul_self h0 hc))
  have h1 := lt_of_sq_lt _ h
  have h2 := lt_of_sq_lt (-((x : Int) - ((n / 2 : Nat) : Int))) (by rwa [sq_neg])
  omega

theorem getD_andL (a b : List Bool) (i : Nat) : (andL a b).getD i false = (a.getD i false && b.getD i false) := by
  unfold andL
  simp only [List.getD_eq_getElem?_getD, List.getElem?_zipWith]
  cases a[i]? <;> cases b[i]? <;> simp

theorem circusDisc_spec (rows cols : Nat) (mask : List Bool) (thr : List Int) (r : List Bool)
    (h : circusDisc rows cols mask thr = some r) : ∃ t ∈ thr, r = andL (diskLe rows cols t) mask := by
  induction thr with
  | nil => cases h
  | cons t rest ih =>
    unfold circusDisc at h
    simp only [] at h
    split at h
    · exact ⟨t, List.mem_cons_self, (Option.some.inj h).symm⟩
    · obtain ⟨t', ht', e⟩ := ih h
      exact ⟨t', List.mem_cons_of_mem _ ht', e⟩

theorem circusDisc_none_iff (rows cols : Nat) (mask : List Bool) (thr : List Int) :
    circusDisc rows cols mask thr = none ↔
      ∀ t ∈ thr, ¬ (10 * (diskLe rows cols t).count true > 11 * (andL (diskLe rows cols t) mask).count true) := by
  induction thr with
  | nil => simp [circusDisc]
  | cons t rest ih =>
    unfold circusDisc
    simp only []
    rw [List.forall_mem_cons]
    split
    · rename_i hc
      simp only [reduceCtorEq, false_iff]
      exact fun h => h.1 hc
    · rename_i hc
      rw [ih]
      exact (and_iff_right hc).symm

theorem andL_replicate_true (a : List Bool) : andL a (List.replicate a.length true) = a := by
  unfold andL
  induction a with
  | nil => rfl
  | cons x xs ih => simp [List.replicate_succ, ih]

theorem length_orL (p a : List Bool) (hl : p.length = a.length) : (orL p a).length = a.length := by
  unfold orL; simp [hl]

theorem getD_orL (a b : List Bool) (h : a.length = b.length) (k : Nat) :
    (orL a b).getD k false = (a.getD k false || b.getD k false) :=
  getD_zipWith (· || ·) a b false false false rfl h k

def Sub (a b : List Bool) : Prop := a.length = b.length ∧ ∀ j : Nat, a[j]? = some true → b[j]? = some true

theorem Sub.orL_right {p a : List Bool} (hl : p.length = a.length) : Sub a (orL p a) := by
  refine ⟨(length_orL p a hl).symm, fun j h => ?_⟩
  obtain ⟨hj, _⟩ := List.getElem?_eq_some_iff.mp h
  unfold orL
  rw [List.getElem?_zipWith, List.getElem?_eq_getElem (hl ▸ hj), h]
  simp

theorem Sub.append {a a' b b' : List Bool} (ha : Sub a a') (hb : Sub b b') : Sub (a ++ b) (a' ++ b') := by
  have hl := ha.1
  refine ⟨by rw [List.length_append, List.length_append, hl, hb.1], fun i h => ?_⟩
  by_cases hi : i < a.length
  · rw [List.getElem?_append_left hi] at h
    rw [List.getElem?_append_left (hl ▸ hi)]
    exact ha.2 i h
  · rw [List.getElem?_append_right (by omega)] at h
    rw [List.getElem?_append_right (by omega), ← hl]
    exact hb.2 _ h

theorem Sub.flatten_map {α} (l : List α) (f g : α → List Bool) (h : ∀ p ∈ l, Sub (f p) (g p)) :
    Sub (l.map f).flatten (l.map g).flatten := by
  induction l with
  | nil => exact ⟨rfl, fun _ h => h⟩
  | cons p ps ih =>
    simp only [List.map_cons, List.flatten_cons]
    exact (h p List.mem_cons_self).append (ih fun q hq => h q (List.mem_cons_of_mem _ hq))

theorem Sub.frameData {a b : List Bool} (h : Sub a b) (fam : Family) (rows : Nat) :
    Sub (frameData fam rows a) (frameData fam rows b) := by
  -- tiling is the flattening of a constant map
  have ht : Sub (tileRows rows a) (tileRows rows b) := by
    have := Sub.flatten_map (List.replicate rows ()) (fun _ => a) (fun _ => b) fun _ _ => h
    simpa only [tileRows, List.map_replicate] using this
  cases fam
  · exact ht
  · exact ht
  · exact h

theorem acsFrame_length (fam : Family) (rows cols : Nat) (spec : AcsSpec) (p a : List Bool)
    (hp : p.length = patLen fam rows cols) (h : acsFrame fam rows cols spec p = some a) :
    a.length = patLen fam rows cols := by
  unfold acsFrame at h
  cases fam <;> cases spec <;> simp only [patLen, reduceCtorEq] at h hp ⊢
  -- the four pairs of family and specification for which `acsFrame` is defined remain
  · -- `.line`, `.lines l`: the centre block
    cases h
    exact length_centerMask _ _
  · -- `.ktLine`, `.lines l`: `zero_pad_to_center`, no block for `l < 0`
    split at h
    · cases h
    · exact length_zeroPadRow _ _ _ h
  · -- `.disc`, `.disc r`
    cases h
    exact length_centeredDisk _ _ _
  · -- `.disc`, `.search thr`: `disc ∩ interior` for one of the radii
    obtain ⟨t, _, rfl⟩ := circusDisc_spec _ _ _ _ _ h
    unfold andL
    simp [length_diskLe, hp]

theorem frameData_length (fam : Family) (rows cols : Nat) (pat : List Bool) (h : pat.length = patLen fam rows cols) :
    (frameData fam rows pat).length = rows * cols := by
  cases fam <;> simp only [frameData, patLen] at h ⊢
  · rw [length_tileRows, h]
  · rw [length_tileRows, h]
  · exact h

theorem reshapeAndAddCoil_ok (m : Mode) (mask : Tensor Int) (shape : List Nat) (t : Tensor Bool)
    (h : reshapeAndAddCoil m mask shape = .ok t) :
    neededRank m ≤ shape.length ∧ mask.data.length = prod (maskShapeNoCoil m shape) ∧
    t = { shape := maskShape m shape, data := mask.data.map (· != 0) } := by
  unfold reshapeAndAddCoil at h
  split at h
  · cases h
  split at h
  · cases h
  rename_i hrank hlen
  cases h
  exact ⟨Nat.le_of_not_lt hrank, Decidable.not_not.mp hlen, rfl⟩

/-- inversion of a successful `assemble`, one direction only -/
theorem assemble_ok (g : Gen) (m : Mode) (shape : List Nat) (spec : AcsSpec) (racs : Bool)
    (interior : List (List Bool)) (t : Tensor Bool) (h : assemble g m shape spec racs interior = .ok t) :
    callRejects m.framed shape.length = false ∧
    (∀ p ∈ interior, (acsFrame g.family (rowsOf shape) (colsOf shape) spec p).isSome) ∧
    t.shape = maskShape m shape ∧
    t.data = (interior.map fun p => frameData g.family (rowsOf shape)
      (framePattern racs p ((acsFrame g.family (rowsOf shape) (colsOf shape) spec p).getD []))).flatten ∧
    neededRank m ≤ shape.length ∧ t.data.length = prod (maskShapeNoCoil m shape) := by
  unfold assemble at h
  split at h
  · cases h
  rename_i hguard
  split at h
  · cases h
  simp only [] at h
  split at h
  · cases h
  rename_i frames hframes
  unfold assembleFrames at hframes
  split at hframes
  · rename_i hall
    cases hframes
    obtain ⟨hrank, hlen, rfl⟩ := reshapeAndAddCoil_ok _ _ _ _ h
    refine ⟨?_, fun p hp => List.all_eq_true.mp hall p hp, rfl, ?_, hrank, ?_⟩
    · unfold callGuard at hguard
      split at hguard
      · cases hguard
      · rename_i hc; exact Bool.eq_false_iff.mpr hc
    · simp only [bool_roundtrip]
    · simp only [List.length_map] at hlen ⊢
      exact hlen
  · cases hframes

end DirectVerif.MaskGeom
