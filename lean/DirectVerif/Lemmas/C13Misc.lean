import DirectVerif.Lemmas.C13Bvs
/-!
The samplers other than `BatchVolumeSampler`, each reduced to a list notion: a `slice` of a layout is a
layout again (a rank's volumes), `ConcatDatasetBatchSampler.batch_sampler` is `chunksOf` of the shifted
stream with offsets `concatOffset = ` sum of the preceding sizes, and `islice(xs, start, None, step)[k] =
xs[start + k·step]` (the `DistributedSampler` stride).
-/
namespace DirectVerif.Sampler
open DirectVerif

theorem volsFrom_drop (id off : Nat) (ns : List Nat) (a : Nat) :
    (volsFrom id off ns).drop a = volsFrom (id + a) (off + (ns.take a).sum) (ns.drop a) := by
  induction ns generalizing id off a with
  | nil => rw [List.drop_nil, volsFrom, List.drop_nil, volsFrom]
  | cons n ns ih =>
    cases a with
    | zero => rfl
    | succ a =>
      rw [volsFrom, List.drop_succ_cons, List.take_succ_cons, List.sum_cons, List.drop_succ_cons, ih,
        Nat.add_assoc id, Nat.add_comm 1 a, Nat.add_assoc off]

theorem volsFrom_slice (id off : Nat) (ns : List Nat) (a b : Nat) :
    slice (volsFrom id off ns) a b = volsFrom (id + a) (off + (ns.take a).sum) (slice ns a b) := by
  rw [slice, volsFrom_take, volsFrom_drop, slice]
  rcases Nat.le_total a b with h | h
  · rw [List.take_take, Nat.min_eq_left h]
  · rw [(List.drop_eq_nil_of_le (Nat.le_trans (List.length_take_le _ _) h) : (ns.take b).drop a = []), volsFrom,
      volsFrom]

theorem batchLoop_eq_chunksOf (bs off : Nat) (hbs : 0 < bs) (stream : List Nat) :
    ∀ acc : List Nat, acc.length < bs →
      batchLoop bs off acc stream = chunksOf bs (acc ++ stream.map (· + off)) := by
  induction stream with
  | nil =>
    intro acc hacc
    rw [batchLoop, List.map_nil, List.append_nil]
    cases acc with
    | nil => rw [List.length_nil, if_neg (Nat.lt_irrefl 0), chunksOf_nil]
    | cons a as =>
      rw [List.length_cons, if_pos (Nat.zero_lt_succ _), chunksOf_of_length_le bs _ (List.cons_ne_nil _ _) (Nat.le_of_lt hacc)]
  | cons i is ih =>
    intro acc hacc
    have hle : (acc ++ [i + off]).length ≤ bs := by rw [List.length_append, List.length_singleton]; exact hacc
    rw [batchLoop, List.map_cons, List.append_cons acc (i + off) (is.map (· + off))]
    by_cases hfull : (acc ++ [i + off]).length = bs
    · rw [beq_iff_eq.mpr hfull, if_pos rfl, ih [] hbs, chunksOf_append_of_length_eq bs _ _ hbs hfull]
      rfl
    · rw [beq_eq_false_iff_ne.mpr hfull, if_neg Bool.false_ne_true]
      exact ih _ (Nat.lt_of_le_of_ne hle hfull)

theorem batchSampler_eq_chunksOf (bs off : Nat) (hbs : 0 < bs) (stream : List Nat) :
    batchSampler bs off stream = chunksOf bs (stream.map (· + off)) :=
  batchLoop_eq_chunksOf bs off hbs stream [] hbs

theorem chunksOf_piece_length {α} (k : Nat) (xs : List α) (m : Nat) (h : xs.length = m * k) :
    ∀ p ∈ chunksOf k xs, p.length = k := by
  intro p hp
  obtain ⟨j, hj, hlt⟩ := chunksOf_mem k xs p hp
  rw [h] at hlt
  rw [hj, List.length_take, List.length_drop, h, ← Nat.sub_mul]
  exact Nat.min_eq_left (Nat.le_mul_of_pos_left k (Nat.sub_pos_of_lt (Nat.lt_of_mul_lt_mul_right hlt)))

theorem concat_batch_props (bs off t : Nat) (hbs : 0 < bs) (full batch : List Nat)
    (hlen : full.length = (t + 1) * bs)
    (h : (batchSampler bs off full)[t]? = some batch) :
    batch.length = bs ∧ ∀ e ∈ batch, ∃ x ∈ full, e = x + off := by
  rw [batchSampler_eq_chunksOf bs off hbs] at h
  have hm : batch ∈ chunksOf bs (full.map (· + off)) := List.mem_of_getElem? h
  refine ⟨chunksOf_piece_length bs _ (t + 1) (by rw [List.length_map, hlen]) batch hm, fun e he => ?_⟩
  obtain ⟨x, hx, hxe⟩ := List.mem_map.mp (chunksOf_piece_subset bs _ batch hm e he)
  exact ⟨x, hx, hxe.symm⟩

theorem concatRunFrom_spec (sizes : List Nat) (bs : Nat) (streams : List (List Nat)) (draws : List Nat) :
    ∀ (counts : List Nat) (i m : Nat) (batch : List Nat), draws[i]? = some m →
      (concatRunFrom sizes bs streams counts draws)[i]? = some (some batch) →
      ∃ t, ((streams.getD m []).take ((t + 1) * bs)).length = (t + 1) * bs ∧
        (batchSampler bs (concatOffset sizes m) ((streams.getD m []).take ((t + 1) * bs)))[t]? = some batch := by
  induction draws with
  | nil => intro counts i m batch h; cases h
  | cons d ds ih =>
    intro counts i m batch hd hb
    cases i with
    | zero =>
      rw [List.getElem?_cons_zero, Option.some.injEq] at hd
      subst hd
      rw [concatRunFrom, List.getElem?_cons_zero, Option.some.injEq] at hb
      refine ⟨counts.getD d 0, ?_⟩
      split at hb
      · rename_i hl; exact ⟨hl, hb⟩
      · cases hb
    | succ i => exact ih _ i m batch hd hb

theorem cumsumFrom_getElem? (s : Nat) (sizes : List Nat) (i : Nat) (hi : i < sizes.length) :
    (cumsumFrom s sizes)[i]? = some (s + (sizes.take (i + 1)).sum) := by
  induction sizes generalizing s i with
  | nil => cases hi
  | cons e es ih =>
    cases i with
    | zero => rw [cumsumFrom, List.getElem?_cons_zero, List.take_succ_cons, List.take_zero, List.sum_cons,
        List.sum_nil, Nat.add_zero, Nat.add_comm]
    | succ i =>
      rw [cumsumFrom, List.getElem?_cons_succ, List.take_succ_cons, List.sum_cons,
        ih (s + e) i (Nat.lt_of_succ_lt_succ hi), Nat.add_assoc]

theorem concatOffset_eq (sizes : List Nat) (m : Nat) (hm : m ≤ sizes.length) :
    concatOffset sizes m = (sizes.take m).sum := by
  cases m with
  | zero => rfl
  | succ m =>
    rw [concatOffset, if_neg (Nat.succ_ne_zero m), Nat.add_sub_cancel, cumsum, List.getD_eq_getElem?_getD,
      cumsumFrom_getElem? 0 sizes m hm, Option.getD_some, Nat.zero_add]

theorem isliceAux_getElem? {α} (step : Nat) (hs : 0 < step) :
    ∀ (xs : List α) (s k : Nat), (isliceAux step xs s)[k]? = xs[s + k * step]? := by
  intro xs
  induction xs with
  | nil => intro s k; rw [isliceAux, List.getElem?_nil, List.getElem?_nil]
  | cons x xs ih =>
    intro s k
    cases s with
    | succ s => rw [isliceAux, ih s k, Nat.add_right_comm, List.getElem?_cons_succ]
    | zero =>
      rw [isliceAux, Nat.zero_add]
      cases k with
      | zero => rw [Nat.zero_mul, List.getElem?_cons_zero, List.getElem?_cons_zero]
      | succ k =>
        -- the countdown restarts at `step - 1`, and `(step - 1) + k·step + 1 = (k + 1)·step`
        rw [List.getElem?_cons_succ, ih (step - 1) k, Nat.succ_mul, ← Nat.sub_add_cancel hs,
          Nat.add_sub_cancel, ← Nat.add_assoc, List.getElem?_cons_succ, Nat.add_comm]

end DirectVerif.Sampler
