import DirectVerif.Model.DataConsistency
/-!
The blocks are modelled as functions of their arguments.  A real instance could also read what earlier calls left on it.
`Stateful` makes that explicit; the translated table `Gen.C19.dc_state_writes` lists every write a call can make; when it is
empty (`Bridge.C19.dc_state_writes_ok`) the answer of a call after any history is the answer of a first call.
-/
namespace DirectVerif.DataConsistency
universe u v w
variable {σ : Type u} {ι : Type v} {ο : Type w}

theorem applyWrites_nil (eff : StateWrite → σ → ι → σ) (s : σ) (i : ι) : applyWrites eff [] s i = s := rfl

theorem stateWritesOk_iff (ws : List StateWrite) (reach : List String) :
    stateWritesOk ws reach = true ↔ ws = [] ∧ ∀ r ∈ dcRequiredReach, r ∈ reach := by
  simp only [stateWritesOk, Bool.and_eq_true, List.isEmpty_iff, List.all_eq_true, List.contains_iff_mem]

theorem Stateful.after_of_no_update (b : Stateful σ ι ο) (h : ∀ s i, b.upd s i = s) (s : σ) (hist : List ι) :
    b.after s hist = s := by
  induction hist generalizing s with
  | nil => rfl
  | cons a t ih => simp only [Stateful.after, List.foldl_cons, h] at ih ⊢; exact ih s

/-- `eff` gives each table entry its meaning; the histories meant are the same tensor objects with other masks, other
scalings, buffers refilled in place, alternating problems -/
theorem dc_history_independent (ws : List StateWrite) (reach : List String) (h : stateWritesOk ws reach = true)
    (out : σ → ι → ο) (eff : StateWrite → σ → ι → σ) (s0 : σ) (hist : List ι) (i : ι) :
    (Stateful.mk out (applyWrites eff ws)).call s0 hist i = out s0 i := by
  obtain ⟨rfl, _⟩ := (stateWritesOk_iff ws reach).mp h
  exact congrArg (out · i) (Stateful.after_of_no_update _ (applyWrites_nil eff) s0 hist)

theorem dc_instance_independent (ws : List StateWrite) (reach : List String) (h : stateWritesOk ws reach = true)
    (out : σ → ι → ο) (eff : StateWrite → σ → ι → σ) (s0 : σ) (h1 h2 : List ι) (i : ι) :
    (Stateful.mk out (applyWrites eff ws)).call s0 h1 i = (Stateful.mk out (applyWrites eff ws)).call s0 h2 i := by
  rw [dc_history_independent ws reach h, dc_history_independent ws reach h]

/-- the predicate is not vacuous: a block that memoises its data term under the identity of the k-space argument answers
`5` instead of `0 = mask · data` when the same object comes back with another mask … -/
theorem memo_on_identity_violates :
    memoBlock.call none [(1, 1, 5)] (1, 0, 5) ≠ memoBlock.out none (1, 0, 5) := by decide

/-- … while its first call, repeated calls and calls with another object are all exact -/
theorem memo_on_identity_looks_fine :
    memoBlock.call none [] (1, 1, 5) = 5 ∧ memoBlock.call none [(1, 1, 5)] (1, 1, 5) = 5 ∧
      memoBlock.call none [(1, 1, 5)] (2, 0, 5) = 0 := by decide

example : stateWritesOk [] dcRequiredReach = true := (stateWritesOk_iff _ _).mpr ⟨rfl, fun _ h => h⟩
example : stateWritesOk [⟨"MRILogLikelihood", "MRILogLikelihood._data_term", "self", "_kspace_ref", "assign"⟩]
    dcRequiredReach = false := by decide

end DirectVerif.DataConsistency
