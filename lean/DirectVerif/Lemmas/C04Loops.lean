import DirectVerif.Lemmas.C06Assemble
/-!
C04 termination: the rejection loop of `gaussian_mask_1d/2d` exits on every fair candidate stream while the request fits
into the free cells; the pinned bisection of `VariableDensityPoissonMaskFunc.poisson` spins once the float midpoint
coincides with an end point.
-/
namespace DirectVerif.MaskGeom
open DirectVerif

theorem getD_set_mono (l : List Bool) (i j : Nat) (h : l.getD j false = true) :
    (l.set i true).getD j false = true := by
  rw [List.getD_eq_getElem?_getD] at h ⊢
  rw [List.getElem?_set]
  by_cases e : i = j
  · subst e
    by_cases hi : i < l.length
    · simp [hi]
    · rw [List.getElem?_eq_none (by omega)] at h; simp at h
  · simp [e, h]

/-- the `if` of `gaussLoop`: `0 <= ind < n and mask[ind] != 1` -/
abbrev accepts (mask : List Bool) (c : Int) : Prop := 0 ≤ c ∧ c < mask.length ∧ mask.getD c.toNat true = false

theorem gaussLoop_zero (mask : List Bool) (cands : List Int) : gaussLoop 0 mask cands = (mask, 0) := by
  cases cands <;> rfl

/-- Induction on `need`; inside, induction on the distance to the next occurrence of some free cell `i0` in the stream
(fairness supplies it): either an acceptable candidate comes earlier, or `i0` itself is accepted. -/
theorem gaussLoop_terminates (stream : Nat → Int) (n : Nat)
    (fair : ∀ k i, i < n → ∃ j, k ≤ j ∧ stream j = (i : Int)) :
    ∀ need (mask : List Bool), mask.length = n → need ≤ freeCount mask → ∀ k,
      ∃ fuel, (gaussLoop need mask ((List.range' k fuel).map stream)).2 = 0 := by
  intro need
  induction need with
  | zero => intro mask _ _ k; exact ⟨0, rfl⟩
  | succ need ih =>
    intro mask hlen hfree k
    obtain ⟨i0, hi0, hf0⟩ := List.mem_iff_getElem.mp (List.count_pos_iff.mp (show 0 < mask.count false by
      unfold freeCount at hfree; omega))
    obtain ⟨j, hkj, hj⟩ := fair k i0 (by omega)
    have accept : ∀ k', accepts mask (stream k') →
        ∃ fuel, (gaussLoop (need + 1) mask ((List.range' k' fuel).map stream)).2 = 0 := by
      intro k' hacc
      have hlt : (stream k').toNat < mask.length := by unfold accepts at hacc; omega
      obtain ⟨fuel, hfuel⟩ := ih (mask.set (stream k').toNat true) (by simp [hlen])
        (by have := count_set_false mask _ true hlt hacc.2.2; unfold freeCount at hfree ⊢; omega) (k' + 1)
      exact ⟨fuel + 1, by rw [List.range'_succ, List.map_cons, gaussLoop, if_pos hacc]; exact hfuel⟩
    have key : ∀ d k', accepts mask (stream (k' + d)) →
        ∃ fuel, (gaussLoop (need + 1) mask ((List.range' k' fuel).map stream)).2 = 0 := by
      intro d
      induction d with
      | zero => intro k' hacc; exact accept k' hacc
      | succ d ihd =>
        intro k' hacc
        by_cases h0 : accepts mask (stream k')
        · exact accept k' h0
        · rw [show k' + (d + 1) = k' + 1 + d by omega] at hacc
          obtain ⟨fuel, hfuel⟩ := ihd (k' + 1) hacc
          exact ⟨fuel + 1, by rw [List.range'_succ, List.map_cons, gaussLoop, if_neg h0]; exact hfuel⟩
    refine key (j - k) k ?_
    rw [show k + (j - k) = j by omega, hj]
    exact ⟨by omega, by omega, by simp [hi0, hf0]⟩

/-- two adjacent grid points whose midpoint is the lower one, acceleration too low: the state never changes -/
theorem bisectPinned_spins (mid : Nat → Nat → Nat) (f : Nat → Verdict) (lo hi : Nat) (hlt : lo < hi)
    (hm : mid lo hi = lo) (hv : f lo = .below) : ∀ fuel, bisectPinned mid f fuel lo hi = .outOfFuel := by
  intro fuel
  induction fuel with
  | zero => rfl
  | succ fuel ih =>
    unfold bisectPinned
    simp only [hlt, if_true, hm, hv]
    exact ih

theorem framePattern_length (racs : Bool) (p a : List Bool) (h : p.length = a.length) :
    (framePattern racs p a).length = a.length := by
  unfold framePattern
  cases racs
  · simp [length_orL p a h]
  · simp

theorem getElem?_orL (p a : List Bool) (c : Nat) (hp : c < p.length) (ha : c < a.length) :
    (orL p a)[c]? = some (p.getD c false || a.getD c false) := by
  unfold orL
  rw [List.getElem?_zipWith, List.getElem?_eq_getElem hp, List.getElem?_eq_getElem ha]
  simp [List.getD_eq_getElem?_getD, List.getElem?_eq_getElem hp, List.getElem?_eq_getElem ha]

theorem assembledFrame_length (fam : Family) (rows cols : Nat) (spec : AcsSpec) (racs : Bool) (p : List Bool)
    (hp : p.length = patLen fam rows cols) (hs : (acsFrame fam rows cols spec p).isSome) :
    (frameData fam rows (framePattern racs p ((acsFrame fam rows cols spec p).getD []))).length = rows * cols := by
  obtain ⟨a, ea⟩ := Option.isSome_iff_exists.mp hs
  have hal := acsFrame_length _ _ _ _ p a hp ea
  rw [ea, Option.getD_some]
  apply frameData_length
  rw [framePattern_length racs p a (by rw [hal, hp]), hal]

theorem frameData_cell (fam : Family) (hfam : fam ≠ .disc) (rows cols : Nat) (pat : List Bool)
    (hl : pat.length = cols) (r c : Nat) (hr : r < rows) (hc : c < cols) :
    (frameData fam rows pat)[r * cols + c]? = pat[c]? := by
  subst hl
  cases fam with
  | disc => exact absurd rfl hfam
  | line => exact getElem?_tileRows rows pat r c hr hc
  | ktLine => exact getElem?_tileRows rows pat r c hr hc

end DirectVerif.MaskGeom
