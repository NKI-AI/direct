import DirectVerif.Model.Crop
import DirectVerif.Lemmas.C10Bbox
/-!
# C10 — cropping and zero-padding are exact, centred and mutually inverse

About the hand-written model `Model/Crop.lean`; the tie to the code is `Bridge/C10.lean` plus the correspondence check.
-/
namespace DirectVerif.C10
open DirectVerif DirectVerif.Crop

/-- `center_crop`: start index = floor of half the size difference -/
theorem center_crop_lower_floor (n s : Int) :
    2 * centerCropLower n s ≤ n - s ∧ n - s ≤ 2 * centerCropLower n s + 1 := by
  unfold centerCropLower; omega

theorem center_crop_length {α} (s : Nat) (xs : List α) (h : s ≤ xs.length) :
    (centerCrop s xs).length = s := by
  rw [centerCrop_length, Nat.min_eq_left h]

theorem center_crop_window {α} (s : Nat) (xs : List α) (h : s ≤ xs.length) (i : Nat) (hi : i < s) :
    (centerCrop s xs)[i]? = xs[i + (xs.length - s) / 2]? := by
  rw [centerCrop_getElem?, if_pos hi]

theorem pad_length {α} (fill : α) (N : Nat) (xs : List α) (h : xs.length ≤ N) :
    (padTo fill N xs).length = N := by
  rw [padTo_length, Nat.max_eq_right h]

/-- `pad_tensor`: the data sits after `(N - n) / 2` fill values -/
theorem pad_places {α} (fill : α) (N : Nat) (xs : List α) (h : xs.length ≤ N) (i : Nat)
    (hi : i < xs.length) : (padTo fill N xs)[i + (N - xs.length) / 2]? = xs[i]? := by
  rw [padTo_eq, fPad_getElem?, if_neg (by omega), if_pos (by omega), Nat.add_sub_cancel]

/-- (the fill behind the data is the third region of `fPad_getElem?`) -/
theorem pad_fill_before {α} (fill : α) (N : Nat) (xs : List α) (i : Nat)
    (hi : i < (N - xs.length) / 2) : (padTo fill N xs)[i]? = some fill := by
  rw [padTo_eq, fPad_getElem?, if_pos hi]

/-- **C10: zero-padding followed by a centre crop back to the original size is the identity**, every parity -/
theorem pad_then_center_crop_id {α} (fill : α) (N : Nat) (xs : List α) (h : xs.length ≤ N) :
    centerCrop xs.length (padTo fill N xs) = xs := by
  apply List.ext_getElem?
  intro i
  rw [centerCrop_getElem?, pad_length fill N xs h]
  by_cases hi : i < xs.length
  · rw [if_pos hi, pad_places fill N xs h i hi]
  · rw [if_neg hi, List.getElem?_eq_none (by omega)]

/-- the pinned tree's `pad_tensor` (before/after swapped by the list reversal): regression witness, odd difference -/
theorem pad_swapped_violates :
    centerCrop 3 (padToSwapped (0 : Int) 6 [1, 2, 3]) ≠ [1, 2, 3] := by decide

theorem pairs_getD (l : List (Int × Int)) (f g : Int × Int → Int) (k : Nat) (hk : k < l.length) :
    ((l.flatMap fun d => [f d, g d]).getD (2 * k) 0, (l.flatMap fun d => [f d, g d]).getD (2 * k + 1) 0)
      = (f l[k], g l[k]) := by
  induction l generalizing k with
  | nil => simp at hk
  | cons d ds ih =>
    cases k with
    | zero => simp
    | succ k =>
      have hk' : k < ds.length := by simpa using hk
      have := ih k hk'
      simp only [List.flatMap_cons, List.cons_append, List.nil_append,
        show 2 * (k + 1) = 2 * k + 1 + 1 by omega, List.getD_cons_succ, List.getElem_cons_succ]
      exact this

/-- the flat list handed to `F.pad` gives the `k`-th axis from the last its `(before, after)` -/
theorem pad_pairs_axis (dims : List (Int × Int)) (k : Nat) (hk : k < dims.length) :
    padOfAxisFromLast (padPairs false dims) k =
      (padBefore (dims.reverse[k]'(by simpa using hk)).1 (dims.reverse[k]'(by simpa using hk)).2,
       padAfter (dims.reverse[k]'(by simpa using hk)).1 (dims.reverse[k]'(by simpa using hk)).2) := by
  have e : padPairs false dims =
      dims.reverse.flatMap fun d => [padBefore d.1 d.2, padAfter d.1 d.2] := by
    unfold padPairs
    rw [List.reverse_flatMap]
    congr 1
  unfold padOfAxisFromLast
  rw [e]
  exact pairs_getD dims.reverse (fun d => padBefore d.1 d.2) (fun d => padAfter d.1 d.2) k
    (by simpa using hk)

theorem bbox_length {α} (fill : α) (xs : List α) (coord : Int) (size : Nat) :
    (bboxSpec fill xs coord size).length = size := by
  simp [bboxSpec]

theorem bbox_inside_is_window {α} (fill : α) (xs : List α) (coord : Int) (size : Nat) (i : Nat)
    (hi : i < size) (h0 : 0 ≤ coord + i) (h1 : coord + i < xs.length) :
    (bboxSpec fill xs coord size)[i]? = xs[(coord + i).toNat]? := by
  rw [bboxSpec_getElem?, if_pos hi, if_pos ⟨h0, h1⟩]

theorem bbox_outside_is_fill {α} (fill : α) (xs : List α) (coord : Int) (size : Nat) (i : Nat)
    (hi : i < size) (h : coord + i < 0 ∨ (xs.length : Int) ≤ coord + i) :
    (bboxSpec fill xs coord size)[i]? = some fill := by
  rw [bboxSpec_getElem?, if_pos hi, if_neg (by omega)]

/-- **C10: `crop_to_bbox` = addressed window with pad fill, for every box** (inside, overlapping, touching, disjoint) -/
theorem bbox_correct {α} (fill : α) (xs : List α) (c : Int) (s : Nat) :
    cropToBbox fill xs c s = .ok (bboxSpec fill xs c s) := by
  obtain ⟨hw, hp⟩ := bbox_patch fill xs c s
  unfold cropToBbox
  simp only [Int.toNat_natCast]
  by_cases h0 : bboxLOff c = 0 ∧ bboxROff xs.length c s = 0
  · -- no offsets: the patch of the general path would be the region itself
    rw [if_pos h0, ← hp, h0.1, h0.2]
    have hs := Int.natCast_nonneg s
    simp [fPad, Int.min_eq_left hs, Int.max_eq_right hs]
  · rw [if_neg h0, if_pos hw, ← hp]
    rfl

/-- a box inside the axis — what `complex_random_crop` guarantees for its clipped corner, `0 ≤ lp ≤ n - s` -/
theorem bbox_inside_eq_slice {α} (fill : α) (xs : List α) (lp s : Nat) (h : lp + s ≤ xs.length) :
    cropToBbox fill xs lp s = .ok (slice xs lp (lp + s)) := by
  rw [bbox_correct, bboxSpec_eq_fPad fill xs lp s 0 0 lp (lp + s) (by omega) h (by omega) (.inr (by omega))
    (fun k _ _ _ => by omega)]
  simp [fPad]

theorem crop_to_largest_spec {α} (fill : α) (mx : Nat) (xs : List α) :
    cropToLargest1 fill mx xs = .ok (bboxSpec fill xs (cropToLargestStart mx xs.length) mx) :=
  bbox_correct fill xs _ mx

/-- `crop_to_largest` and `pad_tensor` place the data alike -/
theorem crop_to_largest_eq_pad {α} (fill : α) (mx : Nat) (xs : List α) (h : xs.length ≤ mx) :
    bboxSpec fill xs (cropToLargestStart mx xs.length) mx = padTo fill mx xs := by
  unfold cropToLargestStart
  rw [padTo_eq, bboxSpec_eq_fPad fill xs _ mx ((mx - xs.length) / 2) (mx - xs.length - (mx - xs.length) / 2) 0 xs.length
    (Nat.zero_le _) (Nat.le_refl _) (by omega) (.inr (by omega)) (fun k _ _ _ => by omega), slice_all]

/-- **`crop_to_largest` then a centre crop back to the item's size is the identity** (as repaired in 40ede8a) -/
theorem crop_to_largest_center_crop_id {α} (fill : α) (mx : Nat) (xs : List α) (h : xs.length ≤ mx) :
    centerCrop xs.length (bboxSpec fill xs (cropToLargestStart mx xs.length) mx) = xs := by
  rw [crop_to_largest_eq_pad fill mx xs h]
  exact pad_then_center_crop_id fill mx xs h

/-- the pinned tree (`-(max - n) // 2`, i.e. `ceil` fill values before the data): length 2 padded to 3 was `[pad, 1, 2]`,
centre-cropped back `[pad, 1]` -/
theorem crop_to_largest_pinned_violates :
    cropToLargest1Pinned (0 : Int) 3 [1, 2] = .ok [0, 1, 2] ∧ centerCrop 2 [(0 : Int), 1, 2] ≠ [1, 2] := by decide

example : cropToLargest1 (9 : Int) 4 [1, 2] = .ok [9, 1, 2, 9] := by decide
example : cropToLargest1 (9 : Int) 3 [1, 2] = .ok [1, 2, 9] := by decide

theorem bbox_patch_dtype_preserved (d : ElemType) : patchDtype .full d = d := rfl

/-- pinned tree (`pad_value * ones(size, dtype=data.dtype)`): a bool input came back as an integer tensor; an allocation
without `dtype=` (seeded C10-2) turns everything into float -/
theorem bbox_patch_dtype_pinned_violates : patchDtype .scaledOnes .bool ≠ .bool ∧ patchDtype .noDtype .int ≠ .int := by decide

/-- **`PadKspace`**: the image of the padded k-space is the padded image, for any pair with `bwd ∘ fwd = id` -/
theorem pad_kspace_image_equiv {α} (o : KOps α) (hinv : ∀ y, o.bwd (o.fwd y) = y) (k : α) :
    o.bwd (runPlan o padKspacePlan k) = o.vr (o.pad (o.vc (o.bwd k))) := by
  simp only [runPlan, padKspacePlan, List.foldl, KOp.run, hinv]

/-- **`CropKspace`**: the image of the cropped k-space is the cropped image -/
theorem crop_kspace_image_equiv {α} (o : KOps α) (hinv : ∀ y, o.bwd (o.fwd y) = y) (k : α) :
    o.bwd (runPlan o cropKspacePlan k) = o.crop (o.bwd k) := by
  simp only [runPlan, cropKspacePlan, List.foldl, KOp.run, hinv]

theorem crop_pad_kspace_image_id {α} (o : KOps α) (hinv : ∀ y, o.bwd (o.fwd y) = y)
    (hcp : ∀ x, o.crop (o.vr (o.pad (o.vc x))) = x) (k : α) :
    o.bwd (runPlan o cropKspacePlan (runPlan o padKspacePlan k)) = o.bwd k := by
  rw [crop_kspace_image_equiv o hinv, pad_kspace_image_equiv o hinv, hcp]

example : ∀ y : List Int, (id ∘ id) y = y := fun _ => rfl
example : runPlan (α := List Int) ⟨id, id, id, id, padTo 0 6, centerCrop 3⟩ cropKspacePlan
    (runPlan ⟨id, id, id, id, padTo 0 6, centerCrop 3⟩ padKspacePlan [1, 2, 3]) = [1, 2, 3] := by decide

example : centerCrop 3 (padTo (0 : Int) 6 [1, 2, 3]) = [1, 2, 3] := by decide
example : centerCrop 2 (padTo (0 : Int) 7 [1, 2]) = [1, 2] := by decide
example : padTo (0 : Int) 6 [1, 2, 3] = [0, 1, 2, 3, 0, 0] := by decide
example : cropToBbox (9 : Int) [0, 1, 2, 3, 4] (-2) 4 = .ok [9, 9, 0, 1] := by decide
example : cropToBbox (9 : Int) [0, 1, 2, 3, 4] 7 2 = .ok [9, 9] := by decide   -- disjoint box

end DirectVerif.C10
