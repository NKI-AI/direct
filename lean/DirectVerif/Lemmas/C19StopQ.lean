import Mathlib.Tactic.FieldSimp
import DirectVerif.Lemmas.C19Stop
/-!
`Model/DataConsistency.lean : stopQ` decides `rk_norm_sq_new.abs().sqrt().mean() < tol` without square roots over the model's own
rational type `Q` (numerator / positive denominator, normalised by `Q.norm`).  Here: the cast `Q → ℝ`, the arithmetic
of `Q` commutes with it, and `stopQ tol rr = stopTol tol rr` under the cast — so the loop the driver executes stops exactly
when the loop of the theorems (`cg_exit_guarantee`) does.
-/
namespace DirectVerif.DataConsistency

noncomputable def Q.toReal (q : Q) : ℝ := (q.num : ℝ) / (q.den : ℝ)

/-- what `Q.norm` and the driver's `qOf` produce -/
def Q.WF (q : Q) : Prop := q.den ≠ 0

theorem Q.norm_spec (n : Int) (d : Nat) (hd : d ≠ 0) : (Q.norm n d).WF ∧ (Q.norm n d).toReal = (n : ℝ) / (d : ℝ) := by
  have hgd : Nat.gcd n.natAbs d ∣ d := Nat.gcd_dvd_right _ _
  have hgn : ((Nat.gcd n.natAbs d : ℕ) : ℤ) ∣ n := Int.natCast_dvd.mpr (Nat.gcd_dvd_left _ _)
  have hg : (((Nat.gcd n.natAbs d : ℕ) : ℤ) : ℝ) ≠ 0 := by
    exact_mod_cast (Nat.gcd_pos_of_pos_right _ (Nat.pos_of_ne_zero hd)).ne'
  unfold Q.norm
  rw [if_neg hd]
  refine ⟨fun h0 => hd (Nat.eq_zero_of_dvd_of_div_eq_zero hgd h0), ?_⟩
  -- both divisions by the gcd are exact, so they commute with the cast and cancel
  show ((n / ((Nat.gcd n.natAbs d : ℕ) : ℤ) : ℤ) : ℝ) / ((d / Nat.gcd n.natAbs d : ℕ) : ℝ) = _
  rw [← Int.cast_natCast (d / _), Int.natCast_div, Int.cast_div hgn hg,
    Int.cast_div (Int.natCast_dvd_natCast.mpr hgd) hg, div_div_div_cancel_right₀ hg, Int.cast_natCast]

theorem Q.ofInt_spec (n : Int) : (Q.ofInt n).WF ∧ (Q.ofInt n).toReal = n := by
  refine ⟨by simp [Q.WF, Q.ofInt], by simp [Q.toReal, Q.ofInt]⟩

theorem Q.zero_spec : Q.zero.WF ∧ Q.zero.toReal = 0 := by
  refine ⟨by simp [Q.WF, Q.zero], by simp [Q.toReal, Q.zero]⟩

theorem Q.mul_spec (a b : Q) (ha : a.WF) (hb : b.WF) : (a.mul b).WF ∧ (a.mul b).toReal = a.toReal * b.toReal := by
  have h := Q.norm_spec (a.num * b.num) (a.den * b.den) (Nat.mul_ne_zero ha hb)
  refine ⟨h.1, ?_⟩
  show (Q.norm (a.num * b.num) (a.den * b.den)).toReal = _
  rw [h.2]
  unfold Q.toReal
  push_cast
  rw [mul_div_mul_comm]

theorem Q.sub_spec (a b : Q) (ha : a.WF) (hb : b.WF) : (a.sub b).WF ∧ (a.sub b).toReal = a.toReal - b.toReal := by
  have h := Q.norm_spec (a.num * b.den - b.num * a.den) (a.den * b.den) (Nat.mul_ne_zero ha hb)
  refine ⟨h.1, ?_⟩
  show (Q.norm (a.num * b.den - b.num * a.den) (a.den * b.den)).toReal = _
  rw [h.2]
  unfold Q.toReal
  have h1 : (a.den : ℝ) ≠ 0 := by exact_mod_cast ha
  have h2 : (b.den : ℝ) ≠ 0 := by exact_mod_cast hb
  push_cast
  field_simp

theorem Q.abs_spec (a : Q) (ha : a.WF) : a.abs.WF ∧ a.abs.toReal = |a.toReal| := by
  refine ⟨ha, ?_⟩
  show ((a.num.natAbs : ℤ) : ℝ) / (a.den : ℝ) = |(a.num : ℝ) / (a.den : ℝ)|
  have hd : (0 : ℝ) < a.den := by exact_mod_cast Nat.pos_of_ne_zero ha
  rw [abs_div, abs_of_pos hd, Int.natCast_natAbs, Int.cast_abs]

theorem Q.lt_spec (a b : Q) (ha : a.WF) (hb : b.WF) : a.lt b = true ↔ a.toReal < b.toReal := by
  have h1 : (0 : ℝ) < a.den := by exact_mod_cast Nat.pos_of_ne_zero ha
  have h2 : (0 : ℝ) < b.den := by exact_mod_cast Nat.pos_of_ne_zero hb
  unfold Q.lt Q.toReal
  rw [decide_eq_true_iff, div_lt_div_iff₀ h1 h2]
  constructor
  · intro h; exact_mod_cast h
  · intro h; exact_mod_cast h

open DirectVerif.C19

noncomputable def gqToComplex (g : GQ) : ℂ := ⟨g.re.toReal, g.im.toReal⟩

theorem stopQ_eq_stopTol (tol : Q) (rr : GQ) (ht : tol.WF) (hre : rr.re.WF) (him : rr.im.WF) :
    stopQ tol rr = stopTol tol.toReal (gqToComplex rr) := by
  -- the rationals `stopQ` builds are well formed, and stand for `a = |re|`, `b = |im|`, `c = 4 tol² − a − b`, `4ab`, `c²`
  obtain ⟨wa, ea⟩ := Q.abs_spec rr.re hre
  obtain ⟨wb, eb⟩ := Q.abs_spec rr.im him
  obtain ⟨w4, e4⟩ := Q.ofInt_spec 4
  obtain ⟨wtt, ett⟩ := Q.mul_spec tol tol ht ht
  obtain ⟨w4tt, e4tt⟩ := Q.mul_spec (Q.ofInt 4) (tol.mul tol) w4 wtt
  obtain ⟨wc1, ec1⟩ := Q.sub_spec _ _ w4tt wa
  obtain ⟨wc, ec⟩ := Q.sub_spec _ _ wc1 wb
  obtain ⟨wab, eab⟩ := Q.mul_spec _ _ wa wb
  obtain ⟨w4ab, e4ab⟩ := Q.mul_spec (Q.ofInt 4) _ w4 wab
  obtain ⟨wcc, ecc⟩ := Q.mul_spec _ _ wc wc
  have hc : ((((Q.ofInt 4).mul (tol.mul tol)).sub rr.re.abs).sub rr.im.abs).toReal =
      4 * tol.toReal ^ 2 - |rr.re.toReal| - |rr.im.toReal| := by
    rw [ec, ec1, e4tt, ett, e4, ea, eb, Int.cast_ofNat, sq]
  have h4ab : ((Q.ofInt 4).mul (rr.re.abs.mul rr.im.abs)).toReal = 4 * |rr.re.toReal| * |rr.im.toReal| := by
    rw [e4ab, eab, e4, ea, eb, Int.cast_ofNat, mul_assoc]
  -- the three comparisons of `stopQ`, read over ℝ
  have h1 : Q.lt Q.zero tol = true ↔ 0 < tol.toReal := by
    rw [Q.lt_spec _ _ Q.zero_spec.1 ht, Q.zero_spec.2]
  have h2 : Q.lt Q.zero ((((Q.ofInt 4).mul (tol.mul tol)).sub rr.re.abs).sub rr.im.abs) = true ↔
      0 < 4 * tol.toReal ^ 2 - |rr.re.toReal| - |rr.im.toReal| := by
    rw [Q.lt_spec _ _ Q.zero_spec.1 wc, Q.zero_spec.2, hc]
  have h3 : Q.lt ((Q.ofInt 4).mul (rr.re.abs.mul rr.im.abs))
        (((((Q.ofInt 4).mul (tol.mul tol)).sub rr.re.abs).sub rr.im.abs).mul
          ((((Q.ofInt 4).mul (tol.mul tol)).sub rr.re.abs).sub rr.im.abs)) = true ↔
      4 * |rr.re.toReal| * |rr.im.toReal| < (4 * tol.toReal ^ 2 - |rr.re.toReal| - |rr.im.toReal|) ^ 2 := by
    rw [Q.lt_spec _ _ w4ab wcc, ecc, hc, h4ab, ← sq]
  rw [Bool.eq_iff_iff]
  unfold stopQ stopTol
  simp only [Bool.and_eq_true, decide_eq_true_iff]
  rw [h1, h2, h3, and_assoc]
  exact (stop_test_iff _ _ _ (abs_nonneg _) (abs_nonneg _)).symm

end DirectVerif.DataConsistency
