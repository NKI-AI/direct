import DirectVerif.Gen.C03
import DirectVerif.Model.Mask
/-!
# Bridge C03 — what the translator read in `/repo` is what the model says

* every `torch.where` that implements under-sampling has the predicate / branches of the model
  kernel (`mask == 0 ? +0 : data`, `padding == 1 ? +0 : data`), for every mask element type;
* the masked operators compose their stages in the modelled order, and — the decidable
  well-formedness the property theorems need — the forward operator *ends* with the mask and the
  backward operators *start* with it;
* `apply_mask` hands `kspace.shape[1:]` and the seed to the mask function, uses a tensor mask as is
  and asserts the complex axis; `MRILogLikelihood.forward` never uses the data or the prediction
  outside the data branch of a `where`.
-/
namespace DirectVerif.Bridge.C03
open DirectVerif DirectVerif.Mask DirectVerif.Gen.C03

theorem apply_mask_kernel_eq {μ : Type} [MaskVal μ] (mv : μ) (kv : FVal) :
    apply_mask_kernel mv kv = whereZero mv kv := by
  simp only [apply_mask_kernel, whereZero]

theorem apply_padding_kernel_eq {μ : Type} [MaskVal μ] (pv : μ) (dv : FVal) :
    apply_padding_kernel pv dv = wherePad pv dv := by
  simp only [apply_padding_kernel, wherePad]

theorem loglik_forward_kernel_eq {μ : Type} [MaskVal μ] (mv : μ) (kv : FVal) :
    loglik_forward_kernel mv kv = whereZero mv kv := by
  simp only [loglik_forward_kernel, whereZero]

theorem loglik_data_kernel_eq {μ : Type} [MaskVal μ] (mv : μ) (kv : FVal) :
    loglik_data_kernel mv kv = whereZero mv kv := by
  simp only [loglik_data_kernel, whereZero]

theorem loglik_no_raw_use : loglik_raw_uses = 0 := by decide

theorem a_star_kernel_eq {μ : Type} [MaskVal μ] (mv : μ) (kv : FVal) :
    a_star_kernel mv kv = whereZero mv kv := by
  simp only [a_star_kernel, whereZero]

theorem a_star_stages_eq : a_star_stages = bwdStages := by decide
theorem a_star_stages_wf : a_star_stages.head? = some .mask := by decide

theorem forward_operator_stages_eq : forward_operator_stages = fwdStages := by decide
theorem forward_operator_stages_wf : forward_operator_stages.getLast? = some .mask := by decide

theorem backward_operator_stages_eq : backward_operator_stages = bwdStages := by decide
theorem backward_operator_stages_wf : backward_operator_stages.head? = some .mask := by decide

/-- the mask function sees `kspace.shape[1:]` (as `applyMaskFunc` models), gets the seed, a tensor
mask is used unchanged, and the complex axis is asserted -/
theorem apply_mask_plan_eq : apply_mask_plan = (1, true, true, true) := by decide
theorem apply_mask_shape_slice_eq : apply_mask_shape_slice = (1, none) := by decide

/-- `ApplyMaskModule.forward`: nothing but the two key guards before its unconditional `T.apply_mask(sample[input_kspace_key],
sample[sampling_mask_key])`, result stored under the target key — i.e. `Mask.applyMaskModule` -/
theorem apply_mask_module_plan_eq : apply_mask_module_plan = (0, 0, true, true, true, true) := by decide

/-- every masking site under `direct/nn` is `torch.where(mask == 0, +0 of an explicit tensor dtype, data)`, a call of
`apply_mask`, or a call of a masked operator method; a product with a mask or a `masked_fill` breaks this -/
theorem nn_mask_sites_wf : nn_mask_sites.all Site.wf = true := by decide +kernel

/-- The four facts that compare the `func` column of `nn_mask_sites` with the tables of `Model/Mask.lean`, decided
together: to compare two names the kernel UTF-8-encodes both, and within one evaluation it does so once per name
instead of once per fact. -/
theorem nn_mask_sites_funcs :
    nn_mask_sites.all Site.accounted = true ∧
    oracleCovered.all (fun f => nn_mask_sites.any (fun s => s.func == f)) = true ∧
    expectedSiteCounts.all (fun fc => siteCount nn_mask_sites fc.1 == fc.2) = true ∧
    nn_mask_sites.all (fun s => expectedSiteCounts.any (fun fc => fc.1 == s.func)) = true := by decide +kernel

/-- every site lies in a function the oracle exercises, or in one listed in `Mask.structuralOnly` -/
theorem nn_mask_sites_accounted : nn_mask_sites.all Site.accounted = true := nn_mask_sites_funcs.1

theorem nn_mask_sites_present :
    oracleCovered.all (fun f => nn_mask_sites.any (fun s => s.func == f)) = true := nn_mask_sites_funcs.2.1

/-- the classes that contain masking sites keep no state between calls: no attribute write outside `__init__`, no
module-level container written from a method, no caching decorator (what `Mask.fwdOp` / `bwdOp` / `aStarOp` / `loglik`
presuppose) -/
theorem nn_state_writes_none : nn_state_writes = [] := by decide

/-! ## structural facts of the deciding functions, sites outside `direct/nn`, the pipeline transforms -/

/-- the deciding functions (private helpers followed): no return of an input tensor outside a `is None` guard, no state
written, no in-place update of an argument, no condition or loop range that depends on a tensor's shape, dtype or values
or on the training / grad mode.  Layout (number of returns, hoisted locals, extracted helpers) is not part of the facts. -/
theorem func_facts_eq : func_facts = expectedFacts := rfl
theorem func_facts_pure : func_facts.all FuncFacts.pure = true := by decide +kernel

/-- masking sites outside `direct/nn`: verified forms, mask algebra, or a weighting of an operand `apply_mask` has already
masked; a product of unmasked data with a mask (the pinned `kspace * acs_mask + 0.0`) breaks this -/
theorem data_mask_sites_wf : data_mask_sites.all Site.wfData = true := by decide +kernel

theorem nn_site_counts_eq :
    expectedSiteCounts.all (fun fc => siteCount nn_mask_sites fc.1 == fc.2) = true := nn_mask_sites_funcs.2.2.1
theorem nn_sites_all_counted :
    nn_mask_sites.all (fun s => expectedSiteCounts.any (fun fc => fc.1 == s.func)) = true := nn_mask_sites_funcs.2.2.2

/-- `CreateSamplingMask.__call__` is `Mask.createSamplingMask`: default shape `kspace.shape[1:]`, `None` entries from
`kspace.shape[1:-1]` then `+ (2,)`, complete shapes `+ (2,)`, seed = ord-tuple of the file name iff `use_seed`,
`mask_func(shape, seed, return_acs=False)`, padding cleared with `apply_padding`, stored afterwards -/
theorem create_sampling_mask_plan_eq :
    create_sampling_mask_plan = [true, true, true, true, true, true, true] := by decide

/-- the zero constant of `apply_mask` / `apply_padding` carries the dtype and device of the data -/
theorem where_zero_dtypes_eq : where_zero_dtypes =
    [("apply_mask", "kspace.dtype", "kspace.device"), ("apply_padding", "data.dtype", "data.device")] := rfl

/-- `ApplyZeroPadding.__call__` reads and writes the configured `kspace_key` / `padding_key` and nothing else -/
theorem apply_zero_padding_plan_eq : apply_zero_padding_plan = [true, true, true, true, true] := by decide

/-- every masking site outside the listed alternatives is **unconditional**: no `where` / `apply_mask` / masked-operator
call of a block sits under an `if` or a flag of its function (helpers inlined) -/
theorem nn_conditional_sites_eq : nn_conditional_sites = expectedConditionalSites := rfl

end DirectVerif.Bridge.C03
