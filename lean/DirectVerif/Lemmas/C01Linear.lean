import DirectVerif.Lemmas.TensorLift
import Mathlib.Algebra.BigOperators.Group.Finset.Basic
import Mathlib.Algebra.BigOperators.Ring.Finset
import Mathlib.Algebra.BigOperators.Group.List.Basic
import Mathlib.Algebra.BigOperators.Group.Finset.Sigma
/-!
# Liftings of *linear* per-fibre maps along two different axes commute

`Tensor.alongAxis a f` and `Tensor.alongAxis b g` do not commute for arbitrary `f`, `g`
(`TensorLift.alongAxis_comm_fails_in_general`).  They do when both act linearly on the fibres,
`(f xs)[k] = Σ_j A k j · xs[j]`, over a commutative semiring — the case of the per-axis DFT.
-/
namespace DirectVerif.TensorLift
open DirectVerif DirectVerif.Tensor
open scoped BigOperators

variable {R : Type} [CommSemiring R] [Inhabited R]

/-- on lists of length `n`, `f` is multiplication by the `m × n` matrix `A` -/
structure IsLinear (f : List R → List R) (n m : Nat) (A : Nat → Nat → R) : Prop where
  len : LenUniform f n m
  get : ∀ xs : List R, xs.length = n → ∀ k, k < m →
    (f xs).getD k default = ∑ j ∈ Finset.range n, A k j * xs.getD j default

theorem gather_fibres_getD_linear (D : List R) (outer n m inner : Nat) (f : List R → List R)
    (A : Nat → Nat → R) (hf : IsLinear f n m A) (o k i : Nat) (ho : o < outer) (hk : k < m) (hi : i < inner) :
    (gather (fibres D outer n inner f) outer m inner).getD (o * m * inner + k * inner + i) default =
      ∑ j ∈ Finset.range n, A k j * D.getD (o * n * inner + j * inner + i) default := by
  rw [gather_getD _ _ _ _ o k i ho hk hi, fibres_getD _ _ _ _ _ o i ho hi, hf.get _ (fibre_length ..) k hk]
  refine Finset.sum_congr rfl fun j hj => ?_
  rw [fibre_getD _ _ _ _ _ _ (Finset.mem_range.mp hj)]

theorem IsLinear.getD_map {f : List R → List R} {n m : Nat} {A : Nat → Nat → R} (hf : IsLinear f n m A) (φ : Nat → R)
    (k : Nat) (hk : k < m) :
    (f ((List.range n).map φ)).getD k default = ∑ j ∈ Finset.range n, A k j * φ j := by
  rw [hf.get _ (by simp) k hk]
  refine Finset.sum_congr rfl fun j hj => ?_
  simp [List.getD_eq_getElem?_getD, List.getElem?_range (Finset.mem_range.mp hj)]

/-- in either order the `(k, l)` entry is `Σ_u Σ_v Af k u · Ag l v · S u v` -/
theorem linear_slice_comm {f g : List R → List R} {n m nb mb : Nat} {Af Ag : Nat → Nat → R}
    (hf : IsLinear f n m Af) (hg : IsLinear g nb mb Ag) (S : Nat → Nat → R) (k l : Nat) (hk : k < m) (hl : l < mb) :
    (g ((List.range nb).map fun v => (f ((List.range n).map fun u => S u v)).getD k default)).getD l default =
      (f ((List.range n).map fun u => (g ((List.range nb).map fun v => S u v)).getD l default)).getD k default := by
  simp only [hf.getD_map _ k hk, hg.getD_map _ l hl, Finset.mul_sum]
  rw [Finset.sum_comm]
  exact Finset.sum_congr rfl fun u _ => Finset.sum_congr rfl fun v _ => mul_left_comm _ _ _

theorem alongAxis_comm_linear (t : Tensor R) (a b : Nat) (f g : List R → List R) (ma mb : Nat)
    (Af Ag : Nat → Nat → R) (hne : a ≠ b) (ha : a < t.shape.length) (hb : b < t.shape.length)
    (hf : IsLinear f (t.shape.getD a 1) ma Af) (hg : IsLinear g (t.shape.getD b 1) mb Ag) :
    (t.alongAxis a f).alongAxis b g = (t.alongAxis b g).alongAxis a f := by
  rcases Nat.lt_or_gt_of_ne hne with hab | hba
  · exact alongAxis_comm_of_slice t a b f g ma mb hab hb hf.len hg.len (linear_slice_comm hf hg)
  · exact (alongAxis_comm_of_slice t b a g f mb ma hba ha hg.len hf.len (linear_slice_comm hg hf)).symm

theorem gather2_linear_getD (D : List R) (A na M nb C ma mb : Nat) (f g : List R → List R)
    (Af Ag : Nat → Nat → R) (hf : IsLinear f na ma Af) (hg : IsLinear g nb mb Ag)
    (a k μ l c' : Nat) (ha : a < A) (hk : k < ma) (hμ : μ < M) (hl : l < mb) (hc : c' < C) :
    (gather (fibres (gather (fibres D A na (M * nb * C) f) A ma (M * nb * C)) (A * ma * M) nb C g)
        (A * ma * M) mb C).getD (((a * ma + k) * M + μ) * mb * C + l * C + c') default =
      ∑ y ∈ Finset.range nb, ∑ x ∈ Finset.range na,
        Ag l y * (Af k x * D.getD (((a * na + x) * M + μ) * nb * C + y * C + c') default) := by
  rw [lift4_getD _ _ _ _ _ _ _ _ a k μ l c' ha hk hμ hl hc, hg.getD_map _ l hl]
  refine Finset.sum_congr rfl fun y hy => ?_
  rw [lift2_getD D A na ma M nb C f a k μ y c' ha hk hμ (Finset.mem_range.mp hy) hc, hf.getD_map _ k hk, Finset.mul_sum]

omit [CommSemiring R] in
theorem alongAxis2_data (t : Tensor R) (a b : Nat) (f g : List R → List R) (ma mb : Nat)
    (hab : a < b) (hb : b < t.shape.length)
    (hf : LenUniform f (t.shape.getD a 1) ma) (hg : LenUniform g (t.shape.getD b 1) mb) :
    ∃ M, prod (t.shape.take b) = prod (t.shape.take a) * t.shape.getD a 1 * M ∧
      ((t.alongAxis a f).alongAxis b g).data =
        gather (fibres (gather (fibres t.data (prod (t.shape.take a)) (t.shape.getD a 1)
            (M * t.shape.getD b 1 * prod (t.shape.drop (b + 1))) f) (prod (t.shape.take a)) ma
            (M * t.shape.getD b 1 * prod (t.shape.drop (b + 1))))
          (prod (t.shape.take a) * ma * M) (t.shape.getD b 1) (prod (t.shape.drop (b + 1))) g)
          (prod (t.shape.take a) * ma * M) mb (prod (t.shape.drop (b + 1))) := by
  obtain ⟨M, hM1, hM2⟩ := shape_split2 t.shape a b hab hb
  have hne : a ≠ b := by omega
  have hsa : (t.alongAxis a f).shape = t.shape.set a ma := alongAxis_shape t a f ma hf
  have hnb : (t.alongAxis a f).shape.getD b 1 = t.shape.getD b 1 := by rw [hsa, getD_set_ne _ _ _ _ _ hne]
  refine ⟨M, ?_, ?_⟩
  · have h1 := hM1 (t.shape.getD a 1)
    rw [set_getD_self] at h1
    exact h1
  · rw [alongAxis_eq (t.alongAxis a f) b g mb (by rw [hnb]; exact hg), hnb, hsa, alongAxis_eq t a f ma hf]
    simp only []
    have h2 := hM2 (t.shape.getD b 1)
    rw [set_getD_self] at h2
    rw [hM1 ma, h2, List.drop_set_of_lt (show a < b + 1 by omega)]

/-- for axes `a < b`, with `A = Π shape[:a]`, `M = Π shape[a+1:b]`, `C = Π shape[b+1:]`: entry `(α, k, μ, l, c)` of
`alongAxis b g (alongAxis a f t)` is `Σ_y Σ_x Ag l y · Af k x · t(α, x, μ, y, c)` -/
theorem alongAxis2_linear_getD (t : Tensor R) (a b : Nat) (f g : List R → List R) (ma mb : Nat)
    (Af Ag : Nat → Nat → R) (hab : a < b) (hb : b < t.shape.length)
    (hf : IsLinear f (t.shape.getD a 1) ma Af) (hg : IsLinear g (t.shape.getD b 1) mb Ag) :
    ∃ M, prod (t.shape.take b) = prod (t.shape.take a) * t.shape.getD a 1 * M ∧
      ∀ α k μ l c, α < prod (t.shape.take a) → k < ma → μ < M → l < mb → c < prod (t.shape.drop (b + 1)) →
        ((t.alongAxis a f).alongAxis b g).data.getD
            (((α * ma + k) * M + μ) * mb * prod (t.shape.drop (b + 1)) + l * prod (t.shape.drop (b + 1)) + c) default =
          ∑ y ∈ Finset.range (t.shape.getD b 1), ∑ x ∈ Finset.range (t.shape.getD a 1),
            Ag l y * (Af k x * t.data.getD
              (((α * t.shape.getD a 1 + x) * M + μ) * t.shape.getD b 1 * prod (t.shape.drop (b + 1))
                + y * prod (t.shape.drop (b + 1)) + c) default) := by
  obtain ⟨M, hM, hdata⟩ := alongAxis2_data t a b f g ma mb hab hb hf.len hg.len
  refine ⟨M, hM, fun α k μ l c hα hk hμ hl hc => ?_⟩
  rw [hdata]
  exact gather2_linear_getD t.data _ _ M _ _ ma mb f g Af Ag hf hg α k μ l c hα hk hμ hl hc

theorem sum_map_range {M : Type} [AddCommMonoid M] (g : ℕ → M) (n : ℕ) :
    ((List.range n).map g).sum = ∑ i ∈ Finset.range n, g i := rfl

theorem sum_flatMap_range {M : Type} [AddCommMonoid M] (g : ℕ → List M) (n : ℕ) :
    ((List.range n).flatMap g).sum = ∑ o ∈ Finset.range n, (g o).sum := by
  induction n with
  | zero => simp
  | succ n ih => rw [List.range_succ, List.flatMap_append, List.sum_append, ih, Finset.sum_range_succ]; simp

omit [CommSemiring R] in
theorem sum_map_eq_range {M : Type} [AddCommMonoid M] (w : R → M) (L : List R) :
    (L.map w).sum = ∑ k ∈ Finset.range L.length, w (L.getD k default) := by
  conv_lhs => rw [← range_map_getD L default]
  rw [List.map_map, sum_map_range]; rfl

omit [CommSemiring R] in
theorem sum_gather_fibres {M : Type} [AddCommMonoid M] (w : R → M) (D : List R) (A n m I : Nat)
    (f : List R → List R) (hf : LenUniform f n m) :
    ((gather (fibres D A n I f) A m I).map w).sum =
      ∑ o ∈ Finset.range A, ∑ i ∈ Finset.range I, ((f (fibre D n I o i)).map w).sum := by
  unfold gather
  rw [List.map_flatMap, sum_flatMap_range]
  refine Finset.sum_congr rfl fun o ho => ?_
  rw [List.map_flatMap, sum_flatMap_range]
  simp only [List.map_map, sum_map_range]
  rw [Finset.sum_comm]
  refine Finset.sum_congr rfl fun i hi => ?_
  rw [sum_map_eq_range, hf _ (fibre_length ..)]
  refine Finset.sum_congr rfl fun k _ => ?_
  simp only [Function.comp]
  rw [fibres_getD _ _ _ _ _ o i (Finset.mem_range.mp ho) (Finset.mem_range.mp hi)]

omit [CommSemiring R] in
/-- a per-fibre map that preserves `Σ w` of every fibre preserves it over the whole (well-formed) tensor -/
theorem alongAxis_sum_eq {M : Type} [AddCommMonoid M] (w : R → M) (t : Tensor R) (axis : Nat)
    (f : List R → List R) (m : Nat) (hwf : t.data.length = prod t.shape) (hax : axis < t.shape.length)
    (hf : LenUniform f (t.shape.getD axis 1) m)
    (hE : ∀ xs : List R, xs.length = t.shape.getD axis 1 → ((f xs).map w).sum = (xs.map w).sum) :
    ((t.alongAxis axis f).data.map w).sum = (t.data.map w).sum := by
  have hn : t.shape.getD axis 1 = t.shape[axis] := by
    rw [List.getD_eq_getElem?_getD, List.getElem?_eq_getElem hax]; rfl
  have hD : t.data.length = prod (t.shape.take axis) * (t.shape.getD axis 1 * prod (t.shape.drop (axis + 1))) := by
    rw [hwf, prod_split _ _ hax, hn, Nat.mul_assoc]
  rw [alongAxis_eq t axis f m hf]
  show ((gather _ _ _ _).map w).sum = _
  rw [sum_gather_fibres w _ _ _ _ _ f hf]
  conv_rhs => rw [← gather_fibres_id t.data _ _ _ hD]
  rw [sum_gather_fibres w _ _ _ _ _ id (fun _ h => h)]
  refine Finset.sum_congr rfl fun o _ => Finset.sum_congr rfl fun i _ => ?_
  exact hE _ (fibre_length ..)

end DirectVerif.TensorLift
