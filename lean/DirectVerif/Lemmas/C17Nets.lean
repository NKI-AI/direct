import DirectVerif.Lemmas.C17
/-!
# C17: the individual networks, composed from the triples of `Lemmas/C17.lean`
-/
set_option linter.unusedSimpArgs false
namespace DirectVerif.C17L
open DirectVerif.Shapes

theorem step_popSame (s : Shape) (rest tr) : step .popSame ⟨s, s :: rest, tr⟩ = .ok ⟨s, rest, tr⟩ := by
  simp [step]

theorem step_swap (s t : Shape) (rest tr) : step .swap ⟨s, t :: rest, tr⟩ = .ok ⟨t, s :: rest, tr⟩ := rfl

section
open SRun
variable {s : Shape}

theorem unet_ok (L : Nat) (k : List Shape) (h : UAdm L s) : SRun (unet UnetP.std L) s k s k := by
  cases L with
  | zero => exact unetLv_ok 0 k h
  | succ L => exact unetLevel_ok (.conv (by decide) (by decide) (.emit .nil)) (unetLv_ok L) k h

theorem unet_fail (L : Nat) (k : List Shape) (hs : Pos s) (h : ¬ UAdm L s) : SFail (unet UnetP.std L) s k := by
  cases L with
  | zero => exact unetLv_fail 0 k hs h
  | succ L => exact unetLevel_fail (unetLv_fail L) k hs h

end

theorem pad16_sum (n : Nat) : pad16Lo n + pad16Hi n = mult16 n - n := by
  simp only [pad16Lo, pad16Hi]; omega

-- `omega` is slow on `min` over nested truncated subtractions: the two `min`s are resolved by hand
theorem unpad16_mult16 (n : Nat) : unpad16 n (mult16 n) = n := by
  have h1 := le_mult16 n
  have h2 := pad16_sum n
  rw [unpad16, Nat.min_eq_left (Nat.sub_le _ _), Nat.min_eq_left (by omega)]
  omega

section
open SRun
variable {s : Shape} {k : List Shape}

theorem pad16 : SRun [.pad16] s k (s.map mult16) (s :: k) := of_step fun _ => rfl

theorem unpad16_after : SRun [.unpad16] (s.map mult16) (s :: k) s k :=
  of_step fun tr => by simp only [step]; rw [zipWith_map_eq_self fun n _ => unpad16_mult16 n]

end

theorem unpadPow2_padPow2 (k n : Nat) : unpadPow2 k n (padPow2 k n) = n := by
  simp only [unpadPow2, padPow2, pow2Hi, pow2Lo]
  generalize 2 ^ k = P
  split
  · have := Nat.div_le_self (P - n) 2
    have e : P - (P - n - (P - n) / 2) = n + (P - n) / 2 := by omega
    rw [e, Nat.min_eq_left (Nat.le_add_left _ _), Nat.add_sub_cancel]
  · rw [Nat.sub_zero, Nat.min_eq_left (Nat.zero_le _), Nat.sub_zero]

section
open SRun
variable {s : Shape} {k : List Shape}

theorem padPow2_step (L : Nat) : SRun [.padPow2 L] s k (s.map (padPow2 L)) (s :: k) := of_step fun _ => rfl

theorem unpadPow2_after (L : Nat) : SRun [.unpadPow2 L] (s.map (padPow2 L)) (s :: k) s k :=
  of_step fun tr => by simp only [step]; rw [zipWith_map_eq_self fun n _ => unpadPow2_padPow2 L n]

theorem unet3d_ok (L : Nat) (k : List Shape) (h : UAdm L (s.map (padPow2 L))) : SRun (unet3d UnetP.std L) s k s k :=
  ((padPow2_step L).append (unet_ok L _ h)).append (unpadPow2_after L)

end

/-- admissibility of one axis below the first level; `r` levels still below -/
def belowOk : Nat → Nat → Bool
  | 0, n => n % 2 == 0 && decide (2 ≤ n)
  | r + 1, n => n % 2 == 0 && decide (2 ≤ n) && ((n / 2) % 2 == 0 || decide (2 ≤ n / 2)) && belowOk r (padEvenOut (n / 2))

/-- admissibility of one axis for `MWCNN(num_scales = S)` -/
def mwAxisOk : Nat → Nat → Bool
  | 0, _ => true
  | 1, n => decide (1 ≤ n) && (n % 2 == 0 || decide (2 ≤ n))
  | S + 2, n => decide (1 ≤ n) && (n % 2 == 0 || decide (2 ≤ n)) && belowOk S (padEvenOut n)

theorem belowOk_zero (n : Nat) : belowOk 0 n = true ↔ n % 2 = 0 ∧ 2 ≤ n := by
  simp only [belowOk, Bool.and_eq_true, beq_iff_eq, decide_eq_true_eq]

theorem belowOk_succ (r n : Nat) : belowOk (r + 1) n = true ↔
    (n % 2 = 0 ∧ 2 ≤ n) ∧ (n / 2 % 2 = 0 ∨ 2 ≤ n / 2) ∧ belowOk r (padEvenOut (n / 2)) = true := by
  simp only [belowOk, Bool.and_eq_true, Bool.or_eq_true, beq_iff_eq, decide_eq_true_eq, and_assoc]

theorem mwAxisOk_one (n : Nat) : mwAxisOk 1 n = true ↔ 1 ≤ n ∧ (n % 2 = 0 ∨ 2 ≤ n) := by
  simp only [mwAxisOk, Bool.and_eq_true, Bool.or_eq_true, beq_iff_eq, decide_eq_true_eq]

theorem mwAxisOk_succ_succ (S n : Nat) : mwAxisOk (S + 2) n = true ↔
    1 ≤ n ∧ (n % 2 = 0 ∨ 2 ≤ n) ∧ belowOk S (padEvenOut n) = true := by
  simp only [mwAxisOk, Bool.and_eq_true, Bool.or_eq_true, beq_iff_eq, decide_eq_true_eq, and_assoc]

theorem belowOk_even_pos {r n : Nat} (h : belowOk r n = true) : n % 2 = 0 ∧ 2 ≤ n := by
  cases r
  · exact (belowOk_zero n).mp h
  · exact ((belowOk_succ _ n).mp h).1

theorem Pos.padEven {s : Shape} (hs : Pos s) : Pos (s.map padEvenOut) :=
  Pos.map (fun n h => by simp only [padEvenOut]; omega) hs

theorem cropTo_padEven (n : Nat) : cropTo n (padEvenOut n) = n := by simp only [cropTo_eq_min, padEvenOut]; omega

theorem cropTo_iwt {n : Nat} (h : n % 2 = 0) : cropTo n (2 * padEvenOut (n / 2)) = n := by
  simp only [cropTo_eq_min, padEvenOut]; omega

theorem mw_pad (d : Nat) : d * (MwP.std.k - 1) = 2 * (MwP.std.k / 2 + d - 1) := by
  show d * (3 - 1) = 2 * (3 / 2 + d - 1); omega

theorem mwDown_keeps (d1 d2 : Nat) : Keeps (mwDown MwP.std d1 d2) :=
  .conv (by decide) (by decide) (.conv (mw_pad d1) (by decide) (.conv (mw_pad d2) (by decide) .nil))

theorem mwUp_keeps (d1 d2 : Nat) : Keeps (mwUp MwP.std d1 d2) :=
  .conv (mw_pad d1) (by decide) (.conv (mw_pad d2) (by decide) (.conv (by decide) (by decide) .nil))

section
open SRun

/-- the levels below a remembered even shape `t`: DWT halves, (pad to even, next level,) IWT doubles, the crop returns to `t` -/
theorem mwBelow_ok (r : Nat) : ∀ {t : Shape} (k : List Shape), (∀ n ∈ t, belowOk r n = true) →
    SRun (mwBelow MwP.std r) t (t :: k) t k := by
  induction r with
  | zero =>
    intro t k H
    have ev : ∀ n ∈ t, n % 2 = 0 := fun n hn => (belowOk_even_pos (H n hn)).1
    have hd : Pos (t.map (· / 2)) := fun m hm => by
      obtain ⟨n, hn, rfl⟩ := List.mem_map.mp hm
      have := belowOk_even_pos (H n hn); omega
    -- IWT doubles the halved even axes back to `t`: the crop removes nothing
    have crop : SRun [.popCropSame] ((t.map (· / 2)).map (MwP.std.r * ·)) (t :: k) t k := by
      rw [List.map_map]
      refine popCropSame fun n hn => show cropTo n (2 * (n / 2)) = n from ?_
      have := ev n hn
      simp only [cropTo_eq_min]
      omega
    rw [mwBelow]
    exact (cons (dwt ev) emit) |>.append (mwDown_keeps 2 3 _ _ hd) |>.append emit |>.append (mwUp_keeps 3 2 _ _ hd)
      |>.append (cons emit (cons scale (cons emit crop)))
  | succ r ih =>
    intro t k H
    have H' := fun n hn => (belowOk_succ r n).mp (H n hn)
    have ev : ∀ n ∈ t, n % 2 = 0 := fun n hn => (H' n hn).1.1
    have hd : Pos (t.map (· / 2)) := fun m hm => by
      obtain ⟨n, hn, rfl⟩ := List.mem_map.mp hm
      have := (H' n hn).1; omega
    have hp : Pos ((t.map (· / 2)).map padEvenOut) := hd.padEven
    have Hp : ∀ m ∈ (t.map (· / 2)).map padEvenOut, belowOk r m = true := by
      intro m hm
      obtain ⟨_, hm', rfl⟩ := List.mem_map.mp hm
      obtain ⟨n, hn, rfl⟩ := List.mem_map.mp hm'
      exact (H' n hn).2.2
    have hpe : ∀ m ∈ t.map (· / 2), m % 2 = 0 ∨ 2 ≤ m := fun m hm => by
      obtain ⟨n, hn, rfl⟩ := List.mem_map.mp hm
      exact (H' n hn).2.1
    -- IWT doubles the padded halves: at most the one padded sample is cropped
    have crop : SRun [.popCropSame] (((t.map (· / 2)).map padEvenOut).map (MwP.std.r * ·)) (t :: k) t k := by
      rw [List.map_map, List.map_map]
      exact popCropSame fun n hn => cropTo_iwt (ev n hn)
    rw [mwBelow]
    exact (cons (dwt ev) emit) |>.append (mwDown_keeps 2 1 _ _ hd)
      |>.append (cons emit (cons (padEven hpe) push))
      |>.append (ih _ Hp) |>.append (mwUp_keeps 2 1 _ _ hp)
      |>.append (cons emit (cons scale (cons emit crop)))

end

def dubAxisOk (n : Nat) : Bool := decide (1 ≤ n) && (n % 2 == 0 || decide (2 ≤ n))
/-- DIDN: the strided input convolution gives `(n − 1)/2 + 1`, which the first DUB must admit -/
def didnAxisOk (n : Nat) : Bool := decide (1 ≤ n) && dubAxisOk ((n - 1) / 2 + 1)

theorem convOk_half {n : Nat} (h : 1 ≤ n) : convOk 3 2 1 1 n = true := by simp [convOk]; omega
theorem half_pos (n : Nat) : 1 ≤ convOut 3 2 1 1 n := by simp only [convOut]; omega

/-- sub-pixel up-sampling of the strided convolution's output reaches the size before the convolution -/
theorem cropTo_up_down {n : Nat} (h : 1 ≤ n) : cropTo n (2 * convOut 3 2 1 1 n) = n := by
  simp only [cropTo_eq_min, convOut]; omega

section
open SRun
variable {t : Shape} {k : List Shape}

theorem conv3 (ht : Pos t) : SRun [.conv 3 1 1 1] t k t k := conv_same (by decide) (by decide) ht
theorem conv1 (ht : Pos t) : SRun [.conv 1 1 0 1] t k t k := conv_same (by decide) (by decide) ht

theorem down (ht : Pos t) : SRun [.push, .conv 3 2 1 1] t k (t.map (convOut 3 2 1 1)) (t :: k) :=
  cons push (conv fun n hn => convOk_half (ht n hn))

theorem up (ht : Pos t) : SRun [.conv 1 1 0 1, .scale 2] t k (t.map (2 * ·)) k := cons (conv1 ht) scale

theorem crop_up_down (ht : Pos t) : SRun [.popCropSame] ((t.map (convOut 3 2 1 1)).map (2 * ·)) (t :: k) t k := by
  rw [List.map_map]
  exact popCropSame fun n hn => cropTo_up_down (ht n hn)

/-- `DUB.forward`: pad to even (`e`), two strided levels (`e/2`, `e/4` rounded up) and back, crop to the input.  `em` is
whatever runs after each child module -/
theorem dubWith_ok {em : List Op} (hem : ∀ s k, SRun em s k s k) {x : Shape} (k : List Shape) (H : ∀ n ∈ x, 2 ≤ n) :
    SRun (dubWith DidnP.std em) x k x k := by
  have he : Pos (x.map padEvenOut) := Pos.padEven fun n hn => Nat.le_of_succ_le (H n hn)
  have h2 := Pos.map (fun n _ => half_pos n) he
  have h3 := Pos.map (fun n _ => half_pos n) h2
  unfold dubWith
  exact (cons push (cons (padEven fun n hn => Or.inr (H n hn)) (cons (conv3 he) (conv3 he)))) |>.append (hem _ _)
    |>.append (down he) |>.append (hem _ _)
    |>.append (conv3 h2) |>.append (hem _ _)
    |>.append (down h2) |>.append (hem _ _)
    |>.append (conv3 h3) |>.append (hem _ _)
    |>.append (up h3) |>.append (hem _ _)
    |>.append (cons (crop_up_down h2) (conv1 h2)) |>.append (hem _ _)
    |>.append (conv3 h2) |>.append (hem _ _)
    |>.append (up h2) |>.append (hem _ _)
    |>.append (cons (crop_up_down he) (conv1 he)) |>.append (hem _ _)
    |>.append (cons (conv3 he) (conv3 he)) |>.append (hem _ _)
    |>.append (conv3 he) |>.append (hem _ _)
    |>.append (popCropSame fun n _ => cropTo_padEven n)

theorem dub_ok (e : Bool) {x : Shape} (k : List Shape) (H : ∀ n ∈ x, 2 ≤ n) : SRun (dub DidnP.std e) x k x k := by
  cases e
  · exact dubWith_ok (fun _ _ => nil) k H
  · exact dubWith_ok (fun _ _ => emit) k H

theorem dubs_ok (m : Nat) {x : Shape} (k : List Shape) (H : ∀ n ∈ x, 2 ≤ n) : SRun (dubs DidnP.std m) x k x k := by
  induction m with
  | zero => exact nil
  | succ m ih => exact ((dub_ok false k H).append emit).append ih

theorem reconBlocks_keeps (nconv : Nat) : ∀ m, Keeps (reconBlocks DidnP.std nconv m)
  | 0 => Keeps.nil
  | m + 1 => ((Keeps.replicate (Keeps.conv (by decide) (by decide) Keeps.nil) nconv).append (Keeps.emit Keeps.nil)).append
      (reconBlocks_keeps nconv m)

end

theorem convNet_keeps (bn : Bool) : ∀ m, Keeps (convNet 3 1 bn m)
  | 0 => .nil
  | m + 1 => (((Keeps.conv (by decide) (by decide) (.emit .nil)).append (.ite (.emit .nil) .nil)).append
      (.ite .nil (.emit .nil))).append (convNet_keeps bn m)

section
open SRun
variable {s : Shape} {k : List Shape}

/-- replication padding by `pd` followed by an unpadded convolution whose dilated kernel spans `2·pd + 1` samples -/
theorem replPad_conv {c pd d : Nat} (hk : d * (c - 1) = 2 * pd) (hk1 : 1 ≤ c) (hs : Pos s) : SRun [.replPad pd, .conv c 1 0 d] s k s k := by
  have h1 : SRun [.replPad pd] s k (s.map (· + 2 * pd)) k := of_step fun tr => axes_ok k tr fun n hn => by simpa using hs n hn
  have h2 := conv (c := c) (st := 1) (pd := 0) (d := d) (s := s.map (· + 2 * pd)) (k := k) fun m hm => by
    obtain ⟨n, hn, rfl⟩ := List.mem_map.mp hm
    have := hs n hn; simp [convOk]; omega
  have e : (s.map (· + 2 * pd)).map (convOut c 1 0 d) = s := by
    rw [List.map_map]
    conv => rhs; rw [← List.map_id s]
    exact List.map_congr_left fun n hn => by
      have := hs n hn
      simp only [Function.comp_apply, convOut, id, Nat.div_one]; omega
  rw [e] at h2
  exact cons h1 h2

/-- block `idx` of the Conv2dGRU keeps the size: in both padding modes the padding is half the span of the dilated kernel -/
theorem gruBlock_keeps (repl : Bool) (idx : Nat) : Keeps (gruBlock repl idx) := by
  have hk : (if idx = 1 then 2 else 1) * ((if idx = 0 then 5 else 3) - 1) = 2 * (if idx = 0 ∨ idx = 1 then 2 else 1) := by
    by_cases h0 : idx = 0
    · subst h0; rfl
    · by_cases h1 : idx = 1
      · subst h1; rfl
      · simp [h0, h1]
  intro s k hs
  cases repl
  · exact conv_same hk (by split <;> decide) hs
  · exact replPad_conv hk (by split <;> decide) hs

theorem gruGate_ok (inorm : Bool) (hs : Pos s) (hn : inorm = true → 1 < numel s) : SRun (gruGate inorm) s k s k := by
  cases inorm
  · exact nil.append (conv_same (by decide) (by decide) hs)
  · exact (instNorm (hn rfl)).append (conv_same (by decide) (by decide) hs)

theorem gruLayers_ok (repl inorm : Bool) (hs : Pos s) (hn : inorm = true → 1 < numel s) :
    ∀ m, SRun (gruLayers repl inorm m) s k s k
  | 0 => nil
  | m + 1 => (gruLayers_ok repl inorm hs hn m) |>.append (gruBlock_keeps repl m s k hs) |>.append emit
      |>.append (gruGate_ok inorm hs hn) |>.append (gruGate_ok inorm hs hn) |>.append (gruGate_ok inorm hs hn)

end

/-- below the first level an axis is admissible iff it is even and longer than `2^r` (each level halves, and an odd half is
padded by one) -/
theorem belowOk_iff (r : Nat) : ∀ n, belowOk r n = true ↔ (n % 2 = 0 ∧ 2 ^ r < n) := by
  induction r with
  | zero => intro n; rw [belowOk_zero]; omega
  | succ r ih =>
    intro n
    rw [belowOk_succ, ih]
    -- with `m = n / 2`: the next level sees `m + m % 2`, which exceeds `2^r` iff `m` does — an odd `m ≥ 3` is not the power
    -- of two `2^r` (which is `1` or even)
    have hp : 2 ^ (r + 1) = 2 * 2 ^ r := by rw [Nat.pow_succ]; omega
    cases r with
    | zero => simp only [padEvenOut]; omega
    | succ r =>
      have hq : 2 ^ (r + 1) = 2 * 2 ^ r := by rw [Nat.pow_succ]; omega
      have : 1 ≤ 2 ^ r := Nat.one_le_two_pow
      simp only [padEvenOut]; omega

end DirectVerif.C17L
