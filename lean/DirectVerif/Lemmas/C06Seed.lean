import DirectVerif.Lemmas.C06Assemble
import DirectVerif.Model.C06Seed
/-!
The object machine of `Model/C06Seed.lean` on the code as it is (`SeedArg.unchanged`, `MemoPolicy.none`): with the seed
handed on unchanged and nothing remembered, a request is a function of its arguments, whatever the object has served
before.
-/
namespace DirectVerif.C06Seed
open DirectVerif DirectVerif.MaskGeom

variable {σ Seed : Type}

theorem call_eq (ops : RngOps σ Seed) (cfg : Cfg σ) (o : Obj σ) (c : Call Seed) :
    call ops cfg o c = (oneShot ops cfg c, o) := by
  unfold call callWith oneShot seededState
  cases c.returnAcs <;> rfl

theorem runWith_nil (a : SeedArg) (p : MemoPolicy) (ops : RngOps σ Seed) (cfg : Cfg σ) (o : Obj σ) :
    runWith a p ops cfg o [] = ([], o) := rfl

theorem run_eq (ops : RngOps σ Seed) (cfg : Cfg σ) (o : Obj σ) (cs : List (Call Seed)) :
    run ops cfg o cs = (cs.map (oneShot ops cfg), o) := by
  induction cs generalizing o with
  | nil => rfl
  | cons c cs ih =>
    have hc : callWith .unchanged .none ops cfg o c = (oneShot ops cfg c, o) := call_eq ops cfg o c
    unfold run at ih ⊢
    simp only [runWith, hc, ih o, List.map_cons]

theorem lastAnswer_append (ops : RngOps σ Seed) (cfg : Cfg σ) (o : Obj σ) (h : List (Call Seed)) (c : Call Seed) :
    lastAnswer .unchanged .none ops cfg o (h ++ [c]) = some (oneShot ops cfg c) := by
  have := run_eq ops cfg o (h ++ [c])
  unfold run at this
  unfold lastAnswer
  rw [this]
  simp

end DirectVerif.C06Seed
