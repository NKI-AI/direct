import DirectVerif.Gen.C20
import DirectVerif.Lemmas.C20Validate
/-!
# C20 — every shipped configuration and registered name resolves and validates

The quantifier of the property is a finite table (the YAML files under `projects/`, the config dataclasses, the modules
under `direct/nn`, the parameters of the builders) that the translator regenerates from /repo on every run
(`Gen/C20.lean`).  The checks are the executable model `Model/Config.lean` — the definitions the driver runs in the
correspondence check — and `decide +kernel` of a check on the generated table is a proof about that table.  That the
checker itself is right is proved generically in `Lemmas/C20Validate.lean`.

The findings of the pinned tree (stale key `cwn_conv`, non-existent JSSL engine names, toy inference masking name left
MISSING, `NormUnetModel2dConfig` without `@dataclass`, `ResNetConfig.image_init`) are repaired in /repo, so no file and no
class is excluded; the `…_pinned_violates` theorems keep the defects as witnesses on literal fragments.
-/
namespace DirectVerif.C20
open DirectVerif DirectVerif.Config DirectVerif.Gen.C20

def ofString (s : String) : Str := s.toList.map Char.toNat
/-- `symbols.length`, an id no key or value of any tree has, when the string is not interned -/
def symOf (s : String) : Sym := tables.symbols.idxOf (pack (ofString s))
def pathOf (c : Sym × Val) : PStr := tables.symbols.getD c.1 0

/-- every module of the configuration layer and of `direct.nn` imports on the running Python (a dataclass-instance
default — Python ≥ 3.11 `ValueError: mutable default` — shows up here first) -/
theorem imports_ok : importFailures = [] ∧ parseFailures = [] := by decide

/-- no field type was weakened to `Any` -/
theorem schema_complete : unsupportedTypes = [] := by decide

/-- One proposition, so that a single kernel evaluation walks the (long, append-nested) tables and resolves each distinct
name once; the theorems that follow are its components.

The engine rows are visited by index: they are pairs of packed names, and packed names with a common prefix
(`direct.nn.…`) agree in the low 64 bits, which is all the kernel's term hashing sees of a numeral — with the rows
themselves substituted, the terms of different rows collide in its caches. -/
theorem tables_evaluated :
    ((configs.all fun c => configOk tables c.2) = true ∧
     checkModelBlock tables (.map [(symOf "model_name", .str (symOf "unet.unet_2d.UnetModel2d") 0),
                                   (symOf "cwn_conv", .bool true)]) = .error .configKeyError ∧
     checkModelBlock tables (.map [(symOf "model_name", .str (symOf "unet.unet_2d.UnetModel2d") 0)]) = .ok () ∧
     (resolves tables.modules (engineTarget (ofString "unet.unet_2d.Unet2d") (some (ofString "UNetJSSLEngine"))) = false ∧
      resolves tables.modules (engineTarget (ofString "unet.unet_2d.Unet2d") (some (ofString "UNetSSLEngine"))) = false ∧
      resolves tables.modules (engineTarget (ofString "unet.unet_2d.Unet2d") (some (ofString "Unet2dJSSLEngine"))) = true ∧
      resolves tables.modules (engineTarget (ofString "unet.unet_2d.Unet2d") (some (ofString "Unet2dSSLEngine"))) = true ∧
      resolves tables.modules (engineTarget (ofString "unet.unet_2d.Unet2d") none) = true)) ∧
    (∀ m ∈ registeredModels, modelRegistered tables m = true) ∧
    (∀ i < registeredEngines.length, engineReachable tables (registeredEngines.getD i default) = true) ∧
    (∀ d ∈ registeredDatasets, datasetRegistered tables d = true) ∧
    (∀ m ∈ registeredMaskFuncs, maskFuncRegistered tables m = true) ∧
    ((∀ f ∈ referencedFunctionals, functionalResolves tables f = true) ∧
     (∀ l ∈ referencedLosses, l ∈ permissibleLosses)) := by decide +kernel

theorem configs_checked : (configs.all fun c => configOk tables c.2) = true := tables_evaluated.1.1

/-- C20 for the shipped files: model blocks name importable classes and merge into their config classes and into
`DefaultConfig` without unknown or ill-typed keys, operators and engine resolve, every dataset block names a masking
function and only transform keys that `build_mri_transforms` takes -/
theorem all_shipped_configs_ok : ∀ c ∈ configs, checkConfig tables c.2 = .ok () := fun c hc =>
  configOk_iff.mp (List.all_eq_true.mp configs_checked c hc)

theorem all_shipped_configs_validate : ∀ c ∈ configs, mergeCheck tables c.2 = .ok () := fun c hc =>
  (checkConfig_ok_iff.mp (all_shipped_configs_ok c hc)).1

/-- operators and engine; model, config and dataset config classes belong to the merge stage, masking functions to
the block stage -/
theorem all_names_resolve :
    ∀ c ∈ configs, operatorsCheck tables c.2 = .ok () ∧ engineCheck tables c.2 = .ok () := fun c hc =>
  let h := checkConfig_ok_iff.mp (all_shipped_configs_ok c hc)
  ⟨h.2.1, h.2.2.1⟩

theorem all_blocks_accepted : ∀ c ∈ configs, blocksCheck tables c.2 = .ok () := fun c hc =>
  (checkConfig_ok_iff.mp (all_shipped_configs_ok c hc)).2.2.2

example : configs.length = 87 := by decide
example : (configs.any fun c => configOk tables c.2) = true :=
  have h : configs ≠ [] := List.ne_nil_of_length_pos (by decide)
  List.any_eq_true.mpr ⟨_, List.head_mem h, List.all_eq_true.mp configs_checked _ (List.head_mem h)⟩

theorem stale_key_pinned_violates :
    checkModelBlock tables (.map [(symOf "model_name", .str (symOf "unet.unet_2d.UnetModel2d") 0),
                                  (symOf "cwn_conv", .bool true)]) = .error .configKeyError := tables_evaluated.1.2.1

example : checkModelBlock tables (.map [(symOf "model_name", .str (symOf "unet.unet_2d.UnetModel2d") 0)]) = .ok () :=
  tables_evaluated.1.2.2.1

/-- the pinned YAMLs named `UNetJSSLEngine` / `UNetSSLEngine` -/
theorem engine_name_pinned_violates :
    resolves tables.modules (engineTarget (ofString "unet.unet_2d.Unet2d") (some (ofString "UNetJSSLEngine"))) = false ∧
    resolves tables.modules (engineTarget (ofString "unet.unet_2d.Unet2d") (some (ofString "UNetSSLEngine"))) = false ∧
    resolves tables.modules (engineTarget (ofString "unet.unet_2d.Unet2d") (some (ofString "Unet2dJSSLEngine"))) = true ∧
    resolves tables.modules (engineTarget (ofString "unet.unet_2d.Unet2d") (some (ofString "Unet2dSSLEngine"))) = true ∧
    resolves tables.modules (engineTarget (ofString "unet.unet_2d.Unet2d") none) = true := tables_evaluated.1.2.2.2

theorem missing_mask_name_violates (t : Tables) (rest : List (Sym × Val)) :
    maskingCheck t (.map ((t.kName, .missing) :: rest)) = .error .missingMandatoryValue := by
  simp [maskingCheck, lookup]

/-- leaf keys flattened as `dict_flatten` does, `masking` removed as `build_transforms_from_environment` does -/
theorem transform_keys_accepted :
    ∀ k ∈ flattenKeys (match transformSchema.defaultVal with
                       | .map kvs => .map (removeKey tables.kMasking kvs)
                       | v => v), k ∈ builderParams := by decide +kernel

example : (flattenKeys transformSchema.defaultVal).length ≥ 30 := by decide +kernel

/-- 32 is fuel for the nesting depth; running out of it would make the check false -/
theorem defaults_wellformed : ∀ s ∈ schemas, defaultsOk 32 s.2 = true := by decide +kernel

/-- source scan for dataclass instances / mutable literals as class-level defaults -/
theorem no_instance_defaults : instanceDefaults = [] := by decide

example : schemas.length ≥ 40 := by decide +kernel

/-- the pinned defect: a config module whose class body evaluates `TensorboardConfig()` as a default cannot be imported
on Python ≥ 3.11; such a tree makes `imports_ok` and `no_instance_defaults` false — modelled by the tables only -/
example : (["direct/config/defaults.py:LoggingConfig.tensorboard"] : List String) ≠ [] := by decide

/-- every model class can be called with the fields of its config class, and every parameter it insists on is a field
(or an operator) -/
theorem model_configs_accepted : ∀ e ∈ modelInits, modelInitOk tables e = true := by decide +kernel

/-- pinned tree: `NormUnetModel2dConfig` had annotated attributes but no `@dataclass` -/
theorem no_undecorated_configs : undecoratedConfigs = [] := by decide

example : modelInits.length ≥ 15 := by decide +kernel

/-- reachable by `model_name`, config class where `load_model_config_from_name` looks, and — for an MRI model — default
engine where `setup_engine` looks -/
theorem all_registered_models_resolve : ∀ m ∈ registeredModels, modelRegistered tables m = true := tables_evaluated.2.1

theorem all_registered_engines_reachable : ∀ e ∈ registeredEngines, engineReachable tables e = true :=
  forall_mem_of_forall_getD tables_evaluated.2.2.1

theorem all_registered_datasets_resolve : ∀ d ∈ registeredDatasets, datasetRegistered tables d = true :=
  tables_evaluated.2.2.2.1

theorem all_registered_mask_functions_resolve : ∀ m ∈ registeredMaskFuncs, maskFuncRegistered tables m = true :=
  tables_evaluated.2.2.2.2.1

theorem all_transforms_types_accepted :
    ∀ n ∈ transformsTypes, transformsTypeAccepted transformSchema kTransformsType n = true := by decide +kernel

/-- metrics / regularizers against `direct.functionals`, losses against `MRIModelEngine.build_loss` -/
theorem all_referenced_functionals_resolve :
    (∀ f ∈ referencedFunctionals, functionalResolves tables f = true) ∧
    (∀ l ∈ referencedLosses, l ∈ permissibleLosses) := tables_evaluated.2.2.2.2.2

/-- C20 for the registered names, shipped or not -/
theorem all_registered_names_resolve :
    (∀ m ∈ registeredModels, modelRegistered tables m = true) ∧
    (∀ e ∈ registeredEngines, engineReachable tables e = true) ∧
    (∀ d ∈ registeredDatasets, datasetRegistered tables d = true) ∧
    (∀ m ∈ registeredMaskFuncs, maskFuncRegistered tables m = true) ∧
    (∀ n ∈ transformsTypes, transformsTypeAccepted transformSchema kTransformsType n = true) ∧
    (∀ f ∈ referencedFunctionals, functionalResolves tables f = true) ∧
    (∀ l ∈ referencedLosses, l ∈ permissibleLosses) :=
  ⟨all_registered_models_resolve, all_registered_engines_reachable, all_registered_datasets_resolve,
   all_registered_mask_functions_resolve, all_transforms_types_accepted, all_referenced_functionals_resolve.1,
   all_referenced_functionals_resolve.2⟩

example : registeredModels.length ≥ 15 ∧ registeredEngines.length ≥ 15 ∧ registeredDatasets.length ≥ 5 ∧
    registeredMaskFuncs.length ≥ 15 ∧ transformsTypes.length ≥ 2 ∧ referencedFunctionals.length ≥ 3 ∧
    referencedLosses.length ≥ 3 := by decide +kernel

theorem scan_covers_config_layer :
    ((["direct/config/defaults.py", "direct/data/datasets_config.py", "direct/common/subsample_config.py",
       "direct/nn/unet/config.py", "direct/nn/vsharp/config.py"].map ofString).all
        fun f => scannedSources.contains f) = true ∧
    scannedSources.length ≥ 20 := by decide +kernel

theorem validate_rejects_unknown_key (cls : Sym) (fields : List (Sym × Ty × Val)) (pre post : List (Sym × Val))
    (k : Sym) (v : Val) (hk : lookup k fields = none) (hpre : validateKVs fields pre = .ok ()) :
    validate (.struct cls fields) (.map (pre ++ (k, v) :: post)) = .error .configKeyError :=
  Config.validate_rejects_unknown_key cls fields pre post k v hk hpre

theorem validate_accepts_iff_wellTyped (ty : Ty) (v : Val) : validate ty v = .ok () ↔ WellTyped ty v :=
  Config.validate_ok_iff ty v

end DirectVerif.C20
