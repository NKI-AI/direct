import DirectVerif.Model.MaskGeom
import DirectVerif.Lemmas.Basic
import DirectVerif.Lemmas.TensorLift
/-!
List arithmetic under the mask geometry of `Model/MaskGeom.lean` (C04, C06): a shape of admissible rank is split as
`pre ++ [f,] a, b, c`, which turns the negative-index assignments of `_reshape_and_add_coil_axis` into an explicit
`maskShape`; counts of boolean lists are expressed through `countIn` so that interval arithmetic decides them.
-/
namespace DirectVerif.MaskGeom
open DirectVerif

theorem getElem?_flatten_uniform {α} (L : List (List α)) (m : Nat) (h : ∀ x ∈ L, x.length = m)
    (i j : Nat) (hj : j < m) : L.flatten[i * m + j]? = (L[i]?).bind (·[j]?) := by
  induction L generalizing i with
  | nil => simp
  | cons x xs ih =>
    have hx : x.length = m := h x List.mem_cons_self
    cases i with
    | zero => simp [List.getElem?_append_left (hx ▸ hj)]
    | succ i =>
      rw [List.flatten_cons, List.getElem?_append_right (by rw [hx, Nat.succ_mul]; omega), hx,
        show (i + 1) * m + j - m = i * m + j by rw [Nat.succ_mul]; omega]
      exact ih (fun y hy => h y (List.mem_cons_of_mem _ hy)) i

theorem length_flatten_uniform {α} (L : List (List α)) (m : Nat) (h : ∀ x ∈ L, x.length = m) :
    L.flatten.length = L.length * m := by
  rw [List.length_flatten, List.map_congr_left h, List.map_const', List.sum_replicate_nat]

theorem length_tileRows {α} (r : Nat) (row : List α) : (tileRows r row).length = r * row.length := by
  unfold tileRows
  rw [length_flatten_uniform _ row.length (by intro x hx; rw [List.eq_of_mem_replicate hx])]
  simp

theorem getElem?_tileRows {α} (r : Nat) (row : List α) (i j : Nat) (hi : i < r) (hj : j < row.length) :
    (tileRows r row)[i * row.length + j]? = row[j]? := by
  unfold tileRows
  rw [getElem?_flatten_uniform _ row.length (by intro x hx; rw [List.eq_of_mem_replicate hx]) i j hj]
  simp [hi]

/-- `assemble` hands the mask to `reshapeAndAddCoil` as 0/1 integers and reads it back as `!= 0` -/
theorem bool_roundtrip (l : List Bool) : (l.map fun b => if b then (1 : Int) else 0).map (· != 0) = l := by
  induction l with
  | nil => rfl
  | cons b bs ih => cases b <;> simp [ih]

theorem prod_nil : prod [] = 1 := rfl

theorem prod_replicate_one (k : Nat) : prod (List.replicate k 1) = 1 := by
  induction k with
  | zero => rfl
  | succ k ih => simp [List.replicate_succ, TensorLift.prod_cons, ih]

theorem exists_suffix (shape : List Nat) (k : Nat) (h : k ≤ shape.length) :
    ∃ pre suf, shape = pre ++ suf ∧ suf.length = k :=
  ⟨shape.take (shape.length - k), shape.drop (shape.length - k), (List.take_append_drop _ _).symm,
    by rw [List.length_drop]; omega⟩

theorem rank_decomp3 (shape : List Nat) (h : 3 ≤ shape.length) :
    ∃ pre a b c, shape = pre ++ [a, b, c] := by
  obtain ⟨pre, suf, e, hl⟩ := exists_suffix shape 3 h
  match suf, hl with
  | [a, b, c], _ => exact ⟨pre, a, b, c, e⟩

theorem rank_decomp4 (shape : List Nat) (h : 4 ≤ shape.length) :
    ∃ pre f a b c, shape = pre ++ [f, a, b, c] := by
  obtain ⟨pre, suf, e, hl⟩ := exists_suffix shape 4 h
  match suf, hl with
  | [f, a, b, c], _ => exact ⟨pre, f, a, b, c, e⟩

theorem fromEnd_append (pre suf : List Nat) (k : Nat) (hk : k ≤ suf.length) :
    fromEnd (pre ++ suf) k = fromEnd suf k := by
  unfold fromEnd
  rw [List.getD_eq_getElem?_getD, List.getD_eq_getElem?_getD, List.length_append,
    List.getElem?_append_right (by omega)]
  congr 2; omega

theorem setFromEnd_append (pre suf : List Nat) (k v : Nat) (hk : k ≤ suf.length) :
    setFromEnd (pre ++ suf) k v = pre ++ setFromEnd suf k v := by
  unfold setFromEnd
  rw [List.length_append, List.set_append_right _ _ (by omega)]
  congr 2; omega

theorem length_setFromEnd (xs : List Nat) (k v : Nat) : (setFromEnd xs k v).length = xs.length :=
  List.length_set

theorem maskShapeNoCoil_append (m : Mode) (pre suf : List Nat) (h : neededRank m ≤ suf.length) :
    maskShapeNoCoil m (pre ++ suf) = List.replicate pre.length 1 ++ maskShapeNoCoil m suf := by
  have h3 : 3 ≤ suf.length := by unfold neededRank at h; split at h <;> omega
  have h2 : 2 ≤ suf.length := by omega
  unfold maskShapeNoCoil applyAssign reshapeAssign reshapeAssignFramed
  rw [List.map_append, List.map_const' (l := pre)]
  cases hm : m.framed
  · simp only [List.foldl_cons, List.foldl_nil, fromEnd_append, setFromEnd_append, length_setFromEnd, List.length_map,
      h2, h3, Bool.false_eq_true, if_false]
  · have h4 : 4 ≤ suf.length := by simpa [neededRank, hm] using h
    simp only [List.foldl_cons, List.foldl_nil, fromEnd_append, setFromEnd_append, length_setFromEnd, List.length_map,
      h2, h3, h4, if_true]

theorem maskShapeNoCoil_static (pre : List Nat) (a b c : Nat) :
    maskShapeNoCoil .static (pre ++ [a, b, c]) = List.replicate pre.length 1 ++ [a, b, 1] :=
  maskShapeNoCoil_append .static pre [a, b, c] (Nat.le_refl 3)

theorem maskShapeNoCoil_framed (m : Mode) (hm : m.framed = true) (pre : List Nat) (f a b c : Nat) :
    maskShapeNoCoil m (pre ++ [f, a, b, c]) = List.replicate pre.length 1 ++ [f, a, b, 1] := by
  rw [maskShapeNoCoil_append m pre _ (by simp [neededRank, hm])]
  cases m with
  | static => cases hm
  | dynamic => rfl
  | multislice => rfl

theorem rowsOf_decomp (pre : List Nat) (a b c : Nat) : rowsOf (pre ++ [a, b, c]) = a :=
  fromEnd_append pre [a, b, c] 3 (Nat.le_refl 3)

theorem colsOf_decomp (pre : List Nat) (a b c : Nat) : colsOf (pre ++ [a, b, c]) = b :=
  fromEnd_append pre [a, b, c] 2 (Nat.le_succ 2)

theorem framesOf_framed (m : Mode) (hm : m.framed = true) (pre : List Nat) (f a b c : Nat) :
    framesOf m (pre ++ [f, a, b, c]) = f := by
  unfold framesOf
  rw [hm, if_pos rfl]
  exact fromEnd_append pre [f, a, b, c] 4 (Nat.le_refl 4)

theorem prod_maskShapeNoCoil_static (pre : List Nat) (a b c : Nat) :
    prod (maskShapeNoCoil .static (pre ++ [a, b, c])) = a * b := by
  rw [maskShapeNoCoil_static, TensorLift.prod_append, prod_replicate_one]
  simp [TensorLift.prod_cons, prod_nil]

theorem prod_maskShapeNoCoil_framed (m : Mode) (hm : m.framed = true) (pre : List Nat) (f a b c : Nat) :
    prod (maskShapeNoCoil m (pre ++ [f, a, b, c])) = f * a * b := by
  rw [maskShapeNoCoil_framed m hm, TensorLift.prod_append, prod_replicate_one]
  simp [TensorLift.prod_cons, prod_nil, Nat.mul_assoc]

theorem prod_maskShapeNoCoil (m : Mode) (shape : List Nat) (h : neededRank m ≤ shape.length) :
    prod (maskShapeNoCoil m shape) = framesOf m shape * (rowsOf shape * colsOf shape) := by
  cases hm : m.framed with
  | false =>
    obtain rfl : m = .static := by cases m <;> simp [Mode.framed] at hm ⊢
    obtain ⟨pre, a, b, c, rfl⟩ := rank_decomp3 shape (by simpa [neededRank, Mode.framed] using h)
    rw [prod_maskShapeNoCoil_static, rowsOf_decomp, colsOf_decomp]
    exact (Nat.one_mul _).symm
  | true =>
    obtain ⟨pre, f, a, b, c, rfl⟩ := rank_decomp4 shape (by simpa [neededRank, hm] using h)
    rw [prod_maskShapeNoCoil_framed m hm, framesOf_framed m hm,
      show pre ++ [f, a, b, c] = (pre ++ [f]) ++ [a, b, c] by simp, rowsOf_decomp, colsOf_decomp, Nat.mul_assoc]

theorem countIn_succ (p : Nat → Bool) (n : Nat) :
    countIn p (n + 1) = countIn p n + (if p n then 1 else 0) := by
  unfold countIn
  rw [List.range_succ, List.filter_append, List.length_append]
  by_cases h : p n <;> simp [h]

theorem countIn_interval (a b n : Nat) :
    countIn (fun i => decide (a ≤ i ∧ i < b)) n = min b n - min a n := by
  induction n with
  | zero => simp [countIn]
  | succ n ih =>
    rw [countIn_succ, ih]
    -- the three positions of `n` relative to `[a, b)`: in each of them all four `min` are known
    by_cases ha : a ≤ n
    · rw [Nat.min_eq_left ha, Nat.min_eq_left (Nat.le_succ_of_le ha)]
      by_cases hb : n < b
      · rw [Nat.min_eq_right (Nat.le_of_lt hb), Nat.min_eq_right hb, if_pos (by simp [ha, hb])]
        omega
      · have hb' : b ≤ n := Nat.le_of_not_lt hb
        rw [Nat.min_eq_left hb', Nat.min_eq_left (Nat.le_succ_of_le hb'), if_neg (by simp [hb])]
        rfl
    · have ha' : n + 1 ≤ a := Nat.lt_of_not_le ha
      rw [Nat.min_eq_right (Nat.le_of_succ_le ha'), Nat.min_eq_right ha', if_neg (by simp [ha]),
        Nat.sub_eq_zero_of_le (Nat.min_le_right b n), Nat.sub_eq_zero_of_le (Nat.min_le_right b (n + 1))]

theorem countIn_congr (p q : Nat → Bool) (n : Nat) (h : ∀ i, i < n → p i = q i) : countIn p n = countIn q n := by
  induction n with
  | zero => simp [countIn]
  | succ n ih =>
    rw [countIn_succ, countIn_succ, ih (fun i hi => h i (by omega)), h n (by omega)]

theorem count_true_eq_countIn (l : List Bool) :
    l.count true = countIn (fun i => l.getD i false) l.length := by
  -- `countIn` peeled at the first index instead of the last
  have succ_left : ∀ (p : Nat → Bool) (n : Nat),
      countIn p (n + 1) = (if p 0 then 1 else 0) + countIn (fun i => p (i + 1)) n := by
    intro p n
    induction n with
    | zero => by_cases h : p 0 <;> simp [countIn, h]
    | succ n ih => rw [countIn_succ, ih, countIn_succ]; omega
  induction l with
  | nil => simp [countIn]
  | cons x xs ih =>
    rw [List.length_cons, succ_left, List.count_cons, ih]
    simp only [List.getD_cons_zero, List.getD_cons_succ]
    cases x <;> simp <;> omega

theorem length_sliceMask (n : Nat) (lo hi : Int) : (sliceMask n lo hi).length = n := by
  simp [sliceMask]

theorem getD_sliceMask (n : Nat) (lo hi : Int) (i : Nat) :
    (sliceMask n lo hi).getD i false = decide (i < n ∧ normIdx n lo ≤ i ∧ i < normIdx n hi) := by
  unfold sliceMask
  rw [List.getD_eq_getElem?_getD, List.getElem?_map]
  by_cases h : i < n
  · rw [List.getElem?_range h]; simp [h]
  · rw [List.getElem?_eq_none (by simpa using h)]; simp [h]

theorem count_sliceMask (n : Nat) (lo hi : Int) :
    (sliceMask n lo hi).count true = min (normIdx n hi) n - min (normIdx n lo) n := by
  rw [count_true_eq_countIn, length_sliceMask, ← countIn_interval]
  apply countIn_congr
  intro i hi'
  rw [getD_sliceMask]
  simp [hi']

theorem normIdx_nonneg (n : Nat) (i : Nat) (h : i ≤ n) : normIdx n (i : Int) = i := by
  unfold normIdx
  have : ¬ ((i : Int) < 0) := by omega
  simp only [this, if_false]
  omega

theorem count_true_add_false (l : List Bool) : l.count true + l.count false = l.length := by
  induction l with
  | nil => rfl
  | cons x xs ih => cases x <;> simp <;> omega

theorem count_set_false (l : List Bool) (i : Nat) (d : Bool) (hi : i < l.length) (hf : l.getD i d = false) :
    (l.set i true).count false + 1 = l.count false := by
  have h1 := count_true_add_false (l.set i true)
  have h2 := count_true_add_false l
  rw [count_set_true l i d hi hf, List.length_set] at h1
  omega

end DirectVerif.MaskGeom
