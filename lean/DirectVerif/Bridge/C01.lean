import DirectVerif.Gen.C01
import DirectVerif.Model.Shift
import DirectVerif.Model.Fft
import DirectVerif.Lemmas.Basic
/-!
# Bridge C01 — what the translator read from `/repo` equals the hand-written model

* shift amounts of `fftshift` / `ifftshift`;
* `roll_one_dim`: the `%`, the two `narrow` windows and the operand order of `torch.cat`, assembled
  into `genRollOne` and proved equal to `Shift.rollOne` for every list and shift;
* the ordered, flag-guarded call sequence of `fft2` / `ifft2` and the per-element `dim` test.

A semantically equal rewrite of the Python keeps these provable; dropping / swapping a shift, using
the wrong transform or norm, moving a step out of its `if`, changing `n // 2` or a narrow offset
does not.
-/
namespace DirectVerif.Bridge.C01
open DirectVerif DirectVerif.Shift DirectVerif.Fft DirectVerif.Gen.C01

theorem fftshift_amount_eq (n : Int) : fftshift_amount n = fftshiftAmount n := by
  simp only [fftshift_amount, fftshiftAmount, fdiv_two]

theorem ifftshift_amount_eq (n : Int) : ifftshift_amount n = ifftshiftAmount n := by
  simp only [ifftshift_amount, ifftshiftAmount, fdiv_two]

def narrow {α} (xs : List α) (start len : Int) : List α := (xs.drop start.toNat).take len.toNat

def genRollOne {α} (shift : Int) (xs : List α) : List α :=
  let n : Int := xs.length
  if n = 0 then xs else
  let s := roll_one_dim_shift shift n
  if s = 0 then xs else
  let left := narrow xs (roll_left_start s n) (roll_left_len s n)
  let right := narrow xs (roll_right_start s n) (roll_right_len s n)
  (roll_cat_order.map fun i => if i = 0 then left else right).flatten

/-- **the translated `roll_one_dim` is the model's `rollOne`**, for every list and every shift -/
theorem roll_one_dim_eq {α} (shift : Int) (xs : List α) : genRollOne shift xs = rollOne shift xs := by
  simp only [genRollOne, rollOne, roll_one_dim_shift, roll_left_start, roll_left_len, roll_right_start,
    roll_right_len, roll_cat_order, narrow]
  by_cases hn : xs.length = 0
  · simp [hn]
  · have hn' : ¬ ((xs.length : Int) = 0) := by omega
    rw [if_neg hn', if_neg hn]
    have h0 : 0 ≤ Int.fmod shift xs.length := by
      rw [Int.fmod_eq_emod_of_nonneg _ (Int.natCast_nonneg _)]; exact Int.emod_nonneg _ hn'
    have h1 : Int.fmod shift xs.length < xs.length := by
      rw [Int.fmod_eq_emod_of_nonneg _ (Int.natCast_nonneg _)]; exact Int.emod_lt_of_pos _ (by omega)
    obtain ⟨k, hkdef⟩ : ∃ k, Int.fmod shift xs.length = k := ⟨_, rfl⟩
    simp only [hkdef] at h0 h1 ⊢
    by_cases hk : k = 0
    · simp [hk]
    · have hk' : ¬ (k.toNat = 0) := by omega
      rw [if_neg hk, if_neg hk']
      have e1 : ((xs.length : Int) - k).toNat = xs.length - k.toNat := by omega
      simp only [List.map_cons, List.map_nil, List.flatten_cons, List.flatten_nil, List.append_nil,
        e1, Int.toNat_zero, List.drop_zero, if_true, Nat.succ_ne_zero, if_false]
      rw [List.take_of_length_le (l := List.drop _ xs) (by simp only [List.length_drop]; omega)]

theorem fft2_plan_eq : fft2_plan = fft2Plan := by decide
theorem ifft2_plan_eq : ifft2_plan = ifft2Plan := by decide

theorem fft2_dim_ok_eq (d : Int) : fft2_dim_ok d = dimOk d := by
  simp only [fft2_dim_ok, dimOk, Bool.and_true]

theorem ifft2_dim_ok_eq (d : Int) : ifft2_dim_ok d = dimOk d := by
  simp only [ifft2_dim_ok, dimOk, Bool.and_true]

/-- `verify_fft_dtype_possible` (single precision only; real float32 only for power-of-two lengths) -/
theorem verify_fft_dtype_possible_eq (dt : DType) (lens : List Nat) :
    verify_fft_dtype_possible (dt == .complex64) (dt == .float32) (lens.all is_power_of_two) = dtypeOk dt lens := by
  have hp : is_power_of_two = isPow2 := by
    funext n; simp only [is_power_of_two, isPow2]
  rw [hp]
  -- whatever decision tree the source spells, it is a Boolean function of three inputs: compare by cases
  -- (complex64 and float32 are different dtypes, so the (true, true) row cannot occur)
  unfold dtypeOk
  generalize lens.all isPow2 = p
  cases dt <;> cases p <;> first | rfl | decide

/-! ### re-implementations outside `transforms.py`, purity of the functions of `transforms.py`, call sites -/

/-- `direct/data/fake.py: fft` is the centred orthonormal plan, every stage over the same two axes -/
theorem reimpl_fake_fft_ok : reimpl_fake_fft.ok = true ∧ reimpl_fake_fft.inverse = false := by decide
theorem reimpl_fake_ifft_ok : reimpl_fake_ifft.ok = true ∧ reimpl_fake_ifft.inverse = true := by decide
/-- `SheppLoganDataset.fft` (repaired: `ifftshift → fft2 → fftshift`, all over axes (1, 2)) -/
theorem reimpl_shepp_fft_ok : reimpl_shepp_fft.ok = true ∧ reimpl_shepp_fft.inverse = false := by decide

/-- no function of `transforms.py` in the mechanism (private helpers included) keeps state across calls, updates an argument
in place, reads an ambient torch mode, has a mutable default or a decorator, or returns early (except `roll_one_dim`'s
`if shift == 0: return data`, which the model has) -/
theorem transforms_pure : fn_facts.all FnFacts.pure = true := by decide
theorem transforms_all_listed :
    fn_facts.map (·.fn) = [.fft2, .ifft2, .roll, .rollOneDim, .fftshift, .ifftshift, .verifyDtype, .viewAsComplex, .viewAsReal] := by
  decide

/-- every call site under `direct/`: `dim` denotes distinct non-negative axis pairs / triples, only the three modelled flags
are overridden, with Boolean constants -/
theorem call_sites_ok : call_sites.all CallSite.ok = true := by decide

end DirectVerif.Bridge.C01
