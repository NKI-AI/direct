import DirectVerif.Gen.C10
import DirectVerif.Model.Crop
import DirectVerif.Model.C10Modules
import DirectVerif.Lemmas.Basic
/-!
# Bridge C10 — the arithmetic translated from `/repo` equals the hand-written model

Each lemma is closed by a fixed script (`unfold`/`simp` + `omega`); a semantically equal rewrite of
the Python keeps them provable, a change of the arithmetic does not.
-/
namespace DirectVerif.Bridge.C10
open DirectVerif DirectVerif.Crop DirectVerif.Gen.C10

/-- closing script for integer bridges: unfold both sides and Python's `max` / `min` / `// 2`, leave the rest to `omega`
(`<;>`: nothing is left when the two sides already agree after unfolding) -/
macro "bridge_arith" "[" ds:Lean.Parser.Tactic.simpLemma,* "]" : tactic =>
  `(tactic| (simp only [$ds,*, pyMax, pyMin, decide_eq_true_eq, fdiv_two] <;> omega))

theorem center_crop_width_lower_eq (dn2 sn2 dn1 sn1 : Int) :
    center_crop_width_lower dn2 sn2 dn1 sn1 = centerCropLower dn2 sn2 := by
  bridge_arith [center_crop_width_lower, centerCropLower]

theorem center_crop_width_upper_eq (dn2 sn2 dn1 sn1 : Int) :
    center_crop_width_upper dn2 sn2 dn1 sn1 = centerCropLower dn2 sn2 + sn2 := by
  bridge_arith [center_crop_width_upper, centerCropLower]

theorem center_crop_height_lower_eq (dn2 sn2 dn1 sn1 : Int) :
    center_crop_height_lower dn2 sn2 dn1 sn1 = centerCropLower dn1 sn1 := by
  bridge_arith [center_crop_height_lower, centerCropLower]

theorem center_crop_height_upper_eq (dn2 sn2 dn1 sn1 : Int) :
    center_crop_height_upper dn2 sn2 dn1 sn1 = centerCropLower dn1 sn1 + sn1 := by
  bridge_arith [center_crop_height_upper, centerCropLower]

/-- the guard of `center_crop`, however it is written (`not A or not B`, `not (A and B)`, `s ≥ 1` for `0 < s`, …): `simp`
turns both sides into propositions over the four comparisons, `omega` decides the equivalence -/
theorem center_crop_rejects_eq (dn2 sn2 dn1 sn1 : Int) :
    center_crop_rejects dn2 sn2 dn1 sn1 = (!(centerCropOk dn2 sn2) || !(centerCropOk dn1 sn1)) := by
  rw [Bool.eq_iff_iff]
  simp [center_crop_rejects, centerCropOk] <;> omega

theorem complex_center_crop_start_eq (n s : Int) : complex_center_crop_start n s = cccStart n s := by
  bridge_arith [complex_center_crop_start, cccStart]

theorem complex_center_crop_size_eq (n s : Int) : complex_center_crop_size n s = s := by
  bridge_arith [complex_center_crop_size]

theorem pad_tensor_before_eq (t i : Int) : pad_tensor_before t i = padBefore t i := by
  bridge_arith [pad_tensor_before, padBefore]

theorem pad_tensor_after_eq (t i : Int) : pad_tensor_after t i = padAfter t i := by
  bridge_arith [pad_tensor_after, padAfter, padBefore]

/-- the flat `F.pad` list: per axis `(left, right) = (before, after)`, last axis first — whether the source collects the
pairs first-to-last and reverses, or visits them last-to-first -/
theorem pad_tensor_pad_list_eq (dims : List (Int × Int)) :
    pad_tensor_pad_list dims = padPairs false dims := by
  unfold pad_tensor_pad_list padPairs
  -- push every `reverse` inside: both sides become `dims.reverse.flatMap (pair of one axis)`
  simp only [List.reverse_flatMap, Function.comp_def, List.reverse_cons, List.reverse_nil,
    List.nil_append, List.cons_append, Bool.false_eq_true, if_false]
  -- the pairs agree axis by axis
  congr 1
  funext ⟨t, i⟩
  bridge_arith [padAfter, padBefore, List.cons.injEq, and_true]

/-! `crop_to_bbox` offsets and slice bounds (element-wise reading of the numpy vector code) -/
theorem bbox_l_offset_eq (n c s : Int) : bbox_l_offset n c s = bboxLOff c := by
  bridge_arith [bbox_l_offset, bboxLOff]

theorem bbox_r_offset_eq (n c s : Int) : bbox_r_offset n c s = bboxROff n c s := by
  bridge_arith [bbox_r_offset, bboxROff]

theorem bbox_region_lo_eq (n c s : Int) : bbox_region_lo n c s = c + bboxLOff c := by
  bridge_arith [bbox_region_lo, bboxLOff]

theorem bbox_region_hi_eq (n c s : Int) :
    bbox_region_hi n c s = max (c + bboxLOff c) (c + s - bboxROff n c s) := by
  bridge_arith [bbox_region_hi, bboxLOff, bboxROff]

theorem bbox_patch_lo_eq (n c s : Int) : bbox_patch_lo n c s = bboxLOff c := by
  bridge_arith [bbox_patch_lo, bboxLOff]

theorem bbox_patch_hi_eq (n c s : Int) :
    bbox_patch_hi n c s = max (bboxLOff c) (s - bboxROff n c s) := by
  bridge_arith [bbox_patch_hi, bboxLOff, bboxROff]

/-! `PadKspace` / `CropKspace`: the chain of calls applied to the k-space is the modelled plan -/
theorem pad_kspace_plan_eq : Gen.C10.padKspacePlan = some Crop.padKspacePlan := by decide

theorem crop_kspace_plan_eq : Gen.C10.cropKspacePlan = some Crop.cropKspacePlan := by decide

/-- neither transform has an early `return` that would skip the plan -/
theorem kspace_plans_no_early_return :
    Gen.C10.padKspacePlanReturns = 1 ∧ Gen.C10.cropKspacePlanReturns = 1 := by decide

/-- the padded patch of `crop_to_bbox` is allocated with `full(size, pad_value, dtype=data.dtype)` on both paths -/
theorem bbox_patch_alloc_full : (Gen.C10.bboxPatchAlloc.map fun l => l.all (· == Crop.PatchAlloc.full)) = some true := by decide

/-- `crop_to_largest`: `crop_start = -((max_shape - shape) // 2)` -/
theorem crop_to_largest_start_eq (mx n : Int) : crop_to_largest_start mx n = cropToLargestStart mx n := by
  bridge_arith [crop_to_largest_start, cropToLargestStart]

/-! ### key plumbing, state, argument forms of the k-space modules (helper functions followed by the translator) -/

theorem pad_kspace_io_eq : Gen.C10.padKspacePlanIO = Crop.padKspaceIO := by decide

theorem crop_kspace_io_eq : Gen.C10.cropKspacePlanIO = Crop.cropKspaceIO := by decide

theorem rescale_kspace_io_eq : Gen.C10.rescaleKspaceIO = Crop.rescaleKspaceIO := by decide

/-- no method other than `__init__` (nor a private helper it calls) writes instance, class or module state -/
theorem module_state_writes_none : Crop.stateWritesOk Gen.C10.moduleStateWrites = true := by decide

/-- every reference to a crop / pad primitive inside `direct/` resolves to the modelled definition -/
theorem primitive_callers_ok : Crop.callersOk Gen.C10.primitiveCallers = true := by decide +kernel

/-- the composites are still built on the modelled primitives (no call edge of the model was removed) -/
theorem primitive_edges_ok : Crop.edgesOk Gen.C10.primitiveEdges = true := by decide +kernel

/-- no primitive and no module call modifies an argument in place -/
theorem no_inplace_on_inputs : Gen.C10.inplaceOnInputs = [] := by decide

/-- every access to the sample uses the configured key or one of the documented side keys; nothing escapes -/
theorem module_key_access_ok : Crop.keyAccessOk Gen.C10.moduleKeyAccess = true := by decide +kernel

theorem crop_shape_resolve_eq (form : Crop.CropForm) (ndim : Int) (crop keyVal : List Int) (slices : Int) :
    Gen.C10.crop_shape_resolve form ndim crop keyVal slices = Crop.cropShapeResolve form ndim crop keyVal slices := by
  have h : ((crop.length : Int) = 2) ↔ crop.length = 2 := by omega
  cases form <;> simp [Gen.C10.crop_shape_resolve, Crop.cropShapeResolve, h]

/-- `PadCoilDimensionModule.forward`: the guard chain and the zero-coil count of the source are the model's decision -/
theorem pad_coil_forward_eq (num cur : Int) (hasKey : Bool) :
    Gen.C10.pad_coil_forward num cur hasKey = Crop.padCoilDecision num cur hasKey := by
  unfold Gen.C10.pad_coil_forward Crop.padCoilDecision
  by_cases h0 : num = 0
  · simp [h0]
  · cases hasKey
    · simp [h0]
    · by_cases h1 : cur > num
      · simp [h0, h1]
      · by_cases h2 : cur = num
        · simp [h0, h2]
        · have hm : pyMax (num - cur) 0 = max (num - cur) 0 := by
            simp only [pyMax]; split <;> omega
          simp [h0, h1, h2, hm]

/-- the zeros are concatenated IN FRONT of the data (`torch.cat([zeros, data], dim=self.coil_dim)`) -/
theorem pad_coil_cat_eq : Gen.C10.padCoilCat = Crop.padCoilCatModel := by decide

end DirectVerif.Bridge.C10
