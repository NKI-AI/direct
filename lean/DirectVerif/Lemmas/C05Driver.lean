import DirectVerif.Driver.C05
import DirectVerif.Props.C05
/-!
# C05 — the hypotheses of the property theorems, discharged for the bodies the driver executes

`Props/C05.lean` needs `SitesIn t.length prog` and `LibcOk false prog`.  The correspondence drives the model with bodies
built by `Driver.C05.progOf` from the *recorded* statements of real calls; both hypotheses are proved here for every
recorded event list with indices in range (`evsOk`, decidable on the protocol line) under a `.pyx` table in which every
kernel seeds first — so the theorems apply to exactly the programs whose outputs are diffed against the implementation.
-/
namespace DirectVerif.C05Driver
open DirectVerif DirectVerif.Rng DirectVerif.Driver.C05

/-- site indices of draws / reseeds are `< nSites`, kernel indices are `< nKernels` -/
def evsOk (nSites nKernels : Nat) : List Int → Bool
  | kind :: site :: _ :: es =>
    (if kind = 0 then decide (site.toNat < nSites)
     else if kind = 1 then decide (site.toNat < nSites)
     else decide (site.toNat < nKernels)) && evsOk nSites nKernels es
  | _ => true

theorem progOf_ok (n : Nat) (flags : List Bool) (hf : flags.all id = true) (key : List Int) :
    ∀ (evs acc : List Int) (last : Sym), evsOk n flags.length evs = true →
      SitesIn n (progOf flags key evs acc last) ∧ ∀ b, LibcOk b (progOf flags key evs acc last)
  | [], acc, last, _ => ⟨.ret _, fun _ => .ret _⟩
  | [_], acc, last, _ => ⟨.ret _, fun _ => .ret _⟩
  | [_, _], acc, last, _ => ⟨.ret _, fun _ => .ret _⟩
  | kind :: site :: r :: es, acc, last, h => by
    rw [evsOk, Bool.and_eq_true] at h
    have ih := fun acc' last' => progOf_ok n flags hf key es acc' last' h.2
    rw [progOf]
    by_cases h0 : kind = 0
    · have hs : site.toNat < n := by
        have := h.1
        rwa [if_pos h0, decide_eq_true_eq] at this
      simp only [h0, if_true]
      exact ⟨.draw hs fun v => (ih _ _).1, fun b => .draw fun v => (ih _ _).2 b⟩
    · by_cases h1 : kind = 1
      · have hs : site.toNat < n := by
          have := h.1
          rwa [if_neg h0, if_pos h1, decide_eq_true_eq] at this
        simp only [h1, if_true]
        exact ⟨.reseed hs (ih _ _).1, fun b => .reseed ((ih _ _).2 b)⟩
      · have hs : site.toNat < flags.length := by
          have := h.1
          rwa [if_neg h0, if_neg h1, decide_eq_true_eq] at this
        have hflag : flags.getD site.toNat false = true := getD_of_all hf hs false
        simp only [h0, h1, if_false, kernelProg, hflag, if_true]
        exact ⟨.srand (.crand fun x => (ih _ _).1), fun b => .srand (.crand fun x => (ih _ _).2 true)⟩

theorem bodyOf_ok (n : Nat) (flags : List Bool) (hf : flags.all id = true) (g : List Int × List Int)
    (hg : evsOk n flags.length g.2 = true) :
    SitesIn n (bodyOf flags g ()) ∧ LibcOk false (bodyOf flags g ()) :=
  ⟨(progOf_ok n flags hf g.1 g.2 [] [] hg).1, (progOf_ok n flags hf g.1 g.2 [] [] hg).2 false⟩

/-- **history independence of the driver's own calls**: no hypothesis left but the decidable ones -/
theorem driver_call_history_independent (t : Table) (ht : tableOk t = true) (flags : List Bool)
    (hf : flags.all id = true) (g : List Int × List Int) (hg : evsOk t.length flags.length g.2 = true)
    (s : Int) (i i' : Nat) (st st' : State Sym Sym) :
    (call t symOps (bodyOf flags g ()) (some s) i st).1 = (call t symOps (bodyOf flags g ()) (some s) i' st').1 :=
  C05.seeded_call_history_independent t ht symOps _ (bodyOf_ok t.length flags hf g hg).1
    (bodyOf_ok t.length flags hf g hg).2 s i i' st st'

theorem driver_call_restores (t : Table) (ht : tableOk t = true) (flags : List Bool)
    (hf : flags.all id = true) (g : List Int × List Int) (hg : evsOk t.length flags.length g.2 = true)
    (seed : Option Int) (i : Nat) (st : State Sym Sym) :
    (call t symOps (bodyOf flags g ()) seed i st).2.priv = st.priv ∧
    (call t symOps (bodyOf flags g ()) seed i st).2.np = st.np ∧
    (call t symOps (bodyOf flags g ()) seed i st).2.torch = st.torch ∧
    (call t symOps (bodyOf flags g ()) seed i st).2.py = st.py :=
  C05.seeded_call_restores t ht symOps _ (bodyOf_ok t.length flags hf g hg).1 seed i st

/-! non-vacuity -/
example : evsOk 20 3 [1, 4, 0, 0, 0, 0, 0, 8, 1, 2, 0, 2] = true := by decide
example : evsOk 20 3 [2, 99, 0] = false := by decide
example : (call [⟨.priv, true⟩] symOps (bodyOf [true] ([7], [0, 0, 1, 2, 0, 2]) ()) (some 3) 0 initState).1 =
    (call [⟨.priv, true⟩] symOps (bodyOf [true] ([7], [0, 0, 1, 2, 0, 2]) ()) (some 3) 5
      { initState with libc := [9, 9], np := [8] }).1 := by decide +kernel

end DirectVerif.C05Driver
