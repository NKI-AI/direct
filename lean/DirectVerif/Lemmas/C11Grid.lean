import DirectVerif.Model.SslSplit
import DirectVerif.Lemmas.Basic
/-!
# C11 — boolean grids through their cells

A mask is a flat `List Bool`.  Everything later is stated through `cell g k` (`false` outside the grid), so that
list lengths and `getD` stay in this file.
-/
namespace DirectVerif.C11
open DirectVerif DirectVerif.SslSplit

-- lets `decide` close equations between results of `uniformFill` / `uniformSplit` (`Except UErr _`) in `Props/C11.lean`
deriving instance DecidableEq for Except

def cell (g : Grid) (k : Nat) : Bool := g.getD k false

def Sub (a b : Grid) : Prop := ∀ k, cell a k = true → cell b k = true

theorem cell_eq_getElem (g : Grid) (k : Nat) (h : k < g.length) : cell g k = g[k] := by
  simp [cell, List.getD_eq_getElem?_getD, List.getElem?_eq_getElem h]

theorem cell_of_ge (g : Grid) (k : Nat) (h : g.length ≤ k) : cell g k = false := by
  simp [cell, List.getD_eq_getElem?_getD, List.getElem?_eq_none h]

theorem cell_true_lt (g : Grid) (k : Nat) (h : cell g k = true) : k < g.length := by
  by_cases hk : k < g.length
  · exact hk
  · rw [cell_of_ge g k (by omega)] at h; cases h

theorem eq_of_cells (a b : Grid) (hl : a.length = b.length) (h : ∀ k, cell a k = cell b k) : a = b := by
  apply List.ext_getElem hl
  intro i h1 h2
  have := h i
  rwa [cell_eq_getElem a i h1, cell_eq_getElem b i h2] at this

@[simp] theorem length_gOr (a b : Grid) : (gOr a b).length = min a.length b.length := by simp [gOr]
@[simp] theorem length_gAnd (a b : Grid) : (gAnd a b).length = min a.length b.length := by simp [gAnd]
@[simp] theorem length_gAndNot (a b : Grid) : (gAndNot a b).length = min a.length b.length := by simp [gAndNot]
@[simp] theorem length_zeros (n : Nat) : (zeros n).length = n := by simp [zeros]
@[simp] theorem length_gNot (a : Grid) : (gNot a).length = a.length := by simp [gNot]

theorem cell_zipWith (f : Bool → Bool → Bool) (hf : f false false = false) (a b : Grid) (hl : a.length = b.length)
    (k : Nat) : cell (List.zipWith f a b) k = f (cell a k) (cell b k) :=
  getD_zipWith f a b false false false hf hl k

theorem cell_gOr (a b : Grid) (hl : a.length = b.length) (k : Nat) : cell (gOr a b) k = (cell a k || cell b k) :=
  cell_zipWith _ rfl a b hl k
theorem cell_gAnd (a b : Grid) (hl : a.length = b.length) (k : Nat) : cell (gAnd a b) k = (cell a k && cell b k) :=
  cell_zipWith _ rfl a b hl k
theorem cell_gAndNot (a b : Grid) (hl : a.length = b.length) (k : Nat) :
    cell (gAndNot a b) k = (cell a k && !cell b k) :=
  cell_zipWith _ rfl a b hl k

theorem cell_zeros (n k : Nat) : cell (zeros n) k = false := by
  by_cases hk : k < n
  · rw [cell_eq_getElem _ k (by simpa using hk)]; simp [zeros]
  · exact cell_of_ge _ k (by simp; omega)

theorem cnt_zeros (n : Nat) : cnt (zeros n) = 0 := by simp [cnt, zeros, List.count_replicate]

theorem cell_mapIdx (g : Grid) (f : Nat → Bool → Bool) (hf : ∀ k, f k false = false) (k : Nat) :
    cell (g.mapIdx f) k = f k (cell g k) := by
  simp only [cell, List.getD_eq_getElem?_getD, List.getElem?_mapIdx]
  cases g[k]? with
  | none => exact (hf k).symm
  | some b => rfl

theorem cnt_set_true (g : Grid) (k : Nat) (h : k < g.length) (hk : cell g k = false) :
    cnt (g.set k true) = cnt g + 1 :=
  count_set_true g k false h hk

theorem cell_set_true (g : Grid) (k j : Nat) (h : k < g.length) :
    cell (g.set k true) j = (decide (k = j) || cell g j) := by
  by_cases hj : j < g.length
  · rw [cell_eq_getElem _ j (by simpa using hj), cell_eq_getElem g j hj, List.getElem_set]
    by_cases e : k = j <;> simp [e]
  · rw [cell_of_ge g j (by omega), cell_of_ge _ j (by simp; omega)]
    have : k ≠ j := by omega
    simp [this]

theorem cell_gNot (g : Grid) (k : Nat) (h : k < g.length) : cell (gNot g) k = !cell g k := by
  rw [cell_eq_getElem _ k (by simpa [gNot] using h), cell_eq_getElem g k h]
  simp [gNot]

theorem cnt_le_of_sub : ∀ (a b : Grid), a.length = b.length → Sub a b → cnt a ≤ cnt b
  | [], _, _, _ => Nat.zero_le _
  | _ :: _, [], h, _ => by cases h
  | x :: a, y :: b, hl, hs => by
    have ih := cnt_le_of_sub a b (Nat.succ.inj hl) (fun k hk => hs (k + 1) hk)
    have h0 : x = true → y = true := hs 0
    simp only [cnt, List.count_cons] at ih ⊢
    cases x
    · exact Nat.le_trans ih (Nat.le_add_right _ _)
    · rw [h0 rfl]; exact Nat.add_le_add_right ih _

theorem exists_missing (a b : Grid) (hl : a.length = b.length) (h : cnt a < cnt b) :
    ∃ k, cell b k = true ∧ cell a k = false := by
  apply Classical.byContradiction
  intro hne
  have hs : Sub b a := fun k hk => by
    cases hc : cell a k with
    | true => rfl
    | false => exact absurd ⟨k, hk, hc⟩ hne
  have := cnt_le_of_sub b a hl.symm hs
  omega

end DirectVerif.C11
