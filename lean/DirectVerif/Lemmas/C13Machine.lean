import DirectVerif.Model.C13Machine
/-!
The multi-iterator machine of `BatchVolumeSampler`: `next` on a generator returns the head of what it still has to
yield (`BVS.remaining`) and leaves the tail; no operation writes the object; a step can only keep a live generator,
create a fresh one, or resume one.  Hence every generator is observed independently of the others, and whatever
it returns is a batch of the one pass `b.iterate`.
-/
namespace DirectVerif.Sampler
open DirectVerif

theorem loopHead_spec (b : BVS) (rest : List Nat) : ∀ (batch : List Nat) (next : Option Nat) (it : List Nat),
    (loopHead b.bs batch next it rest).1 = (iterLoop b.bs batch next it rest).1.head? ∧
      b.remaining (loopHead b.bs batch next it rest).2 = (iterLoop b.bs batch next it rest).1.tail := by
  induction rest with
  | nil =>
    intro batch next it
    rw [loopHead, iterLoop]
    split <;> exact ⟨rfl, rfl⟩
  | cons idx rest ih =>
    intro batch next it
    rw [loopHead, iterLoop]
    split
    · exact ⟨rfl, rfl⟩
    · exact ih _ _ _

theorem resume_spec (b : BVS) (g : GenSt) :
    (b.resume g).1 = (b.remaining g).head? ∧ b.remaining (b.resume g).2 = (b.remaining g).tail := by
  cases g with
  | fresh => exact loopHead_spec b b.indices [] _ _
  | atYield idx next it rest => exact loopHead_spec b rest [] _ _
  | atTail => exact ⟨rfl, rfl⟩
  | done => exact ⟨rfl, rfl⟩

theorem Machine.step_obj (m : Machine) (op : MOp) : (m.step op).1.obj = m.obj := by
  cases op with
  | iter => rfl
  | len => rfl
  | next h => rw [Machine.step]; split <;> rfl
  | abandon h => rw [Machine.step]; split <;> rfl

theorem Machine.exec_obj (m : Machine) (ops : List MOp) : (m.exec ops).obj = m.obj := by
  induction ops generalizing m with
  | nil => rfl
  | cons op ops ih => rw [Machine.exec, ih, Machine.step_obj]

theorem Machine.step_next (m : Machine) (h : Nat) (g : GenSt) (hg : m.gens[h]? = some (some g)) :
    m.step (.next h) =
      ({ m with gens := m.gens.set h (some (m.obj.resume g).2) }, MOut.ofOpt (m.obj.resume g).1) := by
  rw [Machine.step, hg]

theorem Machine.step_gens_other (m : Machine) (op : MOp) (h : Nat) (g : GenSt)
    (hg : m.gens[h]? = some (some g)) (h1 : op ≠ .next h) (h2 : op ≠ .abandon h) :
    (m.step op).1.gens[h]? = some (some g) := by
  obtain ⟨hlt, _⟩ := List.getElem?_eq_some_iff.mp hg
  cases op with
  | iter => rw [Machine.step, List.getElem?_append_left hlt]; exact hg
  | len => exact hg
  | next h' =>
    rw [Machine.step]
    split
    · rw [List.getElem?_set_ne fun e => h1 (congrArg MOp.next e)]; exact hg
    · exact hg
  | abandon h' =>
    rw [Machine.step]
    split
    · rw [List.getElem?_set_ne fun e => h2 (congrArg MOp.abandon e)]; exact hg
    · exact hg

/-- **Generator `h` is observed independently of everything else that happens on the object**, in any
continuation in which it is not abandoned. -/
theorem machine_pass_general (ops : List MOp) : ∀ (m : Machine) (h : Nat) (g : GenSt),
    m.gens[h]? = some (some g) → MOp.abandon h ∉ ops →
    nextOuts h ops (m.run ops) =
      (List.range (ops.count (.next h))).map fun n => MOut.ofOpt ((m.obj.remaining g)[n]?) := by
  induction ops with
  | nil => intro m h g _ _; rfl
  | cons op ops ih =>
    intro m h g hg hna
    have hna' : MOp.abandon h ∉ ops := fun hm => hna (List.mem_cons_of_mem _ hm)
    by_cases hop : op = .next h
    · subst hop
      obtain ⟨hlt, _⟩ := List.getElem?_eq_some_iff.mp hg
      obtain ⟨r1, r2⟩ := resume_spec m.obj g
      have hg' : (m.step (.next h)).1.gens[h]? = some (some (m.obj.resume g).2) := by
        rw [Machine.step_next m h g hg]; exact List.getElem?_set_self hlt
      rw [Machine.run, nextOuts, if_pos rfl, List.count_cons_self, ih _ h _ hg' hna', Machine.step_obj, r2,
        List.range_succ_eq_map, List.map_cons, List.map_map, Machine.step_next m h g hg, r1,
        List.head?_eq_getElem?]
      congr 1
      exact List.map_congr_left fun n _ => congrArg MOut.ofOpt List.getElem?_tail
    · have hg' := Machine.step_gens_other m op h g hg hop
        (fun e => hna (e ▸ List.mem_cons_self))
      rw [Machine.run, nextOuts, if_neg hop, ih _ h g hg' hna', Machine.step_obj,
        List.count_cons_of_ne hop]

theorem Machine.step_mem (m : Machine) (op : MOp) (g' : GenSt) (h : some g' ∈ (m.step op).1.gens) :
    some g' ∈ m.gens ∨ g' = .fresh ∨ ∃ g, some g ∈ m.gens ∧ g' = (m.obj.resume g).2 := by
  cases op with
  | len => exact Or.inl h
  | iter =>
    rcases List.mem_append.mp h with h | h
    · exact Or.inl h
    · exact Or.inr (Or.inl (Option.some.inj (List.mem_singleton.mp h)))
  | next i =>
    rw [Machine.step] at h
    split at h
    · rename_i g hg
      rcases List.mem_or_eq_of_mem_set h with h | h
      · exact Or.inl h
      · exact Or.inr (Or.inr ⟨g, List.mem_of_getElem? hg, Option.some.inj h⟩)
    · exact Or.inl h
  | abandon i =>
    rw [Machine.step] at h
    split at h
    · rcases List.mem_or_eq_of_mem_set h with h | h
      · exact Or.inl h
      · cases h
    · exact Or.inl h

theorem Machine.step_batch (m : Machine) (op : MOp) (batch : List Nat) (h : (m.step op).2 = .batch batch) :
    ∃ g, some g ∈ m.gens ∧ (m.obj.resume g).1 = some batch := by
  cases op with
  | iter => cases h
  | len => cases h
  | abandon i => rw [Machine.step] at h; split at h <;> cases h
  | next i =>
    rw [Machine.step] at h
    split at h
    · rename_i g hg
      refine ⟨g, List.mem_of_getElem? hg, ?_⟩
      dsimp only at h
      cases hr : (m.obj.resume g).1 with
      | none => rw [hr] at h; cases h
      | some x => rw [hr] at h; cases h; rfl
    · cases h

/-- invariant of every reachable state: each live generator still has to yield a suffix of the one
pass `b.iterate` -/
def Machine.Inv (b : BVS) (m : Machine) : Prop :=
  m.obj = b ∧ ∀ (h : Nat) (g : GenSt), m.gens[h]? = some (some g) → ∃ n, b.remaining g = b.iterate.drop n

theorem Machine.Inv.of_mem {b : BVS} {m : Machine} (hm : Machine.Inv b m) {g : GenSt} (hg : some g ∈ m.gens) :
    ∃ n, b.remaining g = b.iterate.drop n := by
  obtain ⟨h, hh⟩ := List.getElem?_of_mem hg
  exact hm.2 h g hh

theorem Machine.inv_init (b : BVS) : Machine.Inv b (Machine.init b) :=
  ⟨rfl, fun h g hg => by cases hg⟩

theorem Machine.inv_step (b : BVS) (m : Machine) (hm : Machine.Inv b m) (op : MOp) :
    Machine.Inv b (m.step op).1 := by
  refine ⟨by rw [Machine.step_obj, hm.1], fun h g' hg' => ?_⟩
  rcases Machine.step_mem m op g' (List.mem_of_getElem? hg') with hg | rfl | ⟨g, hg, rfl⟩
  · exact hm.of_mem hg
  · exact ⟨0, rfl⟩
  · obtain ⟨n, hn⟩ := hm.of_mem hg
    exact ⟨n + 1, by rw [hm.1, (resume_spec b g).2, hn, List.tail_drop]⟩

theorem Machine.inv_exec (b : BVS) (m : Machine) (hm : Machine.Inv b m) (ops : List MOp) :
    Machine.Inv b (m.exec ops) := by
  induction ops generalizing m with
  | nil => exact hm
  | cons op ops ih => exact ih _ (Machine.inv_step b m hm op)

theorem machine_batches_mem (b : BVS) (ops : List MOp) : ∀ (m : Machine), Machine.Inv b m →
    ∀ batch, MOut.batch batch ∈ m.run ops → batch ∈ b.iterate := by
  induction ops with
  | nil => intro m _ batch h; cases h
  | cons op ops ih =>
    intro m hm batch hmem
    rcases List.mem_cons.mp hmem with h | h
    · obtain ⟨g, hg, hr⟩ := Machine.step_batch m op batch h.symm
      obtain ⟨n, hn⟩ := hm.of_mem hg
      rw [hm.1, (resume_spec b g).1, hn] at hr
      exact List.mem_of_mem_drop (List.mem_of_mem_head? hr)
    · exact ih _ (Machine.inv_step b m hm op) batch h

end DirectVerif.Sampler
