import DirectVerif.Gen.C20
import DirectVerif.Lemmas.C20Split
/-!
What the translator read from the source equals what the model computes: the string arithmetic of every name look-up
(`load_model_from_name`, `load_model_config_from_name`, `setup_engine`, `load_dataset_config`, `build_operators`,
`build_masking_function`, `build_dataset`, `Engine.build_metrics`), translated from the Python AST to functions on
code-point lists, equals the model's `…Target` functions for every name; the statement order of
`setup_common_environment` is the one `mergeCheck` / `checkConfig` assume; `dict_flatten` and the keys removed before
flattening are as `flattenKVs` / `removeKey` model them.
-/
namespace DirectVerif.Bridge.C20
open DirectVerif DirectVerif.Config DirectVerif.Gen.C20

theorem load_model_target_eq : loadModelTarget = modelTarget := by
  funext n; simp [loadModelTarget, modelTarget, strDirectNn]

theorem load_model_config_target_eq : loadModelConfigTarget = modelConfigTarget := by
  funext n; simp [loadModelConfigTarget, modelConfigTarget, strDirectNn, strDotConfig, strConfig, lastPart_config]

theorem setup_engine_target_eq : setupEngineTarget = engineTarget := by
  funext n e; cases e <;> simp [setupEngineTarget, engineTarget, strDirectNn, strEngineMod, strEngine, dot]

theorem load_dataset_config_target_eq : loadDatasetConfigTarget = datasetConfigTarget := by
  funext n; simp [loadDatasetConfigTarget, datasetConfigTarget, strModDatasetsConfig, strConfig]

theorem build_operators_target_eq : buildOperatorsTarget = operatorTarget := by
  funext n; simp [buildOperatorsTarget, operatorTarget, strModTransforms]

theorem build_masking_function_target_eq : buildMaskingFunctionTarget = maskFuncTarget := by
  funext n; simp [buildMaskingFunctionTarget, maskFuncTarget, strModSubsample, strMaskFunc]

theorem build_dataset_target_eq : buildDatasetTarget = datasetClassTarget := by
  funext n; simp [buildDatasetTarget, datasetClassTarget, strModDatasets, strDataset]

theorem build_metrics_target_eq : buildMetricsTarget = functionalTarget := by
  funext n; simp [buildMetricsTarget, functionalTarget, strModFunctionals]

/-- other entries in between are ignored, so that harmless rewrites stay quiet -/
def subseq : List Nat → List Nat → Bool
  | [], _ => true
  | _ :: _, [] => false
  | x :: xs, y :: ys => if x = y then subseq xs ys else subseq (x :: xs) ys

/-- A step is `(code, nesting depth)`; the codes are the translator's (`harness/translate/recipes/c20.py : _merge_steps`):
1 load file, 2 `structured(DefaultConfig)`, 3 `load_models_into_environment_config`, 4 `cfg.model =`,
5 `cfg.additional_models =`, 6 / 7 / 8 `cfg.training` / `validation` / `inference = <Config class>`, 9 the key loop,
10 skip-list `continue`, 11 falsy-section `continue`, 12 `datasets.append(load_dataset_config(…))`,
13 `dataset = load_dataset_config(…)`, 14 `cfg[key] = merge(cfg[key], file[key])`, 15 `build_operators`,
16 `initialize_models_from_config`, 17 `setup_engine` -/
def mergeOrderOk (steps : List (Nat × Nat)) : Bool :=
  let codes := steps.map (·.1)
  -- defaults and models before the loop, the loop before operators / model / engine
  subseq [2, 3, 4, 5, 9, 15, 16, 17] codes &&
  subseq [2, 6, 9] codes && subseq [2, 7, 9] codes && subseq [2, 8, 9] codes &&
  -- inside the loop: skip list first, then the falsy-section skip, dataset config classes, then the merge — once, at loop level
  subseq [9, 10, 11, 12, 14] codes && subseq [9, 10, 11, 13, 14] codes &&
  (steps.filter fun s => s.1 = 14) == [(14, 1)] &&
  (steps.filter fun s => s.1 = 10) == [(10, 1)] &&
  (steps.filter fun s => s.1 = 9) == [(9, 0)] &&
  -- every one-off step occurs exactly once
  ([2, 3, 4, 5, 6, 7, 8, 11, 12, 13, 15, 16, 17].all fun c => (codes.filter (· = c)).length = 1)

theorem merge_order_as_modelled : mergeOrderOk mergeSteps = true := by decide +kernel

/-- in any order and however the key lists are spelled (literal lists, module tuples, `a or b` tests) -/
def sameKeys (xs ys : List (List Nat)) : Bool := xs.all (ys.contains ·) && ys.all (xs.contains ·)

/-- one kernel evaluation for the three comparisons below (each decoding walks the symbol table) -/
theorem keys_evaluated :
    (sameKeys mergeSkippedKeys [tables.strOf tables.kModels, tables.strOf tables.kAdditionalModels] = true ∧
     sameKeys mergeSectionKeys
       [tables.strOf tables.kTraining, tables.strOf tables.kValidation, tables.strOf tables.kInference] = true) ∧
    (removedTransformKeys = [tables.strOf tables.kMasking] ∧
     removedInferenceTransformKeys = [tables.strOf tables.kMasking]) ∧
    (tables.strOf tables.kName, tables.strOf tables.kModelName, tables.strOf tables.kEngineName) =
      ([110, 97, 109, 101], [109, 111, 100, 101, 108, 95, 110, 97, 109, 101],
       [101, 110, 103, 105, 110, 101, 95, 110, 97, 109, 101]) := by decide +kernel

theorem merge_keys_as_modelled :
    sameKeys mergeSkippedKeys [tables.strOf tables.kModels, tables.strOf tables.kAdditionalModels] = true ∧
    sameKeys mergeSectionKeys
      [tables.strOf tables.kTraining, tables.strOf tables.kValidation, tables.strOf tables.kInference] = true :=
  keys_evaluated.1

example : sameKeys [[109, 111, 100, 101, 108, 115]] [[109, 111, 100, 101, 108, 115], [97]] = false := by decide

/-- merge before the models are loaded; two merges -/
example : mergeOrderOk [(2, 0), (9, 0), (10, 1), (11, 2), (12, 4), (13, 3), (14, 1), (3, 0), (4, 0), (5, 0), (6, 0), (7, 0),
    (8, 0), (15, 0), (16, 0), (17, 0)] = false := by decide
example : mergeOrderOk (mergeSteps ++ [(14, 1)]) = false := by decide +kernel

/-- what the translator looks for in `dict_flatten` (1 = found): it recurses into the values it tests with `isinstance`,
skips the intermediate key (`continue`), stores leaves under their own key, and tests exactly `dict` and `DictConfig` -/
theorem dict_flatten_as_modelled : dictFlattenShape = [1, 1, 1, 1] := by decide

theorem removed_transform_keys_eq :
    removedTransformKeys = [tables.strOf tables.kMasking] ∧ removedInferenceTransformKeys = [tables.strOf tables.kMasking] :=
  keys_evaluated.2.1

theorem well_known_keys :
    (tables.strOf tables.kName, tables.strOf tables.kModelName, tables.strOf tables.kEngineName) =
      ([110, 97, 109, 101], [109, 111, 100, 101, 108, 95, 110, 97, 109, 101],
       [101, 110, 103, 105, 110, 101, 95, 110, 97, 109, 101]) := keys_evaluated.2.2

end DirectVerif.Bridge.C20
