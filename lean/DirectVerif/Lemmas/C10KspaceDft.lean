import DirectVerif.Lemmas.C01Dft
import DirectVerif.Lemmas.C10Kspace
/-!
# C10 — the one-axis statements of `Lemmas/C10Kspace.lean` with `C01Dft.torchFft` (Mathlib's `ZMod.dft` with torch's
normalisations) as the transform: no hypothesis left, every complex k-space line, all 8 flag combinations.
-/
namespace DirectVerif.C10
open DirectVerif DirectVerif.Crop DirectVerif.Fft DirectVerif.C01Dft

theorem kspace_pad_crop_id_dft (cfg : Cfg) (N : Nat) (k : List ℂ) (h : k.length ≤ N) :
    runPlan (c01Ops (listBackend torchFft) cfg (padTo 0 N) (centerCrop k.length)) cropKspacePlan
      (runPlan (c01Ops (listBackend torchFft) cfg (padTo 0 N) (centerCrop k.length)) padKspacePlan k) = k :=
  kspace_pad_crop_id_1d torchFft torchFft_length torchFft_inv_fwd torchFft_fwd_inv cfg 0 N k h

theorem kspace_crop_window_dft (cfg : Cfg) (s : Nat) (k : List ℂ) (h : s ≤ k.length) (i : Nat) (hi : i < s) :
    (ifft2 (listBackend torchFft) cfg
      (runPlan (c01Ops (listBackend torchFft) cfg id (centerCrop s)) cropKspacePlan k))[i]? =
      (ifft2 (listBackend torchFft) cfg k)[i + (k.length - s) / 2]? :=
  kspace_crop_window_1d torchFft torchFft_length torchFft_inv_fwd torchFft_fwd_inv cfg id s k i hi

theorem kspace_pad_places_dft (cfg : Cfg) (N : Nat) (k : List ℂ) (h : k.length ≤ N) (i : Nat) (hi : i < k.length) :
    (ifft2 (listBackend torchFft) cfg
      (runPlan (c01Ops (listBackend torchFft) cfg (padTo 0 N) id) padKspacePlan k))[i + (N - k.length) / 2]? =
      (ifft2 (listBackend torchFft) cfg k)[i]? :=
  kspace_pad_places_1d torchFft torchFft_length torchFft_inv_fwd torchFft_fwd_inv cfg id 0 N k h i hi

example : ([1, 2, 3] : List ℂ).length ≤ 6 := by simp

end DirectVerif.C10
