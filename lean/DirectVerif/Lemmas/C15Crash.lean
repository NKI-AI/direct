import DirectVerif.Lemmas.C15Parse
/-!
# Frame reasoning for the directory machine of `Model/Ckpt.lean` — no Mathlib

An operation changes only the names it `touches`; `loadLatest` reads only `last_model.txt` and the `model_<it>.pt` it
names (`loadLatest_congr`); a crash prefix of a list with an `os.replace` in it stops before the rename or contains it
(`CrashOf.rename_cases`: the rename is atomic).  `Lemmas/C15Wf.lean` derives crash safety from these three facts.
An exception raised inside a write (`excOps`) is reduced to a crash: when the clean-up run during unwinding only closes
files (`wfUnwind`), the directory is that of the crash prefix at the same point (`run_excOps`).
-/
namespace DirectVerif.Ckpt

/-- the names an operation may modify -/
def touches : FsOp → FName → Prop
  | .openTrunc f, g => g = f
  | .write f _, g => g = f
  | .close _, _ => False
  | .replace s t, g => g = s ∨ g = t
  | .unlink f, g => g = f

theorem set_same (d : Dir) (f : FName) (v : Option Bytes) : d.set f v f = v := if_pos rfl
theorem set_other (d : Dir) (f g : FName) (v : Option Bytes) (h : g ≠ f) : d.set f v g = d g := if_neg h

theorem applyOp_frame (d : Dir) (op : FsOp) (g : FName) (h : ¬ touches op g) : applyOp d op g = d g := by
  cases op with
  | openTrunc f => exact set_other _ _ _ _ h
  | write f c =>
    simp only [applyOp]
    cases d f with
    | none => rfl
    | some b => exact set_other _ _ _ _ h
  | close f => rfl
  | replace s t =>
    simp only [applyOp]
    cases d s with
    | none => rfl
    | some b =>
      show ((d.set t (some b)).set s none) g = d g
      rw [set_other _ _ _ _ (fun e => h (Or.inl e)), set_other _ _ _ _ (fun e => h (Or.inr e))]
  | unlink f => exact set_other _ _ _ _ h

/-- what `os.replace` does when the source exists -/
theorem applyOp_replace {d : Dir} {s t : FName} {b : Bytes} (h : d s = some b) :
    applyOp d (.replace s t) = (d.set t (some b)).set s none := by
  simp only [applyOp, h]

theorem run_nil (d : Dir) : run d [] = d := rfl
theorem run_cons (d : Dir) (o : FsOp) (ops : List FsOp) : run d (o :: ops) = run (applyOp d o) ops := rfl
theorem run_append (d : Dir) (a b : List FsOp) : run d (a ++ b) = run (run d a) b := List.foldl_append

theorem run_frame (d : Dir) (ops : List FsOp) (g : FName) (h : ∀ o ∈ ops, ¬ touches o g) :
    run d ops g = d g := by
  induction ops generalizing d with
  | nil => rfl
  | cons o r ih =>
    rw [run_cons, ih _ (fun o' ho' => h o' (List.mem_cons_of_mem _ ho')),
      applyOp_frame _ _ _ (h o List.mem_cons_self)]

/-- the content of a name that no operation renames **onto** depends only on its own previous content -/
theorem run_congr (ops : List FsOp) (g : FName) (hdst : ∀ s t, FsOp.replace s t ∈ ops → t ≠ g) (d d' : Dir)
    (h : d g = d' g) : run d ops g = run d' ops g := by
  induction ops generalizing d d' with
  | nil => exact h
  | cons o r ih =>
    refine ih (fun s t hm => hdst s t (List.mem_cons_of_mem _ hm)) _ _ ?_
    by_cases ht : touches o g
    · cases o with
      | openTrunc f => cases ht; rw [applyOp, set_same, applyOp, set_same]
      | write f c =>
        cases ht
        simp only [applyOp, ← h]
        cases d g with
        | none => exact h
        | some b => exact (set_same _ _ _).trans (set_same _ _ _).symm
      | close f => exact ht.elim
      | replace s t =>
        have hs : g = s := ht.resolve_right (Ne.symm (hdst s t List.mem_cons_self))
        subst hs
        simp only [applyOp, ← h]
        cases d g with
        | none => exact h
        | some b => exact (set_same _ _ _).trans (set_same _ _ _).symm
      | unlink f => cases ht; rw [applyOp, set_same, applyOp, set_same]
    · rw [applyOp_frame _ _ _ ht, applyOp_frame _ _ _ ht, h]

/-- `open(f, "w")` followed by the successive writes leaves their concatenation in `f` -/
theorem run_open_writes (d : Dir) (f : FName) (chunks : List Bytes) :
    run d (.openTrunc f :: chunks.map (.write f)) f = some chunks.flatten := by
  have writes : ∀ (chunks : List Bytes) (d : Dir) (b : Bytes), d f = some b →
      run d (chunks.map (.write f)) f = some (b ++ chunks.flatten) := by
    intro chunks
    induction chunks with
    | nil => intro d b h; rw [List.flatten_nil, List.append_nil]; exact h
    | cons c r ih =>
      intro d b h
      rw [List.map_cons, run_cons, ih _ (b ++ c) (by simp only [applyOp, h, set_same]), List.flatten_cons,
        List.append_assoc]
  exact writes chunks _ [] (set_same _ _ _)

/-! ### what `load('latest')` reads: `last_model.txt` and the `model_<it>.pt` it names -/

theorem loadLatest_congr {S} (decode : Bytes → Option S) (d d' : Dir) (hl : d' .last = d .last)
    (hm : ∀ j, d' (.model j) = d (.model j)) : loadLatest decode d' = loadLatest decode d := by
  unfold loadLatest
  rw [hl]
  cases d .last with
  | none => rfl
  | some txt =>
    simp only
    cases parseInt (readline txt) with
    | none => rfl
    | some it => simp only [hm it]

theorem loadLatest_ok_of {S} {decode : Bytes → Option S} {d : Dir} {txt b : Bytes} {it : Int} {s : S}
    (hl : d .last = some txt) (hp : parseInt (readline txt) = some it) (hm : d (.model it) = some b)
    (hd : decode b = some s) : loadLatest decode d = .ok it s := by
  simp only [loadLatest, hl, hp, hm, hd]

theorem loadLatest_ok_inv {S} {decode : Bytes → Option S} {d : Dir} {it : Int} {s : S}
    (h : loadLatest decode d = .ok it s) :
    ∃ txt b, d .last = some txt ∧ parseInt (readline txt) = some it ∧ d (.model it) = some b ∧ decode b = some s := by
  unfold loadLatest at h
  split at h
  · cases h
  · split at h
    · cases h
    · split at h
      · cases h
      · split at h
        · cases h
        · cases h; exact ⟨_, _, ‹_›, ‹_›, ‹_›, ‹_›⟩

theorem CrashOf.refl (ops : List FsOp) : CrashOf ops ops := by
  induction ops with
  | nil => exact .nil _
  | cons o r ih => exact .cons _ _ _ ih

theorem CrashOf.append_cases {a b p : List FsOp} (h : CrashOf (a ++ b) p) :
    CrashOf a p ∨ ∃ q, p = a ++ q ∧ CrashOf b q := by
  induction a generalizing p with
  | nil => exact Or.inr ⟨p, rfl, h⟩
  | cons o a ih =>
    cases h with
    | nil => exact Or.inl (.nil _)
    | cons _ _ p' hp =>
      rcases ih hp with h1 | ⟨q, rfl, hq⟩
      · exact Or.inl (.cons _ _ _ h1)
      · exact Or.inr ⟨q, rfl, hq⟩
    | cut f c _ m => exact Or.inl (.cut _ _ _ _)

/-- a crash in a list with a rename in it: before the rename, or the rename has happened (it is atomic) -/
theorem CrashOf.rename_cases {a b p : List FsOp} {s t : FName} (h : CrashOf (a ++ .replace s t :: b) p) :
    CrashOf a p ∨ ∃ q, p = a ++ .replace s t :: q ∧ CrashOf b q := by
  rcases h.append_cases with h1 | ⟨q, rfl, hq⟩
  · exact Or.inl h1
  · cases hq with
    | nil => exact Or.inl (by rw [List.append_nil]; exact .refl a)
    | cons _ _ q' hq' => exact Or.inr ⟨q', rfl, hq'⟩

theorem CrashOf.touches {ops p : List FsOp} (h : CrashOf ops p) :
    ∀ o ∈ p, ∀ g, touches o g → ∃ o' ∈ ops, touches o' g := by
  induction h with
  | nil => intro o ho; cases ho
  | cons o ops p _ ih =>
    intro o' ho' g hg
    rcases List.mem_cons.mp ho' with rfl | hm
    · exact ⟨o', List.mem_cons_self, hg⟩
    · obtain ⟨o'', h1, h2⟩ := ih o' hm g hg
      exact ⟨o'', List.mem_cons_of_mem _ h1, h2⟩
  | cut f c ops m =>
    intro o' ho' g hg
    cases List.mem_singleton.mp ho'
    exact ⟨.write f c, List.mem_cons_self, hg⟩

/-- a crash among operations none of which touches `g` leaves `g` alone -/
theorem CrashOf.frame {ops p : List FsOp} (hp : CrashOf ops p) (d : Dir) (g : FName)
    (h : ∀ o ∈ ops, ¬ Ckpt.touches o g) : run d p g = d g :=
  run_frame d p g fun o ho ht => let ⟨o', ho', ht'⟩ := hp.touches o ho g ht; h o' ho' ht'

/-- the executable enumeration only produces crash prefixes … -/
theorem crashAt_crashOf (ops : List FsOp) (n : Nat) (m : Option Nat) : CrashOf ops (crashAt ops n m) := by
  induction n generalizing ops with
  | succ n ih =>
    cases ops with
    | nil => cases m <;> exact .nil _
    | cons o r => exact .cons _ _ _ (ih r)
  | zero =>
    unfold crashAt
    split
    · next k f c h =>
      obtain ⟨r, rfl⟩ : ∃ r, ops = .write f c :: r := by
        cases ops with
        | nil => cases h
        | cons o r => cases h; exact ⟨r, rfl⟩
      exact .cut _ _ _ _
    · exact .nil _

/-- … and produces all of them -/
theorem crashOf_crashAt {ops p : List FsOp} (h : CrashOf ops p) : ∃ n m, p = crashAt ops n m := by
  induction h with
  | nil ops => exact ⟨0, none, rfl⟩
  | cons o ops p _ ih =>
    obtain ⟨n, m, rfl⟩ := ih
    exact ⟨n + 1, m, rfl⟩
  | cut f c ops m => exact ⟨0, some m, rfl⟩

/-! ### exceptions inside a write: the clean-up of a well-formed table only closes files -/

theorem run_closes (d : Dir) (a cl : List FsOp) (h : ∀ o ∈ cl, ∃ f, o = .close f) : run d (a ++ cl) = run d a := by
  rw [run_append]
  generalize run d a = d'
  induction cl generalizing d' with
  | nil => rfl
  | cons o r ih =>
    obtain ⟨f, rfl⟩ := h o List.mem_cons_self
    rw [run_cons]
    exact ih (fun o' ho' => h o' (List.mem_cons_of_mem _ ho')) _

theorem unwindOps_closes (xt : List XStmt) (hwf : wfUnwind xt = true) (it : Int) (chunks : List Bytes) (i : Nat) :
    ∀ o ∈ unwindOps xt it chunks i, ∃ f, o = .close f := by
  intro o ho
  simp only [unwindOps, List.mem_flatMap, List.mem_filter] at ho
  obtain ⟨xj, ⟨hmem, hcond⟩, ho⟩ := ho
  have hx : xj.1 ∈ xt := by
    have := List.mem_zipIdx hmem
    rw [this.2.2]
    exact List.getElem_mem _
  simp only [wfUnwind, List.all_eq_true] at hwf
  have hw := hwf xj.1 hx
  cases hu : xj.1.unwindFrom with
  | none => simp [hu] at hcond
  | some a =>
    simp only [hu, Option.isNone_some, Bool.false_or] at hw
    split at hw
    · next f hs =>
      rw [hs] at ho
      exact ⟨_, List.mem_singleton.mp ho⟩
    · cases hw

/-- **an exception raised inside any write of a save leaves the directory of the corresponding crash prefix**: for a
table whose exceptional path only closes files, unwinding changes nothing on disk -/
theorem run_excOps (xt : List XStmt) (hwf : wfUnwind xt = true) (d : Dir) (it : Int) (chunks : List Bytes) (n m : Nat) :
    run d (excOps xt it chunks n m) = run d (crashAt (opsOf (xt.map (·.stmt)) it chunks) n (some m)) :=
  run_closes d _ _ (unwindOps_closes xt hwf it chunks _)

end DirectVerif.Ckpt
