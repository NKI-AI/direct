import DirectVerif.Lemmas.C09
/-!
# C09 — estimated and refined sensitivity maps are normalised and finite

The definitions of `Model/Sens.lean` are the ones the driver executes with exact rationals (`ratNum`); here they
are taken over ℝ (`realNum`).  `S : SMap ℝ` is `[coil][pixel]` (spatial axes flattened; any number of coils and
pixels, ragged allowed), `fibre S p` the coil values at pixel `p`, `sumSqAt S p = Σ_coils |S_i p|²`.  Every
branch of the code (three map types, weighted ACS path, engine) ends in `renorm`, so the normalisation theorems are
instances of `sumSqAt_renorm`.  Over ℝ the guard of `safe_divide` cannot be seen; what it is for is said by the
finiteness theorems: the results are the same for every `div` that agrees on non-zero divisors
(`*_indep_div_zero`), and finite under `FiniteClosed`.  The division in ESPIRiT's last step is not guarded
(`espirit_phase_unguarded`).  Float32 rounding is left out; the last part shows that in the documented range 2^±60
the exact intermediates lie in the float32 normal range (the implementation is oracle-checked there).
-/
namespace DirectVerif.C09
open DirectVerif DirectVerif.Sens

theorem sumSqAt_renorm (S : SMap ℝ) (p : Nat) :
    sumSqAt (renorm realNum S) p = if sumSqAt S p = 0 then 0 else 1 := by
  rw [renorm_real, sumSqAt_divMapWith_div, normAt_mul_self]
  split
  next hs => rw [hs, div_zero]
  next hs => exact div_self hs

/-- C09 for the common tail of `EstimateSensitivityMapModule.forward` and `compute_sensitivity_map`, any coil
count (0 included). -/
theorem renorm_unit_or_zero (S : SMap ℝ) (p : Nat) :
    sumSqAt (renorm realNum S) p = 1 ∨ ∀ c ∈ fibre (renorm realNum S) p, c = (0, 0) := by
  by_cases hs : sumSqAt S p = 0
  · exact Or.inr ((sumsq_eq_zero _).mp ((sumSqAt_renorm S p).trans (if_pos hs)))
  · exact Or.inl ((sumSqAt_renorm S p).trans (if_neg hs))

theorem renorm_zero_iff (S : SMap ℝ) (p : Nat) :
    (∀ c ∈ fibre (renorm realNum S) p, c = (0, 0)) ↔ (∀ c ∈ fibre S p, c = (0, 0)) := by
  rw [← sumsq_eq_zero, ← sumsq_eq_zero]
  change sumSqAt (renorm realNum S) p = 0 ↔ sumSqAt S p = 0
  rw [sumSqAt_renorm]
  split
  · exact iff_of_true rfl ‹_›
  · exact iff_of_false one_ne_zero ‹_›

theorem renorm_idempotent (S : SMap ℝ) : renorm realNum (renorm realNum S) = renorm realNum S := by
  -- the second norm is `1` where the first is not `0`; where the first is `0` the entries are already `0`
  refine divMapWith_divMapWith (fun p x => ?_) S
  rw [safeDivide_real, safeDivide_real]
  by_cases hs : sumSqAt S p = 0
  · rw [(normAt_eq_zero S p).mpr hs, div_zero, zero_div]
  · have h1 : normAt realNum (renorm realNum S) p = 1 := by
      unfold normAt
      rw [sumSqAt_renorm, if_neg hs]
      exact Real.sqrt_one
    rw [h1, div_one]

/-- `RSS_ESTIMATE` divides by the root sum of squares twice (in its branch and in the common tail) -/
theorem estimate_eq_renorm (a : SMap ℝ) : estimateRSS realNum a = renorm realNum a :=
  renorm_idempotent a

/-- C09 for `RSS_ESTIMATE`: unit-or-zero, zero exactly where the ACS image has no signal in any coil. -/
theorem estimate_normalised (a : SMap ℝ) (p : Nat) :
    (sumSqAt (estimateRSS realNum a) p = 1 ∨ ∀ c ∈ fibre (estimateRSS realNum a) p, c = (0, 0)) ∧
    ((∀ c ∈ fibre (estimateRSS realNum a) p, c = (0, 0)) ↔ (∀ c ∈ fibre a p, c = (0, 0))) := by
  rw [estimate_eq_renorm]
  exact ⟨renorm_unit_or_zero a p, renorm_zero_iff a p⟩

theorem single_coil (coil : List (ℝ × ℝ)) (p : Nat) :
    ∀ c ∈ fibre (estimateRSS realNum [coil]) p, Sens.sq c = 1 ∨ c = (0, 0) := by
  intro c hc
  rw [estimate_eq_renorm] at hc
  -- with one coil the fibre at `p` is the single entry `c`, so the sum over the coils is `sq c`
  have hfib : fibre (renorm realNum [coil]) p = [c] := by
    have hr : renorm realNum [coil] = [_] := rfl
    rw [hr, fibre_singleton] at hc ⊢
    rw [Option.mem_toList.mp hc]
    rfl
  have hsum : sumSqAt (renorm realNum [coil]) p = Sens.sq c := by
    unfold sumSqAt
    rw [hfib]
    exact add_zero _
  rcases renorm_unit_or_zero [coil] p with h | h
  · exact Or.inl (hsum ▸ h)
  · exact Or.inr (h c hc)

/-- an all-zero ACS image (empty ACS mask).  Over ℝ this does not see the guard of `safe_divide`; that no `0 / 0`
is used is `renorm_indep_div_zero` / `renorm_finite`. -/
theorem empty_acs_all_zero (a : SMap ℝ) (h : ∀ coil ∈ a, ∀ c ∈ coil, c = (0, 0)) :
    estimateRSS realNum a = a := by
  rw [estimate_eq_renorm]
  refine divMapWith_eq_self fun coil hcoil p c hp => ?_
  rw [h coil hcoil c (List.mem_of_getElem? hp)]
  simp only [safeDivide_real, zero_div]

/-- C09 for the engine: whatever the refinement network returns (`refine` arbitrary). -/
theorem refined_normalised (hasModel : Bool) (refine : SMap ℝ → SMap ℝ) (S : SMap ℝ) (p : Nat) :
    sumSqAt (computeSensitivityMap realNum hasModel refine S) p = 1 ∨
    ∀ c ∈ fibre (computeSensitivityMap realNum hasModel refine S) p, c = (0, 0) := by
  unfold computeSensitivityMap
  exact renorm_unit_or_zero _ p

/-- `SensitivityMapType.UNIT` (each of the `c` coils gets modulus `1/√c`; only the sum is stated) -/
theorem unit_map_normalised (coils pixels : Nat) (hc : 0 < coils) (p : Nat) (hp : p < pixels) :
    sumSqAt (estimateUnit realNum coils pixels) p = 1 := by
  unfold estimateUnit
  rw [sumSqAt_renorm, if_neg]
  intro hs
  -- every coil of the unit map has the entry `(1, 0)` at `p`
  have h1 : ((1 : ℝ), (0 : ℝ)) ∈ fibre (unitMap coils pixels) p :=
    mem_fibre _ p (List.replicate pixels (1, 0)) _ (List.mem_replicate.mpr ⟨hc.ne', rfl⟩)
      (by rw [List.getElem?_replicate, if_pos hp])
  exact one_ne_zero (congrArg Prod.fst ((sumsq_eq_zero _).mp hs _ h1))

section indep
variable {α : Type} [Zero α] [DecidableEq α]

theorem safeDivide_zero (num : Num α) (a : α) : safeDivide num a 0 = 0 := by simp [safeDivide]

theorem safeDivide_indep_div_zero {num num' : Num α} (hd : ∀ a b, b ≠ 0 → num.div a b = num'.div a b)
    (a b : α) : safeDivide num a b = safeDivide num' a b := by
  unfold safeDivide
  split
  · rfl
  · exact hd a b ‹_›

variable [Add α] [Mul α]

theorem renorm_indep_div_zero {num num' : Num α} (hs : num.sqrt = num'.sqrt)
    (hd : ∀ a b, b ≠ 0 → num.div a b = num'.div a b) (S : SMap α) : renorm num S = renorm num' S := by
  have hn : normAt num S = normAt num' S := by funext p; unfold normAt; rw [hs]
  unfold renorm divMap
  rw [hn]
  exact divMapWith_congr (fun _ _ => safeDivide_indep_div_zero hd _ _) S

theorem computeSensitivityMap_indep_div_zero (num num' : Num α) (hs : num.sqrt = num'.sqrt)
    (hd : ∀ a b, b ≠ 0 → num.div a b = num'.div a b) (hasModel : Bool) (refine : SMap α → SMap α)
    (S : SMap α) :
    computeSensitivityMap num hasModel refine S = computeSensitivityMap num' hasModel refine S := by
  unfold computeSensitivityMap
  exact renorm_indep_div_zero hs hd _

end indep

/-- what is assumed of the arithmetic: `fin` is kept by the ring operations, `sqrt`, and division **by a non-zero
divisor** (division by zero may return anything: NaN, Inf) -/
structure FiniteClosed {α : Type} [Zero α] [Add α] [Mul α] (num : Num α) (fin : α → Prop) : Prop where
  zero : fin 0
  add : ∀ a b, fin a → fin b → fin (a + b)
  mul : ∀ a b, fin a → fin b → fin (a * b)
  sqrt : ∀ a, fin a → fin (num.sqrt a)
  div : ∀ a b, fin a → fin b → b ≠ 0 → fin (num.div a b)

section finite
variable {α : Type} [Zero α] [Add α] [Mul α] [DecidableEq α]

theorem safeDivide_finite {num : Num α} {fin : α → Prop} (hc : FiniteClosed num fin) {a b : α}
    (ha : fin a) (hb : fin b) : fin (safeDivide num a b) := by
  unfold safeDivide
  split
  · exact hc.zero
  · exact hc.div a b ha hb ‹_›

omit [DecidableEq α] in
theorem sum_finite {num : Num α} {fin : α → Prop} (hc : FiniteClosed num fin) (xs : List α)
    (h : ∀ x ∈ xs, fin x) : fin xs.sum := by
  induction xs with
  | nil => exact hc.zero
  | cons x xs ih =>
    rw [List.sum_cons]
    exact hc.add _ _ (h x (by simp)) (ih fun y hy => h y (by simp [hy]))

def AllFinite (fin : α → Prop) (S : SMap α) : Prop := ∀ coil ∈ S, ∀ c ∈ coil, fin c.1 ∧ fin c.2

omit [DecidableEq α] in
theorem normAt_finite {num : Num α} {fin : α → Prop} (hc : FiniteClosed num fin) {S : SMap α}
    (hS : AllFinite fin S) (p : Nat) : fin (normAt num S p) := by
  unfold normAt sumSqAt
  apply hc.sqrt
  apply sum_finite hc
  intro x hx
  obtain ⟨c, hcm, rfl⟩ := List.mem_map.mp hx
  obtain ⟨coil, hcoil, hget⟩ := mem_fibre_iff.mp hcm
  obtain ⟨h1, h2⟩ := hS coil hcoil c (List.mem_of_getElem? hget)
  exact hc.add _ _ (hc.mul _ _ h1 h1) (hc.mul _ _ h2 h2)

omit [Zero α] [Add α] [Mul α] [DecidableEq α] in
theorem divMapWith_finite {fin : α → Prop} {dv : α → α → α} {n : Nat → α}
    (hdv : ∀ a p, fin a → fin (dv a (n p))) {S : SMap α} (hS : AllFinite fin S) :
    AllFinite fin (divMapWith dv S n) := by
  intro coil' hcoil' c' hc'
  obtain ⟨coil, hcoil, rfl⟩ := List.mem_map.mp hcoil'
  obtain ⟨p, hp, rfl⟩ := List.mem_mapIdx.mp hc'
  obtain ⟨h1, h2⟩ := hS coil hcoil _ (List.getElem_mem hp)
  exact ⟨hdv _ p h1, hdv _ p h2⟩

theorem renorm_finite {num : Num α} {fin : α → Prop} (hc : FiniteClosed num fin) {S : SMap α}
    (hS : AllFinite fin S) : AllFinite fin (renorm num S) :=
  divMapWith_finite (fun _ p ha => safeDivide_finite hc ha (normAt_finite hc hS p)) hS

theorem computeSensitivityMap_finite (num : Num α) (fin : α → Prop) (hc : FiniteClosed num fin)
    (hasModel : Bool) (refine : SMap α → SMap α) (S : SMap α) (hS : AllFinite fin S)
    (hR : AllFinite fin (refine S)) : AllFinite fin (computeSensitivityMap num hasModel refine S) := by
  unfold computeSensitivityMap
  apply renorm_finite hc
  split
  · exact hR
  · exact hS

end finite

/-- the hypotheses are satisfiable: over ℝ every value is finite -/
example : FiniteClosed realNum (fun _ : ℝ => True) :=
  ⟨trivial, fun _ _ _ _ => trivial, fun _ _ _ _ => trivial, fun _ _ => trivial, fun _ _ _ _ _ => trivial⟩

/-- the entry the driver reads for `(batch b, coil c, pixel p, component k)` is the row-major one -/
theorem flatEntry_eq (B C P : Nat) (data : List Int) (b c p k : Nat) :
    flatEntry B C P data b c p k = data.getD (k + 2 * (p + P * (c + C * b))) 0 := by
  simp [flatEntry, Mask.ravelR]

theorem toSMap_entry (B C P : Nat) (data : List Int) (b c p : Nat) (hc : c < C) (hp : p < P) :
    ((toSMap B C P data b)[c]?.bind (·[p]?)) =
      some ((flatEntry B C P data b c p 0 : Rat), (flatEntry B C P data b c p 1 : Rat)) := by
  simp [toSMap, List.getElem?_map, List.getElem?_range hc, List.getElem?_range hp]

/-- the divisor is constant along exactly the coil and the complex axis, which is what `Sens.divMap` (one divisor
per pixel, shared by all coils and both components) encodes. -/
theorem divisorShape_of_wf (plan : Bool × Int × List Int × List Int) (h : planWf plan = true)
    (n c : Nat) (sp : List Nat) : divisorShape plan ((n :: c :: sp) ++ [2]) = (n :: 1 :: sp) ++ [1] := by
  obtain ⟨sq, e, axes, uns⟩ := plan
  simp only [planWf, Bool.and_eq_true, Bool.or_eq_true, beq_iff_eq] at h
  obtain ⟨⟨_, rfl⟩, rfl | rfl⟩ := h
  · show pyUnsqueeze (pyUnsqueeze (pySumShape (pySumShape _ (-1)) 1) 1) (-1) = _
    rw [pySumShape_last, pySumShape_one, pyUnsqueeze_one, pyUnsqueeze_last]
  · show pyUnsqueeze (pyUnsqueeze (pySumShape (pySumShape _ (-1)) 1) (-1)) 1 = _
    -- the `cons` is moved out of the `++` by hand: left to unification this step is very slow
    rw [pySumShape_last, pySumShape_one, pyUnsqueeze_last, List.cons_append, pyUnsqueeze_one,
      List.cons_append, List.cons_append]

example : planWf normPlan = true := by decide
example : planWf (true, 2, [-1, 1], [-1, 1]) = true := by decide
example : planWf (true, 2, [-1, 0], [1, -1]) = false := by decide
example : planWf (false, 2, [-1, 1], [1, -1]) = false := by decide

/-- without the guard the value of `0 / 0` (NaN in float32, here the poison value of `ratNum`) reaches the map -/
theorem unguarded_violates :
    renormUnguarded ratNum [[((0 : Rat), (0 : Rat))]] = [[(1000003, 1000003)]] ∧
    renorm ratNum [[((0 : Rat), (0 : Rat))]] = [[(0, 0)]] := by decide +kernel

/-- two coils, three pixels: a 3-4-12 Pythagorean pixel, an all-zero pixel, a single-coil pixel -/
def exA : SMap Rat := [[(3, 4), (0, 0), (0, 0)], [(12, 0), (0, 0), (0, -2)]]

example : estimateRSS ratNum exA = [[(3/13, 4/13), (0, 0), (0, 0)], [(12/13, 0), (0, 0), (0, -1)]] := by
  decide +kernel
example : sumSqAt (estimateRSS ratNum exA) 0 = 1 ∧ sumSqAt (estimateRSS ratNum exA) 1 = 0 ∧
    sumSqAt (estimateRSS ratNum exA) 2 = 1 := by decide +kernel
example : renorm ratNum (renorm ratNum exA) = renorm ratNum exA := by decide +kernel
example : estimateRSS ratNum [[((0 : Rat), (0 : Rat)), (0, 0)]] = [[(0, 0), (0, 0)]] := by decide +kernel
example : computeSensitivityMap ratNum true (fun _ => exA) [[(1, 0)], [(1, 0)]] = renorm ratNum exA :=
  rfl
example : ∃ c ∈ fibre ([[((3 : ℝ), (4 : ℝ))]] : SMap ℝ) 0, c ≠ (0, 0) :=
  ⟨(3, 4), mem_fibre _ 0 [(3, 4)] _ (List.mem_singleton.mpr rfl) rfl, fun h => three_ne_zero (congrArg Prod.fst h)⟩


/-- positive per-pixel weights (the Gaussian window with a pixel-wise backward operator, a gain, a global scale)
cancel: the norm is multiplied by the same weight. -/
theorem renorm_weight_invariant (w : Nat → ℝ) (hw : ∀ p, 0 < w p) (S : SMap ℝ) :
    renorm realNum (weightPixels w S) = renorm realNum S := by
  refine divMapWith_divMapWith (fun p x => ?_) S
  rw [safeDivide_real, safeDivide_real, normAt_weightPixels w S p (hw p).le, mul_comm x]
  exact mul_div_mul_left x _ (hw p).ne'

theorem renorm_scale_invariant (s : ℝ) (hs : 0 < s) (S : SMap ℝ) :
    renorm realNum (weightPixels (fun _ => s) S) = renorm realNum S :=
  renorm_weight_invariant _ (fun _ => hs) S

theorem refined_weight_invariant (w : Nat → ℝ) (hw : ∀ p, 0 < w p) (refine : SMap ℝ → SMap ℝ) (S : SMap ℝ)
    (hS : 1 < S.length) :
    computeSensitivityMap realNum true (fun x => weightPixels w (refine x)) S =
      computeSensitivityMap realNum true refine S := by
  unfold computeSensitivityMap
  have h : (S.length > 1 ∧ true = true) := ⟨hS, rfl⟩
  rw [if_pos h, if_pos h, renorm_weight_invariant w hw]

example : ∀ p : Nat, (0 : ℝ) < (fun _ => (2 : ℝ)) p := fun _ => by norm_num

theorem linspaceCoord_endpoints (W : Nat) (hW : 2 ≤ W) :
    linspaceCoord realNum realWin W 0 = -1 ∧ linspaceCoord realNum realWin W (W - 1) = 1 := by
  have hne : ((W : ℝ) - 1) ≠ 0 := (sub_pos.mpr (Nat.one_lt_cast.mpr hW)).ne'
  constructor
  · rw [linspaceCoord_real W 0 hW, Nat.cast_zero, mul_zero, zero_sub, neg_div, div_self hne]
  · rw [linspaceCoord_real W (W - 1) hW, Nat.cast_pred (by omega), two_mul, add_sub_cancel_right, div_self hne]

theorem linspaceCoord_abs_le_one (W j : Nat) (hj : j < W) : |linspaceCoord realNum realWin W j| ≤ 1 := by
  by_cases hW : 2 ≤ W
  · have hpos : (0 : ℝ) < (W : ℝ) - 1 := sub_pos.mpr (Nat.one_lt_cast.mpr hW)
    have hjw : (j : ℝ) ≤ (W : ℝ) - 1 := le_sub_iff_add_le.mpr (by exact_mod_cast hj)
    rw [linspaceCoord_real W j hW, abs_div, abs_of_pos hpos, div_le_one hpos, abs_sub_le_iff]
    constructor
    · rw [sub_le_iff_le_add, ← two_mul]
      exact mul_le_mul_of_nonneg_left hjw zero_le_two
    · exact sub_le_self _ (mul_nonneg zero_le_two (Nat.cast_nonneg j))
  · have hW1 : W = 1 := by omega
    subst hW1
    rw [linspaceCoord_of_le_one realNum realWin le_rfl]
    simp [realWin]

section window_indep
variable {α : Type} [Zero α] [Add α] [Mul α] [DecidableEq α]

omit [Add α] [DecidableEq α] in
/-- `W - 1 ≠ 0` whenever a coordinate is a quotient, and `sigma ≠ 0` by the guard of the code -/
theorem gaussWeight_indep_div_zero {num num' : Num α} {wn : WinNum α}
    (hd : ∀ a b, b ≠ 0 → num.div a b = num'.div a b) (hz : ∀ n : Int, n ≠ 0 → wn.ofInt n ≠ 0)
    {sigma : α} (hs : sigma ≠ 0) (W j : Nat) :
    gaussWeight num wn sigma W j = gaussWeight num' wn sigma W j := by
  have hx : linspaceCoord num wn W j = linspaceCoord num' wn W j := by
    by_cases hW : W ≤ 1
    · rw [linspaceCoord_of_le_one num wn hW, linspaceCoord_of_le_one num' wn hW]
    · obtain ⟨h, hne⟩ := linspaceCoord_of_one_lt num wn (Nat.lt_of_not_le hW) j
      rw [h, (linspaceCoord_of_one_lt num' wn (Nat.lt_of_not_le hW) j).1]
      exact hd _ _ (hz _ hne)
  unfold gaussWeight gaussExponent
  rw [hx, hd _ _ hs]

omit [Add α] in
theorem acsKspace_indep_div_zero (num num' : Num α) (wn : WinNum α)
    (hd : ∀ a b, b ≠ 0 → num.div a b = num'.div a b) (hz : ∀ n : Int, n ≠ 0 → wn.ofInt n ≠ 0)
    (sigma : Option α) (W : Nat) (k : SMap α) (m : Nat → α) :
    acsKspace num wn sigma W k m = acsKspace num' wn sigma W k m := by
  unfold acsKspace
  cases hs : gaussianActive sigma with
  | none => rfl
  | some s =>
    simp only
    congr 1
    funext p
    exact gaussWeight_indep_div_zero hd hz (gaussianActive_eq_some hs).2 W _

end window_indep

/-- positivity is what `renorm_weight_invariant` asks of the weights -/
theorem gaussWeight_pos (sigma : ℝ) (W j : Nat) : 0 < gaussWeight realNum realWin sigma W j :=
  Real.exp_pos _

theorem gaussWeight_le_one (sigma : ℝ) (W j : Nat) : gaussWeight realNum realWin sigma W j ≤ 1 :=
  Real.exp_le_one_iff.mpr (neg_nonpos.mpr (mul_self_nonneg _))

/-- a window built as `(arange(W) - W // 2) / (W // 2)` divides by zero for a singleton width (the poison value
of `ratNum`); `linspace` does not -/
theorem arange_window_violates :
    arangeCoord ratNum ratWin 1 0 = 1000003 ∧ linspaceCoord ratNum ratWin 1 0 = -1 := by decide +kernel

/-- with a pixel-wise backward operator (`B = id`, the situation of the correspondence) the Gaussian weighting
does not change the estimated map. -/
theorem estimate_gauss_eq_plain (sigma : Option ℝ) (W : Nat) (k : SMap ℝ) (m : Nat → ℝ) :
    estimateRSS realNum (estimateAcsImage realNum realWin id sigma W k m) =
      estimateRSS realNum (estimateAcsImage realNum realWin id none W k m) := by
  unfold estimateAcsImage acsKspace
  cases hs : gaussianActive sigma with
  | none => rfl
  | some s =>
    simp only [id, gaussianActive]
    rw [estimate_eq_renorm, estimate_eq_renorm]
    exact renorm_weight_invariant _ (fun p => gaussWeight_pos s W (p % W)) _

/-- C09 for the whole `forward` of the RSS path: `B`, `sigma`, width, mask and k-space arbitrary. -/
theorem estimate_forward_normalised (B : SMap ℝ → SMap ℝ) (sigma : Option ℝ) (W : Nat) (k : SMap ℝ) (m : Nat → ℝ) (p : Nat) :
    let a := estimateAcsImage realNum realWin B sigma W k m
    (sumSqAt (estimateRSS realNum a) p = 1 ∨ ∀ c ∈ fibre (estimateRSS realNum a) p, c = (0, 0)) ∧
    ((∀ c ∈ fibre (estimateRSS realNum a) p, c = (0, 0)) ↔ (∀ c ∈ fibre a p, c = (0, 0))) :=
  estimate_normalised _ p


section finite2
variable {α : Type} [Zero α] [Add α] [Mul α] [DecidableEq α]

/-- **whatever the mask values are** (NaN/Inf included): `torch.where(mask == 0, 0, k)` -/
theorem maskPixels_finite {num : Num α} {fin : α → Prop} (hc : FiniteClosed num fin) (m : Nat → α)
    {S : SMap α} (hS : AllFinite fin S) : AllFinite fin (maskPixels m S) := by
  rw [maskPixels_eq_divMapWith]
  refine divMapWith_finite (fun a p ha => ?_) hS
  split
  · exact hc.zero
  · exact ha

omit [Add α] [Mul α] in
theorem maskPixels_entry (m : Nat → α) (S : SMap α) (c p : Nat) :
    ((maskPixels m S)[c]?.bind (·[p]?)) =
      (S[c]?.bind (·[p]?)).map fun x => if m p = 0 then ((0 : α), (0 : α)) else x := by
  unfold maskPixels
  simp only [List.getElem?_map]
  cases S[c]? with
  | none => rfl
  | some coil => simp [List.getElem?_mapIdx]

/-- for a 0/1 mask masking is the product with the mask, which is how the pinned tree masked the ACS k-space (in
float32 the product turns `inf · 0` into NaN, `torch.where` does not). -/
theorem maskPixels_eq_weightPixels_real (m : Nat → ℝ) (hm : ∀ p, m p = 0 ∨ m p = 1) (S : SMap ℝ) :
    maskPixels m S = weightPixels m S := by
  rw [maskPixels_eq_divMapWith]
  refine divMapWith_congr (fun p x => ?_) S
  rcases hm p with h | h
  · rw [h, if_pos rfl, mul_zero]
  · rw [h, if_neg one_ne_zero, mul_one]

omit [DecidableEq α] in
theorem gaussWeight_finite (num : Num α) (wn : WinNum α) (fin : α → Prop) (hc : FiniteClosed num fin)
    (hi : ∀ n, fin (wn.ofInt n)) (he : ∀ x, fin x → fin (wn.expNeg x)) (hz : ∀ n : Int, n ≠ 0 → wn.ofInt n ≠ 0)
    (sigma : α) (hs : sigma ≠ 0) (hsf : fin sigma) (W j : Nat) : fin (gaussWeight num wn sigma W j) := by
  unfold gaussWeight gaussExponent
  apply he
  have hx : fin (linspaceCoord num wn W j) := by
    by_cases hW : W ≤ 1
    · rw [linspaceCoord_of_le_one num wn hW]
      exact hi _
    · obtain ⟨h, hne⟩ := linspaceCoord_of_one_lt num wn (Nat.lt_of_not_le hW) j
      rw [h]
      exact hc.div _ _ (hi _) (hi _) (hz _ hne)
  have hq := hc.div _ _ hx hsf hs
  exact hc.mul _ _ hq hq

theorem acsKspace_finite {num : Num α} {wn : WinNum α} {fin : α → Prop} (hc : FiniteClosed num fin)
    (hi : ∀ n, fin (wn.ofInt n)) (he : ∀ x, fin x → fin (wn.expNeg x)) (hz : ∀ n : Int, n ≠ 0 → wn.ofInt n ≠ 0)
    {sigma : Option α} (hsf : ∀ s, sigma = some s → fin s) (W : Nat) {k : SMap α} (hk : AllFinite fin k)
    (m : Nat → α) : AllFinite fin (acsKspace num wn sigma W k m) := by
  unfold acsKspace
  cases hs : gaussianActive sigma with
  | none => exact maskPixels_finite hc m hk
  | some s =>
    obtain ⟨hsig, hs0⟩ := gaussianActive_eq_some hs
    refine divMapWith_finite (fun _ p ha => hc.mul _ _ ha ?_) (maskPixels_finite hc m hk)
    exact gaussWeight_finite num wn fin hc hi he hz s hs0 (hsf s hsig) W _

/-- finiteness for the whole `forward` of the RSS path; trusted: the backward operator keeps finite tensors
finite (`hB`) -/
theorem estimate_gauss_finite (num : Num α) (wn : WinNum α) (fin : α → Prop) (hc : FiniteClosed num fin)
    (hi : ∀ n, fin (wn.ofInt n)) (he : ∀ x, fin x → fin (wn.expNeg x)) (hz : ∀ n : Int, n ≠ 0 → wn.ofInt n ≠ 0)
    (B : SMap α → SMap α) (hB : ∀ x, AllFinite fin x → AllFinite fin (B x))
    (sigma : Option α) (hsf : ∀ s, sigma = some s → fin s) (W : Nat) (k : SMap α) (hk : AllFinite fin k)
    (m : Nat → α) :
    AllFinite fin (estimateRSS num (estimateAcsImage num wn B sigma W k m)) := by
  exact renorm_finite hc (renorm_finite hc (hB _ (acsKspace_finite hc hi he hz hsf W hk m)))

end finite2

/-- the hypotheses are satisfiable (ℝ, integer casts are injective at 0) -/
example : ∀ n : Int, n ≠ 0 → realWin.ofInt n ≠ 0 := fun n hn => by simpa [realWin] using hn

theorem forward_rss_eq {α : Type} [Zero α] [One α] [Add α] [Mul α] [DecidableEq α] (num : Num α)
    (calib a : SMap α) (coils pixels : Nat) :
    forwardMap num .rssEstimate calib a coils pixels = estimateRSS num a := rfl

theorem forward_unit_eq {α : Type} [Zero α] [One α] [Add α] [Mul α] [DecidableEq α] (num : Num α)
    (calib a : SMap α) (coils pixels : Nat) :
    forwardMap num .unit calib a coils pixels = estimateUnit num coils pixels := rfl

/-- C09 for `EstimateSensitivityMapModule.forward`: any map type, whatever the ESPIRiT calibrator returns. -/
theorem forward_normalised (ty : MapType) (calib a : SMap ℝ) (coils pixels p : Nat) :
    sumSqAt (forwardMap realNum ty calib a coils pixels) p = 1 ∨
    ∀ c ∈ fibre (forwardMap realNum ty calib a coils pixels) p, c = (0, 0) := by
  unfold forwardMap
  exact renorm_unit_or_zero _ p

/-- for ESPIRiT the zero case is the cropped eigenvalue -/
theorem forward_espirit_zero_iff (calib a : SMap ℝ) (coils pixels p : Nat) :
    (∀ c ∈ fibre (forwardMap realNum .espirit calib a coils pixels) p, c = (0, 0)) ↔
      (∀ c ∈ fibre calib p, c = (0, 0)) := by
  unfold forwardMap
  exact renorm_zero_iff _ p

theorem forward_indep_div_zero {α : Type} [Zero α] [One α] [Add α] [Mul α] [DecidableEq α] (num num' : Num α)
    (hs : num.sqrt = num'.sqrt) (hd : ∀ a b, b ≠ 0 → num.div a b = num'.div a b) (ty : MapType)
    (calib a : SMap α) (coils pixels : Nat) :
    forwardMap num ty calib a coils pixels = forwardMap num' ty calib a coils pixels := by
  cases ty
  · exact renorm_indep_div_zero hs hd _
  · show renorm num (renorm num a) = renorm num' (renorm num' a)
    rw [renorm_indep_div_zero hs hd a]
    exact renorm_indep_div_zero hs hd _
  · exact renorm_indep_div_zero hs hd _

theorem forward_finite {α : Type} [Zero α] [One α] [Add α] [Mul α] [DecidableEq α] (num : Num α)
    (fin : α → Prop) (hc : FiniteClosed num fin) (h1 : fin 1) (ty : MapType) (calib a : SMap α)
    (hcal : AllFinite fin calib) (ha : AllFinite fin a) (coils pixels : Nat) :
    AllFinite fin (forwardMap num ty calib a coils pixels) := by
  unfold forwardMap
  apply renorm_finite hc
  cases ty
  · intro coil hcoil c hcc
    rw [(List.mem_replicate.mp hcoil).2] at hcc
    rw [(List.mem_replicate.mp hcc).2]
    exact ⟨h1, hc.zero⟩
  · exact renorm_finite hc ha
  · exact hcal

/-- ESPIRiT's last step (`x * x.conj() / x.abs()`, then the crop mask `keep`) keeps the normalisation the power
method established where the eigenvalue passes the crop threshold (`keep p = 1`) -/
theorem sumSqAt_espiritTail (x : SMap ℝ) (keep : Nat → ℝ) (p : Nat) :
    sumSqAt (espiritTail realNum x keep) p = keep p * keep p * sumSqAt x p := by
  unfold espiritTail
  rw [sumSqAt_weightPixels]
  congr 1
  unfold sumSqAt
  rw [fibre_map, List.map_map, show Sens.sq ∘ espiritPhase realNum = Sens.sq from funext sq_espiritPhase]

/-- but that division is unguarded: a zero entry gives poison (float32: `0 * 0 / 0 = NaN`), and `safe_divide` in
the common tail does not remove it -/
theorem espirit_phase_unguarded : espiritPhase ratNum ((0 : Rat), (0 : Rat)) = (1000003, 0) := by decide +kernel

theorem modelChoice_single_coil (h2 h3 : Bool) (nd : Int) : modelChoice false h2 h3 nd = 0 := by
  simp [modelChoice]

theorem modelChoice_no_model (mc : Bool) (nd : Int) : modelChoice mc false false nd = 0 := by
  simp [modelChoice]

/-- 3-D data prefer the 3-D model; the 2-D model is applied slice by slice only when there is no 3-D one -/
theorem modelChoice_3d (h2 : Bool) (nd : Int) (hnd : nd ≠ 2) : modelChoice true h2 true nd = 2 := by
  simp [modelChoice, hnd]

theorem modelChoice_2d (h3 : Bool) : modelChoice true true h3 2 = 1 := by
  simp [modelChoice]

theorem perm2d_roundtrip (n c h w k : Nat) :
    permuteShape permIn2d [n, c, h, w, k] = [n, c, k, h, w] ∧
    permuteShape permOut2d (permuteShape permIn2d [n, c, h, w, k]) = [n, c, h, w, k] := by
  constructor <;> rfl

theorem perm3d_roundtrip (n c s h w k : Nat) :
    permuteShape permIn3d [n, c, s, h, w, k] = [n, c, k, s, h, w] ∧
    permuteShape permOut3d (permuteShape permIn3d [n, c, s, h, w, k]) = [n, c, s, h, w, k] := by
  constructor <;> rfl

example : permInverse permIn2d permOut2d = true ∧ permInverse permIn3d permOut3d = true := by decide


/-! ## magnitudes in the documented range `2^-60 … 2^60`

Sizes over ℝ of the intermediates of `renorm` at one pixel.  float32 has normal numbers from `2^-126` up to (just
below) `2^128`; an exact result in that range neither overflows nor underflows. -/

/-- at most 64 coils: the sum of squares lies in `[2^-120, 2^127]` -/
theorem sumsq_in_normal_range (v : List (ℝ × ℝ)) (hlen : v.length ≤ 64)
    (hub : ∀ c ∈ v, |c.1| ≤ rangeHi ∧ |c.2| ≤ rangeHi)
    (hlb : ∃ c ∈ v, rangeLo ≤ |c.1| ∨ rangeLo ≤ |c.2|) :
    rangeLo * rangeLo ≤ (v.map Sens.sq).sum ∧ (v.map Sens.sq).sum ≤ 2 ^ 127 := by
  constructor
  · obtain ⟨c, hc, h⟩ := hlb
    have h1 : rangeLo * rangeLo ≤ Sens.sq c := by
      rcases h with h | h
      · exact (mul_self_ge_of_abs_ge rangeLo_pos.le h).trans (mul_self_le_sq c).1
      · exact (mul_self_ge_of_abs_ge rangeLo_pos.le h).trans (mul_self_le_sq c).2
    exact h1.trans (sq_le_sumsq v c hc)
  · have hl : (v.length : ℝ) ≤ 64 := by exact_mod_cast hlen
    have hb : (0 : ℝ) ≤ 2 * (rangeHi * rangeHi) := mul_nonneg zero_le_two (mul_self_nonneg _)
    calc (v.map Sens.sq).sum ≤ v.length * (2 * (rangeHi * rangeHi)) := sumsq_le_length v rangeHi hub
      _ ≤ 64 * (2 * (rangeHi * rangeHi)) := mul_le_mul_of_nonneg_right hl hb
      _ = 2 ^ 127 := by unfold rangeHi; norm_num

theorem norm_in_normal_range (v : List (ℝ × ℝ)) (hlen : v.length ≤ 64)
    (hub : ∀ c ∈ v, |c.1| ≤ rangeHi ∧ |c.2| ≤ rangeHi)
    (hlb : ∃ c ∈ v, rangeLo ≤ |c.1| ∨ rangeLo ≤ |c.2|) :
    rangeLo ≤ Real.sqrt (v.map Sens.sq).sum ∧ Real.sqrt (v.map Sens.sq).sum ≤ 2 ^ 64 := by
  obtain ⟨h1, h2⟩ := sumsq_in_normal_range v hlen hub hlb
  constructor
  · exact (Real.sqrt_mul_self rangeLo_pos.le).symm.trans_le (Real.sqrt_le_sqrt h1)
  · calc Real.sqrt (v.map Sens.sq).sum ≤ Real.sqrt (2 ^ 64 * 2 ^ 64) :=
          Real.sqrt_le_sqrt (h2.trans (by rw [← pow_add]; exact pow_le_pow_right₀ one_le_two (by norm_num)))
      _ = 2 ^ 64 := Real.sqrt_mul_self (by positivity)

theorem quotient_in_normal_range (v : List (ℝ × ℝ)) (hlen : v.length ≤ 64)
    (hub : ∀ c ∈ v, |c.1| ≤ rangeHi ∧ |c.2| ≤ rangeHi)
    (c : ℝ × ℝ) (hc : c ∈ v) (hx : rangeLo ≤ |c.1|) :
    1 / 2 ^ 124 ≤ |c.1 / Real.sqrt (v.map Sens.sq).sum| ∧ |c.1 / Real.sqrt (v.map Sens.sq).sum| ≤ 1 := by
  obtain ⟨h1, h2⟩ := norm_in_normal_range v hlen hub ⟨c, hc, Or.inl hx⟩
  have hn : 0 < Real.sqrt (v.map Sens.sq).sum := rangeLo_pos.trans_le h1
  rw [abs_div, abs_of_pos hn]
  constructor
  · rw [le_div_iff₀ hn]
    calc 1 / 2 ^ 124 * Real.sqrt (v.map Sens.sq).sum ≤ 1 / 2 ^ 124 * 2 ^ 64 :=
          mul_le_mul_of_nonneg_left h2 (by positivity)
      _ = rangeLo := by unfold rangeLo; norm_num
      _ ≤ |c.1| := hx
  · rw [div_le_one hn]
    calc |c.1| = Real.sqrt (c.1 * c.1) := (Real.sqrt_mul_self_eq_abs c.1).symm
      _ ≤ Real.sqrt (v.map Sens.sq).sum :=
          Real.sqrt_le_sqrt ((mul_self_le_sq c).1.trans (sq_le_sumsq v c hc))

/-- the hypotheses are satisfiable, at both ends of the range at once -/
example : ∃ v : List (ℝ × ℝ), v.length ≤ 64 ∧ (∀ c ∈ v, |c.1| ≤ rangeHi ∧ |c.2| ≤ rangeHi) ∧
    (∃ c ∈ v, rangeLo ≤ |c.1| ∨ rangeLo ≤ |c.2|) :=
  have h0 : |(0 : ℝ)| ≤ rangeHi := abs_zero.trans_le rangeHi_pos.le
  have hlh : rangeLo ≤ rangeHi := by unfold rangeLo rangeHi; norm_num
  ⟨[(rangeHi, 0), (rangeLo, 0)], by decide, by
    intro c hc
    rcases List.mem_pair.mp hc with rfl | rfl
    · exact ⟨(abs_of_pos rangeHi_pos).le, h0⟩
    · exact ⟨(abs_of_pos rangeLo_pos).le.trans hlh, h0⟩,
   (rangeLo, 0), List.mem_cons_of_mem _ (List.mem_singleton.mpr rfl), Or.inl (le_abs_self _)⟩

/-- where the range ends: the square of `2^64` is above every finite float32 (the sum overflows to `inf`, the map
degenerates to `0`); the square of `2^-75` is below half the smallest positive float32 `2^-149` (rounds to `0`, the
pixel counts as no signal).  `2^±60` keeps a margin for up to 64 coils and for the quotient. -/
theorem range_end_witnesses :
    Sens.sq (((2 : ℝ) ^ 64), 0) = 2 ^ 128 ∧ Sens.sq ((1 / (2 : ℝ) ^ 75), 0) = 1 / 2 ^ 150 ∧
    (1 / (2 : ℝ) ^ 150 < 1 / 2 ^ 149) := by
  unfold Sens.sq
  refine ⟨by norm_num, by norm_num, by norm_num⟩

/-- the range cannot be widened without lowering the coil count -/
theorem range_bound_attained :
    ((List.replicate 64 (((2 : ℝ) ^ 60), ((2 : ℝ) ^ 60))).map Sens.sq).sum = 2 ^ 127 := by
  simp only [List.map_replicate, List.sum_replicate, Sens.sq]
  norm_num


end DirectVerif.C09
