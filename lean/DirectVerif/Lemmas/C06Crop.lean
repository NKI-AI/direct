import DirectVerif.Lemmas.C06Assemble
import DirectVerif.Model.C06Crop
/-! `subsetB` cell by cell, for the crop frames of `Model/C06Crop.lean`. -/
namespace DirectVerif.C06Crop
open DirectVerif DirectVerif.MaskGeom

theorem subsetB_iff (a b : List Bool) :
    subsetB a b = true ↔ ∀ k, a.getD k false = true → b.getD k false = true := by
  unfold subsetB
  rw [List.all_eq_true]
  constructor
  · intro h k hk
    by_cases hlt : k < a.length
    · have := h k (List.mem_range.mpr hlt)
      rwa [hk, Bool.not_true, Bool.false_or] at this
    · rw [List.getD_eq_getElem?_getD, List.getElem?_eq_none (by omega)] at hk
      cases hk
  · intro h k _
    cases hk : a.getD k false
    · rfl
    · rw [h k hk]; rfl

end DirectVerif.C06Crop
