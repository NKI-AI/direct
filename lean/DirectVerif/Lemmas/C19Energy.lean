import DirectVerif.Lemmas.C19CG
import DirectVerif.Lemmas.C19Loglik
import DirectVerif.Lemmas.C19Batch
/-!
What turns the loop invariant of `C19CG` into statements about `ConjGrad.cg`: one pass lowers the quadratic energy
`½⟪x, Bx⟫ − re⟪b, x⟫` by `α² ⟪p, Bp⟫ / 2`; the loop with its `break` returns one of the iterates (`cgLoop_spec_first`);
and `B_op` of the code is self-adjoint positive definite for real `λ > 0` under `Physics` (`bLin_spd`), so the invariant
applies to it.
-/
open ComplexInnerProductSpace DirectVerif.DataConsistency
open scoped ComplexConjugate

namespace DirectVerif.C19
variable {E : Type*} [NormedAddCommGroup E] [InnerProductSpace ℂ E]
variable {G : Type*} [NormedAddCommGroup G] [InnerProductSpace ℂ G]

/-- for SPD `B` its unique minimiser solves `B x = b` -/
noncomputable def energy (B : E →ₗ[ℂ] E) (b x : E) : ℝ := (⟪x, B x⟫).re / 2 - (⟪b, x⟫).re

theorem SPD.nonneg {B : E →ₗ[ℂ] E} (hB : SPD B) (p : E) : 0 ≤ (⟪p, B p⟫).re := by
  by_cases hp : p = 0
  · rw [hp, inner_zero_left]; simp
  · exact (hB.pd p hp).le

theorem energy_add_real_smul {B : E →ₗ[ℂ] E} (hB : SPD B) (b x p : E) (t : ℝ) :
    energy B b (x + (t : ℂ) • p) =
      energy B b x - t * (⟪p, b - B x⟫).re + t ^ 2 * (⟪p, B p⟫).re / 2 := by
  unfold energy
  have h1 : (⟪x, B p⟫).re = (⟪p, B x⟫).re := by rw [← hB.sa, re_inner_symm]
  have h2 : (⟪b, p⟫).re = (⟪p, b⟫).re := re_inner_symm _ _
  simp only [map_add, map_smul, inner_add_left, inner_add_right, inner_smul_left, inner_smul_right,
    inner_sub_right, Complex.add_re, Complex.sub_re, Complex.conj_ofReal, Complex.re_ofReal_mul]
  rw [h1, h2]; ring

theorem energy_eq_error {B : E →ₗ[ℂ] E} (hB : SPD B) (b x xs : E) (hs : B xs = b) :
    energy B b x = energy B b xs + (⟪x - xs, B (x - xs)⟫).re / 2 := by
  have e : x = xs + ((1 : ℝ) : ℂ) • (x - xs) := by simp
  conv_lhs => rw [e, energy_add_real_smul hB, hs, sub_self, inner_zero_right]
  simp

section Loop
universe u v w
variable {K : Type u} {V : Type v} {W : Type w} (o : Ops K V W)

theorem cgIter_succ' (u : Update) (B : V → V) (k : ℕ) (s : CGState K V) :
    cgIter o u B (k + 1) s = cgStep o u B (cgIter o u B k s) := by
  induction k generalizing s with
  | zero => rfl
  | succ k ih => exact ih (cgStep o u B s)

theorem cgLoop_spec_first (u : Update) (B : V → V) (stop : K → Bool) (n : ℕ) (s : CGState K V) :
    ∃ j, j ≤ n ∧ cgLoop o u B stop n s = (cgIter o u B j s).x ∧
      (j < n → 0 < j ∧ stop (cgIter o u B j s).rr = true) ∧
      (∀ i, 0 < i → i < j → stop (cgIter o u B i s).rr = false) :=
  loop_spec (cgStep o u B) (fun s => stop s.rr) (·.x) (cgLoop o u B stop) (cgIter o u B) (fun _ => rfl) (fun _ _ => rfl)
    (fun _ => rfl) (fun _ _ => rfl) n s

theorem cg_zero_iters (u : Update) (stop : K → Bool) (lam : K) (x0 : V) (y : W) (z : V) :
    cg o u 0 stop lam x0 y z = x0 := rfl

theorem cgLoop_never_stop (u : Update) (B : V → V) (n : ℕ) (s : CGState K V) :
    cgLoop o u B (fun _ => false) n s = (cgIter o u B n s).x := by
  induction n generalizing s with
  | zero => rfl
  | succ n ih => simp only [cgLoop, Bool.false_eq_true, if_false]; exact ih (cgStep o u B s)

end Loop

variable {F Fb : G →ₗ[ℂ] G} {Ex : E →ₗ[ℂ] G} {R : G →ₗ[ℂ] E} {M : G →ₗ[ℂ] G}

section CG
variable {B : E →ₗ[ℂ] E} {b : E}

theorem cg_energy_step (hB : SPD B) (u : Update) {s : CGState ℂ E} (h : CGInv B b s) :
    energy B b (cgStep (mathOps F Fb Ex R M) u B s).x =
      energy B b s.x - (alpha B s).re ^ 2 * (⟪s.p, B s.p⟫).re / 2 := by
  have ha : ((alpha B s).re : ℂ) = alpha B s := Complex.conj_eq_iff_re.mp (h.alpha_real hB)
  have hm := h.alpha_mul hB
  rw [← ha, h.cj] at hm
  have hm' : (alpha B s).re * (⟪s.p, B s.p⟫).re = (⟪s.r, s.r⟫).re := by
    rw [← hm, Complex.re_ofReal_mul]
  have e : (cgStep (mathOps F Fb Ex R M) u B s).x = s.x + ((alpha B s).re : ℂ) • s.p := by rw [cgStep_x, ha]
  rw [e, energy_add_real_smul hB, ← h.res, h.pr, ← hm']
  ring

theorem cg_energy_step_le (hB : SPD B) (u : Update) {s : CGState ℂ E} (h : CGInv B b s) :
    energy B b (cgStep (mathOps F Fb Ex R M) u B s).x ≤ energy B b s.x := by
  rw [cg_energy_step hB u h]
  have := mul_nonneg (sq_nonneg (alpha B s).re) (hB.nonneg s.p)
  linarith

theorem cgIter_inv (hB : SPD B) (u : Update) (hu : u = .FR ∨ u = .PRP) (k : ℕ) {s : CGState ℂ E}
    (h : CGInv B b s) : CGInv B b (cgIter (mathOps F Fb Ex R M) u B k s) := by
  induction k with
  | zero => exact h
  | succ k ih => rw [cgIter_succ']; exact cgStep_inv hB u hu ih

end CG

section BOp
variable (F Fb Ex R M)

def bLin (lam : ℂ) : E →ₗ[ℂ] E := R ∘ₗ Fb ∘ₗ M ∘ₗ F ∘ₗ Ex + lam • LinearMap.id

theorem bOp_eq (lam : ℂ) : bOp (mathOps F Fb Ex R M) lam = ⇑(bLin F Fb Ex R M lam) := by
  funext x; rfl

variable {F Fb Ex R M}

theorem bLin_apply (P : Physics F Fb Ex R M) (lam : ℂ) (x : E) :
    bLin F Fb Ex R M lam x = adjModel Fb R M (fwdModel F Ex M x) + lam • x := by
  show R (Fb (M (F (Ex x)))) + lam • x = _
  simp only [fwdModel, adjModel, LinearMap.comp_apply, P.mask_idem]

theorem bLin_spd (P : Physics F Fb Ex R M) (lam : ℝ) (hl : 0 < lam) : SPD (bLin F Fb Ex R M (lam : ℂ)) where
  sa := by
    intro u v
    rw [bLin_apply P, bLin_apply P, inner_add_left, inner_add_right, inner_smul_left, inner_smul_right,
      Complex.conj_ofReal, ← adjModel_is_adjoint P, ← inner_conj_symm, ← adjModel_is_adjoint P, inner_conj_symm]
  pd := by
    intro u hu
    rw [bLin_apply P, inner_add_right, inner_smul_right, ← adjModel_is_adjoint P, Complex.add_re,
      Complex.re_ofReal_mul]
    have h1 : 0 ≤ (⟪fwdModel F Ex M u, fwdModel F Ex M u⟫).re := by
      rw [re_inner_self]; positivity
    have h2 : 0 < (⟪u, u⟫).re := by rw [re_inner_self]; exact pow_pos (norm_pos_iff.mpr hu) 2
    have := mul_pos hl h2
    linarith

end BOp
end DirectVerif.C19
