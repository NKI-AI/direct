import DirectVerif.Model.Crop
import DirectVerif.Model.C10Modules
import DirectVerif.Lemmas.TensorLift
import DirectVerif.Lemmas.C10Modules
/-!
# C10 — `PadCoilDimensionModule`: the coil axis is padded with exact zeros IN FRONT of the data

About `Crop.padCoils1` / `padCoilCall` / `padCoilDecision`, which the driver op `padcoil` executes.
-/
namespace DirectVerif.C10PadCoil
open DirectVerif DirectVerif.Crop DirectVerif.Tensor

variable {α : Type}

theorem pad_coils_spec (zero : α) (num : Int) (xs : List α) (h0 : num ≠ 0) (hle : (xs.length : Int) ≤ num) :
    padCoils1 zero num xs = some (List.replicate (num - xs.length).toNat zero ++ xs) := by
  unfold padCoils1 padCoilDecision
  by_cases heq : (xs.length : Int) = num
  · have : ¬ ((xs.length : Int) > num) := by omega
    simp [h0, heq]
  · have h1 : ¬ ((xs.length : Int) > num) := by omega
    have h2 : max (num - (xs.length : Int)) 0 = num - xs.length := by omega
    simp [h0, h1, heq, fPad, h2]

/-- `pad_coils = None` / `0` -/
theorem pad_coils_none (zero : α) (xs : List α) : padCoils1 zero 0 xs = some xs := by
  simp [padCoils1, padCoilDecision]

/-- as coded: `ValueError` only when the data already has MORE coils -/
theorem pad_coils_raises_iff (zero : α) (num : Int) (xs : List α) :
    padCoils1 zero num xs = none ↔ (num ≠ 0 ∧ (xs.length : Int) > num) := by
  unfold padCoils1 padCoilDecision
  by_cases h0 : num = 0
  · simp [h0]
  · by_cases h1 : (xs.length : Int) > num
    · simp [h0, h1]
    · by_cases h2 : (xs.length : Int) = num <;> simp [h0, h1, h2]

theorem pad_coils_length (zero : α) (num : Int) (xs ys : List α) (h0 : num ≠ 0) (h : padCoils1 zero num xs = some ys) :
    (ys.length : Int) = num := by
  have hle : (xs.length : Int) ≤ num := by
    by_cases hgt : (xs.length : Int) > num
    · have := (pad_coils_raises_iff zero num xs).2 ⟨h0, hgt⟩
      rw [this] at h; cases h
    · omega
  rw [pad_coils_spec zero num xs h0 hle] at h
  cases h
  simp only [List.length_append, List.length_replicate]
  omega

/-- the zeros are the FIRST `num - n` entries -/
theorem pad_coils_zeros (zero : α) (num : Int) (xs ys : List α) (h0 : num ≠ 0) (hle : (xs.length : Int) ≤ num)
    (h : padCoils1 zero num xs = some ys) (i : Nat) (hi : (i : Int) < num - xs.length) : ys[i]? = some zero := by
  rw [pad_coils_spec zero num xs h0 hle] at h
  cases h
  rw [List.getElem?_append_left (by simp only [List.length_replicate]; omega)]
  simp only [List.getElem?_replicate]
  rw [if_pos (by omega)]

theorem pad_coils_values (zero : α) (num : Int) (xs ys : List α) (h0 : num ≠ 0) (hle : (xs.length : Int) ≤ num)
    (h : padCoils1 zero num xs = some ys) (i : Nat) : ys[(num - xs.length).toNat + i]? = xs[i]? := by
  rw [pad_coils_spec zero num xs h0 hle] at h
  cases h
  rw [List.getElem?_append_right (by simp only [List.length_replicate]; omega)]
  simp only [List.length_replicate, Nat.add_sub_cancel_left]

theorem pad_coils_drop (zero : α) (num : Int) (xs ys : List α) (h0 : num ≠ 0) (hle : (xs.length : Int) ≤ num)
    (h : padCoils1 zero num xs = some ys) : ys.drop (num - xs.length).toNat = xs := by
  rw [pad_coils_spec zero num xs h0 hle] at h
  cases h
  rw [List.drop_append_of_le_length (by simp)]
  simp

theorem pad_coils_idempotent (zero : α) (num : Int) (xs ys : List α) (h : padCoils1 zero num xs = some ys) :
    padCoils1 zero num ys = some ys := by
  by_cases h0 : num = 0
  · subst h0; exact pad_coils_none zero ys
  · have hl := pad_coils_length zero num xs ys h0 h
    rw [pad_coils_spec zero num ys h0 (by omega)]
    have : (num - (ys.length : Int)).toNat = 0 := by omega
    simp [this]

/-- the pad count of the code, `max(num - cur, 0)`, never disagrees with the branch -/
theorem pad_coil_decision_pad (num cur : Int) (k : Bool) (z : Int) (h : padCoilDecision num cur k = (2, z)) :
    z = num - cur ∧ 0 < z ∧ k = true ∧ num ≠ 0 := by
  unfold padCoilDecision at h
  by_cases h0 : num = 0
  · simp [h0] at h
  · cases k
    · simp [h0] at h
    · by_cases h1 : cur > num
      · simp [h0, h1] at h
      · by_cases h2 : cur = num
        · simp [h0, h2] at h
        · simp only [h0, h1, h2, if_false, Bool.true_eq_false, Prod.mk.injEq, true_and] at h
          refine ⟨?_, ?_, rfl, h0⟩ <;> omega

/-- no `KeyError`, unlike `PadKspace` -/
theorem pad_coil_call_missing_key (key : KKey) (f : α → Option α) (s : KSample α) (h : s.get key = none) :
    padCoilCall key f s = some s := by
  simp [padCoilCall, h]

theorem pad_coil_call_frame (key other : KKey) (f : α → Option α) (s s' : KSample α) (hne : other ≠ key)
    (h : padCoilCall key f s = some s') : s'.get other = s.get other := by
  unfold padCoilCall at h
  cases hk : s.get key with
  | none => simp [hk] at h; rw [← h]
  | some x =>
    simp only [hk] at h
    cases hf : f x with
    | none => simp [hf] at h
    | some y =>
      simp only [hf, Option.map_some, Option.some.injEq] at h
      subst h
      exact C10.KSample.get_set_ne s key other y hne

theorem pad_coil_call_writes (key : KKey) (f : α → Option α) (s s' : KSample α) (x : α) (hk : s.get key = some x)
    (h : padCoilCall key f s = some s') : (s'.get key).bind (fun y => some y) = f x := by
  unfold padCoilCall at h
  simp only [hk] at h
  cases hf : f x with
  | none => simp [hf] at h
  | some y =>
    simp only [hf, Option.map_some, Option.some.injEq] at h
    rw [← h, C10.KSample.get_set_self]
    rfl

theorem pad_coil_history_independent (key : KKey) (f : α → Option α) (xs : List (KSample α)) :
    (padCoilModule key f).run () xs = xs.map (padCoilCall key f) :=
  C10.stateless_history_independent (padCoilModule key f) (fun _ _ => rfl) xs

/-- **n-D**, as the driver does it: `alongAxis a (fPad 0 (num - n) 0)` -/
theorem pad_coils_drop_nd [Inhabited α] (t : Tensor α) (a num : Nat) (zero : α)
    (hwf : t.data.length = prod t.shape) (ha : a < t.shape.length) (hN : t.shape.getD a 1 ≤ num) :
    (t.alongAxis a (fPad zero (num - t.shape.getD a 1) 0)).alongAxis a (List.drop (num - t.shape.getD a 1)) = t := by
  apply TensorLift.alongAxis_cancel t a _ _ num hwf ha
  · intro xs hxs; simp only [fPad, List.length_append, List.length_replicate]; omega
  · intro xs hxs; simp only [List.length_drop]; omega
  · intro xs _; simp [fPad]

example : padCoils1 (0 : Int) 4 [7, 8] = some [0, 0, 7, 8] := by decide
example : padCoils1 (0 : Int) 2 [7, 8] = some [7, 8] := by decide
example : padCoils1 (0 : Int) 1 [7, 8] = none := by decide
example : padCoils1 (0 : Int) 0 [7, 8] = some [7, 8] := by decide
example : padCoilDecision 4 2 true = (2, 2) := by decide
example : padCoilCall .masked (padCoils1 (0 : Int) 3) ⟨some [1], some [5]⟩ = some ⟨some [1], some [0, 0, 5]⟩ := by decide
example : padCoilCall .masked (padCoils1 (0 : Int) 3) ⟨some [1], none⟩ = some ⟨some [1], none⟩ := by decide

end DirectVerif.C10PadCoil
