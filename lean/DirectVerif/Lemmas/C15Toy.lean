import DirectVerif.Lemmas.C16
/-!
# The integer toy (`∇ = batch = k`, learning rate 1) in closed form, for `misaligned_resume_differs` — no Mathlib
-/
namespace DirectVerif.C15E
open DirectVerif.Train

theorem windowSum_const (c : Int) (θ : Int) (it0 n : Nat) (g0 : Int) :
    windowSum Toy.intOps (fun _ => c) θ it0 n g0 = g0 + (n : Int) * c := by
  unfold windowSum
  induction n with
  | zero => simp
  | succ n ih =>
    rw [List.range_succ, List.foldl_append, ih]
    simp only [List.foldl_cons, List.foldl_nil, Toy.intOps]
    rw [Int.natCast_succ, Int.add_mul, Int.one_mul]
    omega

/-- the parameters after the first optimiser step of a run on the integer toy (`∇ = batch = k`, learning rate 1) that is
`it0 % k` iterations into a window with `s.grad` in the accumulator -/
theorem intToy_first_step (k : Nat) (hk : 2 ≤ k) (s : St Int Unit Int Unit) (it0 : Nat) :
    (runRange Toy.intOps (fun _ => (1 : Int)) { k := k } (fun _ => (k : Int)) s it0 (k - it0 % k)).theta
      = s.theta - (s.grad + ((k - it0 % k : Nat) : Int) * k) / k := by
  have := runRange_first_step Toy.intOps (fun _ => (1 : Int)) { k := k } (fun _ => (k : Int)) s it0 (it0 % k) rfl
    (Nat.mod_lt it0 (by omega))
  simp only at this
  rw [this, windowSum_const]
  have hk1 : k > 1 := by omega
  simp [stepWith, received, Toy.intOps, hk1]

/-- on the integer toy, `n % k` gradients `k` are pending after `n` iterations from an empty accumulator -/
theorem intToy_grad (k n : Nat) (hk : 2 ≤ k) :
    (runRange Toy.intOps (fun _ => (1 : Int)) { k := k } (fun _ => (k : Int)) ⟨0, (), 0, 0, ()⟩ 0 n).grad
      = ((n % k : Nat) : Int) * k := by
  -- `b`, the last window boundary before `n`: nothing is pending there, and no step is taken between `b` and `n`
  have hb : (n - n % k) % k = 0 := Nat.sub_mod_eq_zero_of_mod_eq (Nat.mod_mod _ _).symm
  have hS : (runRange Toy.intOps (fun _ => (1 : Int)) { k := k } (fun _ => (k : Int)) ⟨0, (), 0, 0, ()⟩ 0 (n - n % k)).grad
      = 0 := by
    by_cases h0 : n - n % k = 0
    · rw [h0]; rfl
    · exact runRange_grad_zero Toy.intOps _ _ _ _ 0 _ (by rwa [Nat.zero_add]) (by omega)
  conv => lhs; rw [← Nat.sub_add_cancel (Nat.mod_le n k)]
  rw [runRange_add, Nat.zero_add, runRange_no_boundary Toy.intOps _ { k := k } _ _ (n - n % k) (n % k)
    (fun j hj => mod_window k _ 0 j hb (by have := Nat.mod_lt n (by omega : 0 < k); omega)), windowSum_const, hS,
    Int.zero_add]

end DirectVerif.C15E
