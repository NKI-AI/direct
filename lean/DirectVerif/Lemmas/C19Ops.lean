import Mathlib.Analysis.InnerProductSpace.Basic
import DirectVerif.Model.DataConsistency
/-!
# C19 — the operations record of `Model/DataConsistency.lean` over Mathlib's inner-product spaces

`mathOps F Fb Ex R M` instantiates `Ops` with `K = ℂ`, images `E`, multi-coil k-space `G` (complex
inner-product spaces of any dimension), `complex_dot_product = ⟪·,·⟫` (conjugate-linear in the first
argument, like the code), `complex_division = /` in `ℂ` (`x / 0 = 0`, like `safe_divide`), and the
five operators as linear maps.  The property theorems are about `loglik (mathOps …)`,
`cgStep (mathOps …)`, … — the same `def`s the driver executes over Gaussian rationals.
-/
open ComplexInnerProductSpace DirectVerif.DataConsistency
open scoped ComplexConjugate

namespace DirectVerif.C19
variable {E : Type*} [NormedAddCommGroup E] [InnerProductSpace ℂ E]
variable {G : Type*} [NormedAddCommGroup G] [InnerProductSpace ℂ G]

noncomputable def mathOps (F Fb : G →ₗ[ℂ] G) (Ex : E →ₗ[ℂ] G) (R : G →ₗ[ℂ] E) (M : G →ₗ[ℂ] G) :
    Ops ℂ E G where
  addV := fun a b => a + b
  subV := fun a b => a - b
  smulV := fun k a => k • a
  inner := fun a b => ⟪a, b⟫
  div := fun a b => a / b
  subW := fun a b => a - b
  smulW := fun k a => k • a
  expand := Ex
  reduce := R
  fwd := F
  bwd := Fb
  mask := M

/-- stated with inner products only, so no completeness or finite dimension is needed -/
structure SPD (B : E →ₗ[ℂ] E) : Prop where
  sa : ∀ u v, ⟪B u, v⟫ = ⟪u, B v⟫
  pd : ∀ u, u ≠ 0 → 0 < (⟪u, B u⟫).re

theorem SPD.inner_self_real {B : E →ₗ[ℂ] E} (h : SPD B) (p : E) : conj ⟪p, B p⟫ = ⟪p, B p⟫ := by
  rw [inner_conj_symm, h.sa]

theorem SPD.eq_zero {B : E →ₗ[ℂ] E} (h : SPD B) (p : E) (hp : ⟪p, B p⟫ = 0) : p = 0 := by
  by_contra hne
  have := h.pd p hne
  rw [hp] at this
  simp at this

theorem re_inner_symm (x y : E) : (⟪x, y⟫).re = (⟪y, x⟫).re := by
  rw [← inner_conj_symm, Complex.conj_re]

theorem re_inner_self (x : E) : (⟪x, x⟫).re = ‖x‖ ^ 2 := inner_self_eq_norm_sq (𝕜 := ℂ) x

theorem CGState.ext_fields {K V : Type*} {a b : CGState K V} (hx : a.x = b.x) (hr : a.r = b.r)
    (hp : a.p = b.p) (hrr : a.rr = b.rr) : a = b := by
  cases a
  cases b
  simp only [CGState.mk.injEq]
  exact ⟨hx, hr, hp, hrr⟩

end DirectVerif.C19
