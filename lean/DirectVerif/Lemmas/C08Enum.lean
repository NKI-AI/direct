import DirectVerif.Lemmas.C08Static
/-!
# C08 — the degree check of `build` for every valid configuration

`choices` lists, group by group, what `build` can put there (`build_covers`); the kernel runs the check of
`Lemmas/C08Static.lean` on it.  `estimateSmaps` (ACS mask requested; SENSE needs maps) and `ssl` (which keys must be
left) are read by several groups in a way that matters and stay parameters; every other flag is chosen anew in each
group that reads it — more lists than `build` produces, all of which pass.
-/
namespace DirectVerif.Pipeline
attribute [local instance] Listed.decForall

def bools : List Bool := [false, true]

def both (l : List Stage) : List (List Stage) := [[], l]

theorem opt_mem_both (b : Bool) (l : List Stage) : opt b l ∈ both l := by
  cases b <;> simp [opt, both]

theorem opt_append (b : Bool) (l l' : List Stage) : opt b (l ++ l') = opt b l ++ opt b l' := by
  cases b <;> rfl

theorem opt_mem_if (b : Bool) {l : List Stage} {g : List (List Stage)} (h : l ∈ g) :
    opt b l ∈ if b then g else [[]] := by
  cases b
  · exact List.mem_singleton_self _
  · exact h

def gCrop : List (List Stage) := [] :: bools.flatMap fun c => bools.map fun u => [.cropKspace c u]

def gMask (mf es : Bool) : List (List Stage) :=
  if mf then bools.flatMap fun s => bools.map fun u => [.createSamplingMask s (seedOf u [.filename]) es] else [[]]

def gBody (mf : Bool) : List (List Stage) :=
  [] :: if mf then bools.map fun u => [.estimateBodyCoilImage (seedOf u [.filename])] else []

/-- no ESPIRiT maps; the RSS estimate only when there is an ACS mask -/
def gSmap (es acs : Bool) : List (List Stage) :=
  if es then ([SMap.unit] ++ if acs then [SMap.rssEstimate] else []).flatMap fun st =>
    bools.map fun g => [.estimateSensitivityMap .kspace st g]
  else [[]]

def gDelete (ssl : Bool) (k : Key) : List (List Stage) := if ssl then [[]] else both [.deleteKeys [k]]

def gScale (keys : List Key) : List (List Stage) :=
  [Key.maskedKspace, .kspace].flatMap fun k => bools.map fun p =>
    [.computeScalingFactor (.key k) p .scalingFactor, .normalize .scalingFactor keys]

/-- the SENSE reconstructions only when there is a sensitivity map -/
def gRecon (smap : Bool) (rest : List Stage) : List (List Stage) :=
  ([Recon.ifft, .rss, .complex, .complexMod] ++ if smap then [Recon.sense, .senseMod] else []).map fun r =>
    .computeImage .kspace .target r :: rest

/-- the ACS mask is kept in the split only when there is one -/
def gSplit (acs : Bool) : List (List Stage) :=
  [Split.uniform, .gaussian, .half].flatMap fun sp => ([false] ++ if acs then [true] else []).flatMap fun ka =>
    bools.map fun u => [.maskSplitter sp ka (seedOf u [.filename, .sliceNo]) .maskedKspace, .deleteKeys [.acsMask]]

theorem mem_gCrop : ∀ (crop : CropArg) (center us : Bool), opt (crop != .none) [.cropKspace center us] ∈ gCrop := by
  decide +kernel

theorem mem_gMask : ∀ mf s us es : Bool,
    opt mf [.createSamplingMask s (seedOf us [.filename]) es] ∈ gMask mf es := by
  decide +kernel

theorem mem_gBody : ∀ bc mf us : Bool,
    opt (bc && mf) [.estimateBodyCoilImage (seedOf us [.filename])] ∈ gBody mf := by
  decide +kernel

theorem mem_gSmap : ∀ (es acs sg : Bool) (st : SMap), (!es || st != .espirit) = true →
    (!(es && st == .rssEstimate) || acs) = true → opt es [.estimateSensitivityMap .kspace st sg] ∈ gSmap es acs := by
  decide +kernel

theorem mem_gDelete (ssl d : Bool) (k : Key) : opt (if !ssl then d else false) [.deleteKeys [k]] ∈ gDelete ssl k := by
  cases ssl <;> cases d <;> simp [gDelete, opt, both]

theorem mem_gScale (sk : ScalingKey) (pct : Bool) (keys : List Key)
    (hsk : (sk == .key .maskedKspace || sk == .key .kspace) = true) :
    [.computeScalingFactor sk pct .scalingFactor, .normalize .scalingFactor keys] ∈ gScale keys := by
  simp only [Bool.or_eq_true, beq_iff_eq] at hsk
  rcases hsk with rfl | rfl <;> cases pct <;> simp [gScale, bools]

theorem mem_gRecon (r : Recon) (smap : Bool) (rest : List Stage)
    (h : (!(r == .sense || r == .senseMod) || smap) = true) : .computeImage .kspace .target r :: rest ∈ gRecon smap rest :=
  List.mem_map_of_mem <| (by decide +kernel : ∀ (r : Recon) (smap : Bool), (!(r == .sense || r == .senseMod) || smap) = true →
    r ∈ [Recon.ifft, .rss, .complex, .complexMod] ++ if smap then [Recon.sense, .senseMod] else []) r smap h

theorem mem_gSplit : ∀ (sp : Split) (ka us acs : Bool), (ka = true → acs = true) →
    [.maskSplitter sp ka (seedOf us [.filename, .sliceNo]) .maskedKspace, .deleteKeys [.acsMask]] ∈ gSplit acs := by
  decide +kernel

/-- `ga` / `gs`: the sample brings an ACS mask / a sensitivity map -/
def choices (mf ga gs es ssl : Bool) : List (List (List Stage)) :=
  [ [[.toTensor]], gCrop, both [.rescaleKspace .kspace], both [.padKspace .kspace], both [.randomRotation],
    both [.randomFlip], both [.randomReverse],
    both [.computeZeroPadding .kspace .padding thrCurrent, .applyZeroPadding .kspace .padding],
    gMask mf es, both [.compressCoil .kspace], both [.padCoilDimension .kspace], gBody mf, gSmap es (mf || ga),
    gDelete ssl .acsMask, [[.applyMask .samplingMask .kspace .maskedKspace]], gScale [.kspace, .maskedKspace],
    gRecon (es || gs) [], gDelete ssl .kspace, [[.addBooleanKeys]],
    if ssl then gSplit ((es && mf) || ga) else [[]],
    [opt ssl [.renameKeys [.inputMaskedKspace, .targetMaskedKspace] [.inputKspace, .kspace],
              .deleteKeys [.maskedKspace, .samplingMask]]],
    if ssl then gRecon (es || gs) [] else [[]] ]

theorem build_covers (gm ga gs : Bool) (c : Config) (hv : c.validG gm ga gs = true) :
    Covers (choices c.maskFunc ga gs c.estimateSmaps c.ssl) (build c) := by
  obtain ⟨crop, center, rescale, pad, rot, flip, rev, pe, mf, cc, pc, bc, es, st, sg, da, dk, recon, sk, pct,
    us, ssl, split, ka⟩ := c
  simp only [Config.validG, Bool.and_eq_true] at hv
  obtain ⟨⟨⟨⟨⟨⟨_, hsk⟩, hr⟩, hst⟩, hrss⟩, hka⟩, _⟩ := hv
  rw [Bool.or_assoc] at hr hrss
  simp only [build, buildSupervised, choices, List.append_assoc, opt_append]
  refine
    .cons (List.mem_singleton_self _) <|                      -- ToTensor
    .cons (mem_gCrop ..) <|
    .cons (opt_mem_both ..) <|                                -- RescaleKspace
    .cons (opt_mem_both ..) <|                                -- PadKspace
    .cons (opt_mem_both ..) <|                                -- RandomRotation
    .cons (opt_mem_both ..) <|                                -- RandomFlip
    .cons (opt_mem_both ..) <|                                -- RandomReverse
    .cons (opt_mem_both ..) <|                                -- ComputeZeroPadding, ApplyZeroPadding
    .cons (mem_gMask ..) <|
    .cons (opt_mem_both ..) <|                                -- CompressCoil
    .cons (opt_mem_both ..) <|                                -- PadCoilDimension
    .cons (mem_gBody ..) <|
    .cons (mem_gSmap _ _ _ _ hst hrss) <|
    .cons (mem_gDelete ..) <|                                 -- DeleteKeys acs_mask
    .cons (List.mem_singleton_self _) <|                      -- ApplyMask
    .cons (mem_gScale _ _ _ hsk) <|
    .cons (mem_gRecon _ _ _ hr) <|
    .cons (mem_gDelete ..) <|                                 -- DeleteKeys kspace
    .cons (List.mem_singleton_self _) <|                      -- AddBooleanKeys
    .cons (opt_mem_if _ (mem_gSplit _ _ _ _ ?_)) <|
    .cons (List.mem_singleton_self _) <|                      -- RenameKeys, DeleteKeys (SSL)
    .single (opt_mem_if _ (mem_gRecon _ _ _ hr))
  intro h
  simp only [h, Bool.not_true, Bool.false_or, Bool.and_eq_true] at hka
  exact hka.2

theorem check_raw (es ssl : Bool) : checkFrom (givenEnv false false false) ssl (choices true false false es ssl) = true := by
  revert es ssl; decide +kernel

theorem check_givenA (es ssl : Bool) : checkFrom (givenEnv true true false) ssl (choices false true false es ssl) = true := by
  revert es ssl; decide +kernel

theorem check_givenB (es ssl : Bool) : checkFrom (givenEnv false false true) ssl (choices true false true es ssl) = true := by
  revert es ssl; decide +kernel

theorem degreesOkFrom_build {gm ga gs : Bool} (c : Config) (hv : c.validG gm ga gs = true)
    (hc : ∀ es ssl, checkFrom (givenEnv gm ga gs) ssl (choices c.maskFunc ga gs es ssl) = true) :
    degreesOkFrom (givenEnv gm ga gs) c.ssl (build c) = true :=
  degreesOkFrom_of_check (build_covers gm ga gs c hv) (hc _ _)

theorem valid_validG (c : Config) (hv : c.valid = true) : c.maskFunc = true ∧ c.validG false false false = true := by
  simp only [Config.valid, Bool.and_eq_true] at hv
  obtain ⟨⟨⟨⟨hmf, hsk⟩, hr⟩, hst⟩, hka⟩ := hv
  simp only [Config.validG, hmf, hsk, hr, hst, hka, Bool.or_false, Bool.and_true, Bool.or_true, Bool.false_and,
    Bool.not_false, and_self]

/-- the sample brings `sampling_mask` and `acs_mask`, no mask function -/
theorem givenA_degrees_ok (c : Config) (hmf : c.maskFunc = false) (hv : c.validG true true false = true) :
    degreesOkFrom (givenEnv true true false) c.ssl (build c) = true := by
  refine degreesOkFrom_build c hv ?_
  rw [hmf]; exact check_givenA

/-- the sample brings a `sensitivity_map` -/
theorem givenB_degrees_ok (c : Config) (hmf : c.maskFunc = true) (hv : c.validG false false true = true) :
    degreesOkFrom (givenEnv false false true) c.ssl (build c) = true := by
  refine degreesOkFrom_build c hv ?_
  rw [hmf]; exact check_givenB

end DirectVerif.Pipeline
