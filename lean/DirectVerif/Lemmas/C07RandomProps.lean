import DirectVerif.Lemmas.C07Random
import DirectVerif.Props.C07
/-!
# C07 — random line masks: "in expectation over seeds" as a theorem

Under the finite-uniform draw model of `Model/C07Random.lean` the average of the realised count over all `k^N` draw
vectors is within `(N − L)/k` of `N / R`, exactly `N / R` when `prob·k` is whole.  Builds on `random_prob_formula` /
`random_prob_unit` of `Props/C07.lean`, hence the import of a `Props` module.  Namespace `DirectVerif.C07`.
-/
namespace DirectVerif.C07
open DirectVerif DirectVerif.MaskBudget

theorem random_count_decomp (N L : Int) (p : ℚ) (us : List ℚ) (hL0 : 0 ≤ L) (hLN : L ≤ N) :
    countTrue (randomMask N L p us) = L.toNat + randomHits N L p us := by
  unfold randomMask randomHits
  rw [countTrue_map_range, countP_or_disj, countP_inAcs N L hL0 hLN]

/-- dynamic / multislice modes: every frame has the same ACS block and probability and its own draw vector -/
theorem random_frames_count (N L : Int) (p : ℚ) (uss : List (List ℚ)) (hL0 : 0 ≤ L) (hLN : L ≤ N) (f : Nat)
    (hf : f < uss.length) :
    ((randomFrames N L p uss)[f]?).map countTrue = some (L.toNat + randomHits N L p (uss.getD f [])) := by
  unfold randomFrames
  simp only [List.getElem?_map, List.getD_eq_getElem?_getD]
  rw [List.getElem?_eq_getElem hf]
  simp only [Option.map_some, Option.getD_some]
  rw [random_count_decomp N L p _ hL0 hLN]

theorem random_frames_expected_total (F N R L : ℚ) (hR : R ≠ 0) (hNL : N ≠ L) :
    F * expectedCount N L (randomProb N R L) = F * N / R := by
  rw [random_expected_count N R L hR hNL, mul_div_assoc]

theorem random_total_formula (N L : Int) (p : ℚ) (k : Nat) (hL0 : 0 ≤ L) (hLN : L ≤ N) :
    k * randomTotal N L p k = k ^ N.toNat * (k * L.toNat + (N - L).toNat * gridBelow k p) := by
  let P : Nat → Nat → Nat := fun i j => if inAcs N L (i : Int) || decide ((j : ℚ) / (k : ℚ) < p) then 1 else 0
  have hcount : ∀ v ∈ allDraws k N.toNat,
      countTrue (randomMask N L p (gridUs k v)) = ((List.range N.toNat).map fun i => P i (v.getD i 0)).sum := by
    intro v hv
    unfold randomMask
    rw [countTrue_map_range, countP_eq_sum]
    refine congrArg List.sum (List.map_congr_left fun i hi => ?_)
    have hi' : i < v.length := by rw [mem_allDraws_length k _ v hv]; exact List.mem_range.mp hi
    simp [P, gridUs, List.getD_eq_getElem?_getD, hi']
  -- over the grid a column scores every draw inside the ACS block, the draws below `p` outside it
  have hcol : ∀ i : Nat, ((List.range k).map fun j => P i j).sum = if inAcs N L (i : Int) then k else gridBelow k p := by
    intro i
    rw [← countP_eq_sum]
    cases h : inAcs N L (i : Int) <;> simp [gridBelow]
  have hout : (List.range N.toNat).countP (fun (i : Nat) => !inAcs N L (i : Int)) = (N - L).toNat := by
    have h2 := countP_inAcs N L hL0 hLN
    have h3 := List.length_eq_countP_add_countP (fun (i : Nat) => inAcs N L (i : Int)) (l := List.range N.toNat)
    simp only [List.length_range, Bool.not_eq_true, Bool.decide_eq_false] at h3
    omega
  unfold randomTotal
  rw [List.map_congr_left hcount, sum_allDraws k N.toNat P]
  simp only [hcol]
  rw [sum_ite_const, countP_inAcs N L hL0 hLN, hout]
  ring

theorem random_average (N L : Int) (p : ℚ) (k : Nat) (hk : 0 < k) (hL0 : 0 ≤ L) (hLN : L ≤ N) :
    (randomTotal N L p k : ℚ) / (k : ℚ) ^ N.toNat = (L : ℚ) + ((N : ℚ) - L) * (gridBelow k p : ℚ) / k := by
  have hkq : (0 : ℚ) < (k : ℚ) := by exact_mod_cast hk
  have hq : (k : ℚ) * (randomTotal N L p k : ℚ) =
      (k : ℚ) ^ N.toNat * ((k : ℚ) * (L.toNat : ℚ) + ((N - L).toNat : ℚ) * (gridBelow k p : ℚ)) := by
    exact_mod_cast random_total_formula N L p k hL0 hLN
  rw [toNat_cast hL0, toNat_cast (sub_nonneg.mpr hLN), Int.cast_sub] at hq
  rw [div_eq_iff (pow_pos hkq _).ne']
  apply mul_left_cancel₀ hkq.ne'
  rw [hq]
  field_simp

/-- **C07 expectation of the realised count under the finite-uniform draw model**: for numpy's 53-bit grid (`k = 2^53`)
and `N ≤ 400` the distance from `N / R` is below `5·10⁻¹⁴` columns -/
theorem random_expectation (N L : Int) (R : ℚ) (k : Nat) (hk : 0 < k) (hL0 : 0 ≤ L) (hLN : L < N)
    (hR : 0 < R) (h1 : (L : ℚ) ≤ (N : ℚ) / R) (h2 : (N : ℚ) / R ≤ N) :
    |(randomTotal N L (randomProb N R L) k : ℚ) / (k : ℚ) ^ N.toNat - (N : ℚ) / R| < ((N : ℚ) - L) / k := by
  have hkq : (0 : ℚ) < (k : ℚ) := by exact_mod_cast hk
  have hNLq : (L : ℚ) < (N : ℚ) := by exact_mod_cast hLN
  have hd : (0 : ℚ) < (N : ℚ) - L := by linarith
  obtain ⟨hp0, hp1⟩ := random_prob_unit (N : ℚ) R L hNLq h1 h2
  obtain ⟨g1, g2, _⟩ := gridBelow_bounds k hk _ hp0 hp1
  rw [random_average N L _ k hk hL0 hLN.le, ← random_prob_formula (N : ℚ) R L hR.ne' hNLq.ne']
  generalize randomProb (N : ℚ) R L = p at *
  have e : (L : ℚ) + ((N : ℚ) - L) * (gridBelow k p : ℚ) / k - ((L : ℚ) + ((N : ℚ) - L) * p) =
      ((N : ℚ) - L) * ((gridBelow k p : ℚ) - p * k) / k := by field_simp; ring
  rw [e, abs_of_nonneg (div_nonneg (mul_nonneg hd.le (by linarith)) hkq.le), div_lt_div_iff_of_pos_right hkq]
  exact mul_lt_of_lt_one_right hd (by linarith)

theorem random_expectation_exact (N L : Int) (R : ℚ) (k m : Nat) (hk : 0 < k) (hL0 : 0 ≤ L) (hLN : L < N)
    (hR : 0 < R) (h1 : (L : ℚ) ≤ (N : ℚ) / R) (h2 : (N : ℚ) / R ≤ N) (hm : randomProb N R L * k = m) :
    (randomTotal N L (randomProb N R L) k : ℚ) / (k : ℚ) ^ N.toNat = (N : ℚ) / R := by
  have hkq : (0 : ℚ) < (k : ℚ) := by exact_mod_cast hk
  have hNLq : (L : ℚ) < (N : ℚ) := by exact_mod_cast hLN
  obtain ⟨hp0, hp1⟩ := random_prob_unit (N : ℚ) R L hNLq h1 h2
  obtain ⟨g1, g2, _⟩ := gridBelow_bounds k hk _ hp0 hp1
  have hg : gridBelow k (randomProb N R L) = m := by
    rw [hm] at g1 g2
    have a' : m ≤ gridBelow k (randomProb N R L) := by exact_mod_cast g1
    have b' : gridBelow k (randomProb N R L) < m + 1 := by exact_mod_cast g2
    omega
  rw [random_average N L _ k hk hL0 hLN.le, hg, ← hm, ← random_prob_formula (N : ℚ) R L hR.ne' hNLq.ne']
  field_simp

/-- 3 columns, 1 ACS column, `p = 1/2`, grid of 4: 64 vectors, total 128, average `2 = 1 + 2·(1/2)` -/
example : randomTotal 3 1 (1 / 2) 4 = 128 ∧ (allDraws 4 3).length = 64 ∧ gridBelow 4 (1 / 2) = 2 :=
  ⟨by decide +kernel, by decide +kernel, by decide +kernel⟩
/-- non-vacuity of `random_expectation_exact`: `N = 8`, `L = 2`, `R = 2` → `p = 1/3`, `k = 3`, `m = 1` -/
example : (0 : ℚ) < 2 ∧ ((2 : Int) : ℚ) ≤ ((8 : Int) : ℚ) / 2 ∧ randomProb (8 : Int) 2 (2 : Int) * (3 : ℕ) = (1 : ℕ) := by
  refine ⟨by norm_num, by norm_num, by norm_num [randomProb]⟩

/-- the line generators take the acceleration **and** `num_low_freqs` of the drawn position -/
theorem choose_pair_same_index (accs : List ℚ) (ls : List Int) (i : Nat) (r : ℚ) (l : Int)
    (h : choosePair false accs ls i = .ok (r, l)) : accs[i]? = some r ∧ ls[i]? = some l := by
  unfold choosePair at h
  simp only [Bool.false_eq_true, if_false] at h
  cases hc : accs[i]? <;> cases hr : ls[i]? <;> simp_all

theorem choose_pair_uniform_rejects (accs : List ℚ) (ls : List Int) (i : Nat) :
    choosePair true accs ls i = .error "NotImplementedError" := by
  simp [choosePair]

example : choosePair false [4, 8] [26, 13] 1 = .ok (8, 13) := by decide +kernel

end DirectVerif.C07
