import DirectVerif.Lemmas.C11Grid
/-!
# C11 — the rejection loop of `gaussian_fill` (`direct/ssl/_gaussian_fill.pyx`)

The loop `while count <= n` is the fold `fillRun` over a finite prefix of the candidate stream.  The invariant `Inv`
gives: on return exactly `n + 1` cells are marked, the loop cannot return when fewer are free, and it has returned
on every prefix in which each free cell occurs.  `count` and the marked cells only grow, so a repeated candidate is a
no-op and a result is stable under longer prefixes.
-/
namespace DirectVerif.C11
open DirectVerif DirectVerif.SslSplit

/-- the range part of the kernel's acceptance test: `0 <= indx < nrow and 0 <= indy < ncol` -/
def InRange (nrow ncol : Nat) (c : Int × Int) : Prop := 0 ≤ c.1 ∧ c.1 < nrow ∧ 0 ≤ c.2 ∧ c.2 < ncol

instance (nrow ncol : Nat) (c : Int × Int) : Decidable (InRange nrow ncol c) := by
  unfold InRange; infer_instance

theorem b2i_eq_one (b : Bool) : (b2i b == 1) = b := by cases b <;> decide
theorem b2i_ne_one (b : Bool) : (b2i b != 1) = !b := by cases b <;> decide

def Fires (n : Int) (nrow ncol : Nat) (mask : Grid) (st : Int × Grid) (c : Int × Int) : Prop :=
  st.1 ≤ n ∧ InRange nrow ncol c ∧ cell mask (flatIdx ncol c) = true ∧ cell st.2 (flatIdx ncol c) = false

/-- the only place where `fillStep`, `accepts` and `acceptTest` are unfolded -/
theorem fillStep_cases (n : Int) (nrow ncol : Nat) (mask : Grid) (st : Int × Grid) (c : Int × Int) :
    (¬ Fires n nrow ncol mask st c ∧ fillStep n nrow ncol mask st c = st) ∨
    (Fires n nrow ncol mask st c ∧ fillStep n nrow ncol mask st c = (st.1 + 1, st.2.set (flatIdx ncol c) true)) := by
  have ha : acceptTest c.1 c.2 nrow ncol (b2i (mask.getD (flatIdx ncol c) false)) (b2i (st.2.getD (flatIdx ncol c) false))
      = true ↔ InRange nrow ncol c ∧ cell mask (flatIdx ncol c) = true ∧ cell st.2 (flatIdx ncol c) = false := by
    simp only [acceptTest, b2i_eq_one, b2i_ne_one, Bool.and_eq_true, decide_eq_true_eq, Bool.not_eq_true', InRange, cell,
      and_assoc]
  unfold fillStep accepts Fires
  by_cases hg : st.1 ≤ n
  · by_cases hc : InRange nrow ncol c ∧ cell mask (flatIdx ncol c) = true ∧ cell st.2 (flatIdx ncol c) = false
    · exact Or.inr ⟨⟨hg, hc⟩, by simp only [loopGuard, hg, decide_true, if_true, ha.mpr hc]⟩
    · exact Or.inl ⟨fun h => hc h.2, by simp only [loopGuard, hg, decide_true, if_true, mt ha.mp hc, Bool.false_eq_true, if_false]⟩
  · exact Or.inl ⟨fun h => hg h.1, by simp only [loopGuard, hg, decide_false, Bool.false_eq_true, if_false]⟩

section
variable {n : Int} {nrow ncol : Nat} {mask : Grid}

theorem fillStep_idle {st : Int × Grid} {c : Int × Int}
    (h : ¬ Fires n nrow ncol mask st c) : fillStep n nrow ncol mask st c = st := by
  rcases fillStep_cases n nrow ncol mask st c with ⟨_, e⟩ | ⟨hf, _⟩
  · exact e
  · exact absurd hf h

/-- loop invariant of the kernel.  `le`: the guard `count <= n` lets `count` reach `n + 1`; the `max … 0` is for a
negative request, for which the loop is not entered. -/
structure Inv (n : Int) (mask : Grid) (st : Int × Grid) : Prop where
  len : st.2.length = mask.length
  sub : Sub st.2 mask
  cnt_eq : (cnt st.2 : Int) = st.1
  le : st.1 ≤ max (n + 1) 0

theorem inv_init (n : Int) (mask : Grid) : Inv n mask (0, zeros mask.length) where
  len := by simp
  sub := fun k hk => by rw [cell_zeros] at hk; cases hk
  cnt_eq := by simp [cnt_zeros]
  le := by omega

theorem inv_step {st : Int × Grid} (c : Int × Int)
    (h : Inv n mask st) : Inv n mask (fillStep n nrow ncol mask st c) := by
  rcases fillStep_cases n nrow ncol mask st c with ⟨_, e⟩ | ⟨⟨hg, _, hm, ho⟩, e⟩
  · rw [e]; exact h
  · rw [e]
    have hk : flatIdx ncol c < st.2.length := by rw [h.len]; exact cell_true_lt _ _ hm
    refine ⟨by simpa using h.len, fun j hj => ?_, ?_, ?_⟩
    · rw [cell_set_true _ _ _ hk] at hj
      by_cases e : flatIdx ncol c = j
      · subst e; exact hm
      · simp [e] at hj; exact h.sub j hj
    · show (cnt (st.2.set (flatIdx ncol c) true) : Int) = st.1 + 1
      rw [cnt_set_true _ _ hk ho]; have := h.cnt_eq; omega
    · show st.1 + 1 ≤ max (n + 1) 0
      omega

theorem inv_run (cs : List (Int × Int)) :
    ∀ {st : Int × Grid}, Inv n mask st → Inv n mask (fillRun n nrow ncol mask st cs) := by
  induction cs with
  | nil => intro st h; exact h
  | cons c cs ih => intro st h; exact ih (inv_step c h)

theorem step_mono {st : Int × Grid} (c : Int × Int) (h : Inv n mask st) :
    st.1 ≤ (fillStep n nrow ncol mask st c).1 ∧ Sub st.2 (fillStep n nrow ncol mask st c).2 := by
  rcases fillStep_cases n nrow ncol mask st c with ⟨_, e⟩ | ⟨⟨_, _, hm, _⟩, e⟩
  · rw [e]; exact ⟨Int.le_refl _, fun _ hk => hk⟩
  · rw [e]
    have hk : flatIdx ncol c < st.2.length := by rw [h.len]; exact cell_true_lt _ _ hm
    refine ⟨by show st.1 ≤ st.1 + 1; omega, fun j hj => ?_⟩
    show cell (st.2.set (flatIdx ncol c) true) j = true
    rw [cell_set_true _ _ _ hk, hj]; simp

theorem run_mono (cs : List (Int × Int)) :
    ∀ {st : Int × Grid}, Inv n mask st →
      st.1 ≤ (fillRun n nrow ncol mask st cs).1 ∧ Sub st.2 (fillRun n nrow ncol mask st cs).2 := by
  induction cs with
  | nil => intro st _; exact ⟨Int.le_refl _, fun _ hk => hk⟩
  | cons c cs ih =>
    intro st h
    have h1 := step_mono (nrow := nrow) (ncol := ncol) c h
    have h2 := ih (inv_step (nrow := nrow) (ncol := ncol) c h)
    exact ⟨Int.le_trans h1.1 h2.1, fun k hk => h2.2 k (h1.2 k hk)⟩

theorem step_marks {st : Int × Grid} {c : Int × Int} (h : Inv n mask st)
    (hg : st.1 ≤ n) (hr : InRange nrow ncol c) (hm : cell mask (flatIdx ncol c) = true) :
    cell (fillStep n nrow ncol mask st c).2 (flatIdx ncol c) = true := by
  rcases fillStep_cases n nrow ncol mask st c with ⟨hn, e⟩ | ⟨_, e⟩
  · rw [e]
    cases ho : cell st.2 (flatIdx ncol c) with
    | true => rfl
    | false => exact absurd ⟨hg, hr, hm, ho⟩ hn
  · rw [e]
    have hk : flatIdx ncol c < st.2.length := by rw [h.len]; exact cell_true_lt _ _ hm
    show cell (st.2.set (flatIdx ncol c) true) (flatIdx ncol c) = true
    rw [cell_set_true _ _ _ hk]; simp

theorem run_covers (cs : List (Int × Int)) :
    ∀ {st : Int × Grid}, Inv n mask st → (fillRun n nrow ncol mask st cs).1 ≤ n →
      ∀ c ∈ cs, InRange nrow ncol c → cell mask (flatIdx ncol c) = true →
        cell (fillRun n nrow ncol mask st cs).2 (flatIdx ncol c) = true := by
  induction cs with
  | nil => intro st _ _ c hc; cases hc
  | cons c' cs ih =>
    intro st h hend c hc hr hm
    have hi' := inv_step (nrow := nrow) (ncol := ncol) c' h
    rcases List.mem_cons.mp hc with e | hin
    · subst e
      have hmono := run_mono (nrow := nrow) (ncol := ncol) cs hi'
      -- the guard held when `c` was drawn: `count` only grows and is still `≤ n` at the end
      have hst : st.1 ≤ n :=
        Int.le_trans (step_mono (nrow := nrow) (ncol := ncol) c h).1 (Int.le_trans hmono.1 hend)
      exact hmono.2 _ (step_marks h hst hr hm)
    · exact ih hi' hend c hin hr hm

end

def Covers (nrow ncol : Nat) (mask : Grid) (cs : List (Int × Int)) : Prop :=
  ∀ k, cell mask k = true → ∃ c ∈ cs, InRange nrow ncol c ∧ flatIdx ncol c = k

section
variable {n : Int} {nrow ncol : Nat} {mask : Grid}

theorem gaussianFill_eq_some_iff {out : Grid} {cs : List (Int × Int)} {r : Grid} :
    gaussianFill n nrow ncol mask out cs = some r ↔
      ¬ (fillRun n nrow ncol mask (0, out) cs).1 ≤ n ∧ (fillRun n nrow ncol mask (0, out) cs).2 = r := by
  unfold gaussianFill
  by_cases hg : (fillRun n nrow ncol mask (0, out) cs).1 ≤ n
  · simp [loopGuard, hg]
  · simp [loopGuard, hg]

/-- `n + 1` cells, one more than the request, as the kernel is coded -/
theorem fill_some {cs : List (Int × Int)} {r : Grid}
    (h : gaussianFill n nrow ncol mask (zeros mask.length) cs = some r) :
    r.length = mask.length ∧ Sub r mask ∧ cnt r = (n + 1).toNat := by
  obtain ⟨hgn, rfl⟩ := gaussianFill_eq_some_iff.mp h
  have hi := inv_run (nrow := nrow) (ncol := ncol) cs (inv_init n mask)
  have h0 : 0 ≤ (fillRun n nrow ncol mask (0, zeros mask.length) cs).1 :=
    (run_mono (nrow := nrow) (ncol := ncol) cs (inv_init n mask)).1
  refine ⟨hi.len, hi.sub, ?_⟩
  have := hi.cnt_eq
  have := hi.le
  omega

theorem fill_none_of_infeasible (cs : List (Int × Int))
    (h : (cnt mask : Int) < n + 1) : gaussianFill n nrow ncol mask (zeros mask.length) cs = none := by
  cases hr : gaussianFill n nrow ncol mask (zeros mask.length) cs with
  | none => rfl
  | some r =>
    obtain ⟨hl, hs, hc⟩ := fill_some hr
    have := cnt_le_of_sub r mask hl hs
    omega

theorem fill_some_of_covers {cs : List (Int × Int)}
    (hc : Covers nrow ncol mask cs) (hf : n + 1 ≤ (cnt mask : Int)) :
    (gaussianFill n nrow ncol mask (zeros mask.length) cs).isSome = true := by
  have hi := inv_run (nrow := nrow) (ncol := ncol) cs (inv_init n mask)
  -- were the loop still running, every free cell would have been marked: more than `n` of them
  have hgn : ¬ (fillRun n nrow ncol mask (0, zeros mask.length) cs).1 ≤ n := fun hgn => by
    have hs : Sub mask (fillRun n nrow ncol mask (0, zeros mask.length) cs).2 := by
      intro k hk
      obtain ⟨c, hc1, hc2, hc3⟩ := hc k hk
      have := run_covers (nrow := nrow) (ncol := ncol) cs (inv_init n mask) hgn c hc1 hc2 (by rw [hc3]; exact hk)
      rwa [hc3] at this
    have := cnt_le_of_sub _ _ hi.len.symm hs
    have := hi.cnt_eq
    omega
  rw [gaussianFill_eq_some_iff.mpr ⟨hgn, rfl⟩]
  rfl

theorem covering_prefix (s : Nat → Int × Int)
    (h : ∀ k, cell mask k = true → ∃ m, InRange nrow ncol (s m) ∧ flatIdx ncol (s m) = k) :
    ∃ fuel, Covers nrow ncol mask (streamPrefix s fuel) := by
  have key : ∀ L, ∃ M, ∀ k, k < L → cell mask k = true → ∃ m, m < M ∧ InRange nrow ncol (s m) ∧ flatIdx ncol (s m) = k := by
    intro L
    induction L with
    | zero => exact ⟨0, fun k hk => by omega⟩
    | succ L ih =>
      obtain ⟨M, hM⟩ := ih
      by_cases hL : cell mask L = true
      · obtain ⟨m, hm⟩ := h L hL
        refine ⟨max M (m + 1), fun k hk hc => ?_⟩
        by_cases e : k = L
        · subst e; exact ⟨m, by omega, hm⟩
        · obtain ⟨m', h1, h2⟩ := hM k (by omega) hc
          exact ⟨m', by omega, h2⟩
      · refine ⟨M, fun k hk hc => ?_⟩
        by_cases e : k = L
        · subst e; exact absurd hc hL
        · exact hM k (by omega) hc
  obtain ⟨M, hM⟩ := key mask.length
  refine ⟨M, fun k hk => ?_⟩
  obtain ⟨m, h1, h2⟩ := hM k (cell_true_lt _ _ hk) hk
  refine ⟨s m, ?_, h2⟩
  simp only [streamPrefix, List.mem_map, List.mem_range]
  exact ⟨m, h1, rfl⟩

theorem not_fires_step {st : Int × Grid} (c c' : Int × Int)
    (h : Inv n mask st) (hd : ¬ Fires n nrow ncol mask st c) :
    ¬ Fires n nrow ncol mask (fillStep n nrow ncol mask st c') c := by
  have hm := step_mono (nrow := nrow) (ncol := ncol) c' h
  rintro ⟨hg, hr, hmk, ho⟩
  refine hd ⟨Int.le_trans hm.1 hg, hr, hmk, ?_⟩
  cases hc : cell st.2 (flatIdx ncol c) with
  | false => rfl
  | true => rw [hm.2 _ hc] at ho; cases ho

theorem not_fires_self {st : Int × Grid} (c : Int × Int)
    (h : Inv n mask st) : ¬ Fires n nrow ncol mask (fillStep n nrow ncol mask st c) c := by
  by_cases hg : st.1 ≤ n
  · rintro ⟨_, hr, hm, ho⟩
    rw [step_marks h hg hr hm] at ho; cases ho
  · exact not_fires_step c c h (fun hf => hg hf.1)

theorem run_dedupFrom (cs : List (Int × Int)) :
    ∀ (seen : List (Int × Int)) {st : Int × Grid}, Inv n mask st → (∀ c ∈ seen, ¬ Fires n nrow ncol mask st c) →
      fillRun n nrow ncol mask st (dedupFrom seen cs) = fillRun n nrow ncol mask st cs := by
  induction cs with
  | nil => intro seen st _ _; rfl
  | cons c cs ih =>
    intro seen st hi hd
    by_cases hc : seen.contains c = true
    · simp only [dedupFrom, hc, if_true, fillRun, List.foldl_cons, fillStep_idle (hd c (by simpa using hc))]
      exact ih seen hi hd
    · simp only [dedupFrom, hc, Bool.false_eq_true, if_false, fillRun, List.foldl_cons]
      apply ih (c :: seen) (inv_step c hi)
      intro c' hc'
      rcases List.mem_cons.mp hc' with e | hin
      · subst e; exact not_fires_self c' hi
      · exact not_fires_step c' c hi (hd c' hin)

/-- why the check may replay a long libc stream on its first occurrences only -/
theorem gaussianFill_dedup (n : Int) (nrow ncol : Nat) (mask : Grid) (cs : List (Int × Int)) :
    gaussianFill n nrow ncol mask (zeros mask.length) (dedup cs) = gaussianFill n nrow ncol mask (zeros mask.length) cs := by
  unfold gaussianFill dedup
  simp only
  rw [run_dedupFrom cs [] (inv_init n mask) (fun c hc => by cases hc)]

theorem run_of_done (more : List (Int × Int)) :
    ∀ {st : Int × Grid}, loopGuard st.1 n = false → fillRun n nrow ncol mask st more = st := by
  induction more with
  | nil => intro st _; rfl
  | cons c cs ih =>
    intro st h
    have e : fillStep n nrow ncol mask st c = st :=
      fillStep_idle (fun hf => by simp [loopGuard, hf.1] at h)
    simp only [fillRun, List.foldl_cons, e]
    exact ih h

/-- `some r` on a prefix is the kernel's result whatever fuel is given beyond it -/
theorem gaussianFill_stable {n : Int} {nrow ncol : Nat} {mask out : Grid} {cs : List (Int × Int)} {r : Grid}
    (h : gaussianFill n nrow ncol mask out cs = some r) (more : List (Int × Int)) :
    gaussianFill n nrow ncol mask out (cs ++ more) = some r := by
  obtain ⟨hg, hr⟩ := gaussianFill_eq_some_iff.mp h
  have e : fillRun n nrow ncol mask (0, out) (cs ++ more)
      = fillRun n nrow ncol mask (fillRun n nrow ncol mask (0, out) cs) more := List.foldl_append
  rw [gaussianFill_eq_some_iff, e, run_of_done more (by simpa [loopGuard] using hg)]
  exact ⟨hg, hr⟩

end

end DirectVerif.C11
