import DirectVerif.Lemmas.C15Engine
import DirectVerif.Lemmas.C15Prune
import DirectVerif.Lemmas.C15Toy
/-!
# C15 (continued) — the code around the checkpoint core
Statements about `Model/C15Engine.lean`, the definitions the driver executes against the real code, connected to the core
machine of `Model/Train.lean` / `Model/Ckpt.lean`.  A theorem about a statement table holds for every table its decidable
predicate accepts (`wfInit`, `wfSaveX`, `wfUnwind`; `Bridge/C15.lean` evaluates it on the table read from /repo); the
`_violates` theorem next to it is a rejected table with the run on which the property fails.
-/
namespace DirectVerif.C15
open DirectVerif DirectVerif.Ckpt DirectVerif.Train DirectVerif.C15E

variable {P O G B L Sc : Type}

theorem loadIter_of_loadLatest {S} (decode : Bytes → Option S) (d : Dir) (it : Int) (s : S)
    (h : loadLatest decode d = .ok it s) : loadIter decode d it = .ok it s := by
  obtain ⟨txt, b, -, -, h3, h4⟩ := loadLatest_ok_inv h
  simp only [loadIter, h3, h4]

/-- **argument forms of `Checkpointer.load`**; `-1` is the default of `Engine.predict` -/
theorem load_argument_forms {S} (decode : Bytes → Option S) (d : Dir) :
    load decode d .none = .none ∧ load decode d .latest = loadLatest decode d ∧
    load decode d (.int (-1)) = loadLatest decode d ∧
    load decode d .otherStr = .error .valueError ∧ load decode d .notIntNorStr = .error .valueError ∧
    ∀ n : Int, n ≠ -1 → load decode d (.int n) = loadIter decode d n := by
  refine ⟨rfl, rfl, rfl, rfl, rfl, ?_⟩
  intro n hn
  have : some n ∉ latestAliases := by
    simp [latestAliases]; omega
  simp [load, loadT, isLatest, this]

theorem load_by_label_equals_latest {S} (decode : Bytes → Option S) (d : Dir) (it : Nat) (chunks : List Bytes) (s : S)
    (hdec : decode chunks.flatten = some s) :
    let d' := run d (saveOps it chunks)
    load decode d' (.int it) = .ok it s ∧ load decode d' .latest = .ok it s ∧ load decode d' (.int (-1)) = .ok it s := by
  intro d'
  have hl : loadLatest decode d' = .ok it s := save_then_load_of_wf decode saveTable saveTable_wf d it chunks s hdec
  refine ⟨?_, hl, hl⟩
  rw [(load_argument_forms decode d').2.2.2.2.2 (it : Int) (by omega)]
  exact loadIter_of_loadLatest decode d' it s hl

theorem initActs_pos (start : Nat) (hs : 0 < start) (init : Bool) (tbl : List InitBranch) (p : Bool) :
    initActs start init tbl p = initActs 1 init tbl p := by
  induction tbl generalizing p with
  | nil => rfl
  | cons b rest ih =>
    have he : b.cond.eval start init = b.cond.eval 1 init := by
      cases b.cond <;> simp [InitCond.eval, hs]
    simp only [initActs, he, ih]

/-- **an initialization checkpoint never restores the training state**: without a resume (no 'latest', or
`resume=False`) the initialization file only provides the model weights, and a validation is forced before the first
iteration -/
theorem initialization_never_restores_training_state (tbl : List InitBranch) (hwf : wfInit tbl = true)
    (r : Run P O G B L Sc) (v : VCfg P) (a : StartArgs) (file : Snap P O Sc) (d : Dir)
    (hinit : a.init = true) (hno : a.resume = false ∨ loadLatest r.decode d = .none) :
    ∃ plan s, vstartT tbl r v a file d = some (plan, s) ∧ plan.startIter = 0 ∧ plan.swv = true ∧
      s.theta = v.enter file.theta ∧ s.ostate = r.init.ostate ∧ s.epoch = r.init.epoch ∧
      s.scaler = r.init.scaler ∧ s.grad = r.init.grad := by
  simp only [wfInit, Bool.and_eq_true, beq_iff_eq, Bool.not_eq_true'] at hwf
  obtain ⟨⟨⟨⟨⟨_, _⟩, _⟩, hm⟩, hv⟩, hf⟩ := hwf
  have hlat : (if a.resume = true then loadLatest r.decode d else LoadResult.none) = .none := by
    rcases hno with h | h
    · simp [h]
    · simp [h]
  simp only [vstartT, trainStartT]
  rw [hlat, hinit]
  simp only [hm, hv, hf, Bool.or_true, Bool.false_eq_true, if_false, if_true]
  refine ⟨_, _, rfl, rfl, rfl, ?_⟩
  cases hl : loadLatest r.decode d <;> simp [initModelsOnly]

/-- **a resumed run ignores the initialization checkpoint**; `start_with_validation` stays the caller's -/
theorem resume_wins_over_initialization (tbl : List InitBranch) (hwf : wfInit tbl = true)
    (r : Run P O G B L Sc) (v : VCfg P) (a : StartArgs) (file : Snap P O Sc) (d : Dir)
    (label : Nat) (c : Snap P O Sc) (hres : a.resume = true) (hl : loadLatest r.decode d = .ok label c) :
    ∃ plan, vstartT tbl r v a file d = some (plan, { restore r.ops.zero c with theta := v.enter c.theta }) ∧
      plan.startIter = label + 1 ∧ plan.swv = a.swv ∧ plan.initModels = false := by
  simp only [wfInit, Bool.and_eq_true, beq_iff_eq, Bool.not_eq_true'] at hwf
  obtain ⟨⟨⟨⟨⟨h1, h2⟩, _⟩, _⟩, _⟩, _⟩ := hwf
  have hst : (resumeStart (label : Int)).toNat = label + 1 := by unfold resumeStart; omega
  have hacts : initActs (label + 1) a.init tbl false = [] := by
    rw [initActs_pos _ (by omega)]
    cases a.init
    · exact h2
    · exact h1
  simp only [vstartT, trainStartT, hres, if_true, hl, hst, hacts, List.contains_nil, Bool.or_false, Bool.false_eq_true, if_false]
  exact ⟨_, rfl, rfl, rfl, rfl⟩

/-- the chain read from `Engine.train` is well formed; rejected: "initialization also when resuming" (`elif` → `if`) and
"load the whole initialization checkpoint" -/
theorem init_table_wf :
    wfInit initTable = true ∧
    wfInit [⟨.resumedAndInit, false, []⟩, ⟨.init, false, [.loadModels, .swvTrue]⟩] = false ∧
    wfInit [⟨.resumedAndInit, false, []⟩, ⟨.init, true, [.loadFull, .swvTrue]⟩] = false := by
  decide +kernel

/-- **Every history of interruptions ends on the uninterrupted trajectory — with validation data, mode-dependent
additional models and any `start_with_validation` flags** (the repaired tree: `validation_loop` ends with
`models_training_mode()`).  `interrupted_history_equals_uninterrupted` for the machine `vprocess`, which also performs
the validations and tracks the training-mode flags inside the parameters. -/
theorem interrupted_history_with_validation (r : Run P O G B L Sc) (hr : r.Ok) (v : VCfg P) (hv : v.Ok r)
    (file : Snap P O Sc) (d0 : Dir) (h0 : loadLatest r.decode d0 = .none) (stops : List (Stop × Bool))
    (ha : r.AlignedHist (stops.map (·.1)) d0) (swv : Bool) :
    ∃ d plan s dfin ev, vhistory r v file stops d0 = some d ∧
      vprocess r v ⟨true, false, swv⟩ file .finish d = some (plan, s, dfin, ev) ∧
      s = runRange r.ops r.lrAt r.cfg r.batch r.init 0 r.total := by
  obtain ⟨d, hd, hinv, hal⟩ := r.history_inv hr (stops.map (·.1)) d0 (Or.inl h0) ha
  obtain ⟨start, hst, e⟩ := r.process_eq hr .finish d hinv hal
  obtain ⟨⟨plan, s, dfin, ev⟩, hx, hs⟩ :=
    Option.map_eq_some_iff.mp ((vprocess_eq_process v r hv hr swv file .finish d hinv).trans e)
  refine ⟨d, plan, s, dfin, ev, (vhistory_eq_history v r hv hr file stops d0 (Or.inl h0) ha).trans hd, hx, ?_⟩
  exact (congrArg Prod.fst hs).trans (r.loop_finish hr r.total start d hst (by omega))

/-- `Run.Ok` and `VCfg.Ok` are jointly satisfiable: integer toy with the mode flag inside the parameters -/
example : ∃ (r : Run (Bool × Int) Unit Int Int Int Unit) (v : VCfg (Bool × Int)), r.Ok ∧ v.Ok r ∧ v.hasVal = true :=
  ⟨{ ops := C15E.Toy.intOpsMode, lrAt := fun _ => 1, cfg := { k := 1 }, batch := fun _ => 1,
     init := ⟨(true, 0), (), 0, 0, ()⟩, total := 12, ckSteps := 3,
     encode := fun c => [[if c.theta.1 then 1 else 0, if c.theta.2 < 0 then 1 else 0, c.theta.2.natAbs], [c.epoch]],
     decode := fun b => match b with
       | [f, s, a, e] => some ⟨(f == 1, if s = 1 then -(a : Int) else (a : Int)), (), e, ()⟩
       | _ => none },
   C15E.Toy.intVNow 4,
   { table := rfl, label := rfl, init := rfl, save := by decide,
     codec := by
       intro c
       obtain ⟨⟨fl, th⟩, u, e, sc⟩ := c
       cases fl <;> by_cases h : th < 0
       · simp [h]; omega
       · simp [h]; omega
       · simp [h]; omega
       · simp [h]; omega },
   { after := fun _ => rfl, idem := fun _ => rfl, opt := fun _ _ _ _ h => h ▸ rfl, init := rfl },
   rfl⟩

/-- **the pinned tree violated the property through the mode flags**: `validation_loop` ended with `self.model.train()`,
so after the first validation (iteration 8) the additional models stayed in eval mode; a process resumed at 10 trains
them in training mode again (gradient `2·b` instead of `b`) -/
theorem validation_mode_pinned_violates :
    let r : Run (Bool × Int) Unit Int Int Int Unit :=
      { ops := C15E.Toy.intOpsMode, lrAt := fun _ => 1, cfg := { k := 1 }, batch := fun _ => 1,
        init := ⟨(true, 0), (), 0, 0, ()⟩, total := 12, ckSteps := 3, encode := fun _ => [], decode := fun _ => none }
    let run (v : VCfg (Bool × Int)) (stop : Stop) (start : Nat) (s : St (Bool × Int) Unit Int Unit) :=
      (vloop r v stop none start false 12 start { s with theta := v.enter s.theta } Dir.empty []).1
    let resumed (v : VCfg (Bool × Int)) :=
      run v .finish 10 (restore 0 (snapshot (run v (.vanishAfter 9) 0 r.init)))
    (run (C15E.Toy.intVPinned 4) .finish 0 r.init).theta = (false, -21) ∧
    (resumed (C15E.Toy.intVPinned 4)).theta = (false, -23) ∧
    (run (C15E.Toy.intVNow 4) .finish 0 r.init).theta = (true, -24) ∧
    (resumed (C15E.Toy.intVNow 4)).theta = (true, -24) := by
  decide +kernel

/-- **the events (checkpoints, logs, validations) of a process that runs to the end** -/
theorem finished_process_events (r : Run P O G B L Sc) (v : VCfg P) (start : Nat) (swv : Bool)
    (s : St P O G Sc) (d : Dir) :
    (vloop r v .finish none start swv r.total start s d []).2.2 =
      (if swv = true ∧ start < r.total then [Event.validate start] else [])
        ++ schedule r.ckSteps v.valSteps r.total start (r.total - start) := by
  -- `vloop_finish_events` at `it = start`, `ev = []`
  rw [vloop_finish_events r v start swv r.total start s d [] (Nat.le_refl _) (by omega), List.nil_append]
  simp only [beq_self_eq_true, Bool.and_true]

/-- **a resume neither repeats nor skips bookkeeping** -/
theorem resume_events_are_suffix (ck vs total t : Nat) (ht : t + 1 ≤ total) :
    schedule ck vs total 0 total = schedule ck vs total 0 (t + 1) ++ schedule ck vs total (t + 1) (total - (t + 1)) := by
  have := schedule_add ck vs total 0 (t + 1) (total - (t + 1))
  rw [show t + 1 + (total - (t + 1)) = total by omega, Nat.zero_add] at this
  exact this

/-- **the last iteration is checkpointed, logged and validated exactly once** — also when `num_iterations − 1` is a
multiple of `checkpoint_steps` / `validation_steps` (the guards are disjunctions, not two calls) -/
theorem final_iteration_bookkeeping (ck vs total : Nat) (h : 6 ≤ total) :
    bookkeeping ck vs total (total - 1) =
      [.iter (total - 1), .save ((total - 1 : Nat) : Int), .log (total - 1), .validate (total - 1)] := by
  have h1 : total - 1 + 1 = total := by omega
  have h5 : 5 ≤ total - 1 := by omega
  simp [bookkeeping, ckptGuard, logGuard, valGuard, h1, h5]

/-- **resuming a finished run does nothing** — no validation either, even with `start_with_validation` -/
theorem resume_finished_run_does_nothing (r : Run P O G B L Sc) (v : VCfg P) (stop : Stop) (swv : Bool)
    (s : St P O G Sc) (d : Dir) (die : Option Die) : vloop r v stop die r.total swv r.total r.total s d [] = (s, d, []) := by
  cases h : r.total with
  | zero => rfl
  | succ n => rw [vloop, if_pos (by omega)]

/-- **`_load_model` never loads a model partially** (missing keys raise `NotImplementedError`; unexpected keys in the
file are ignored) -/
theorem load_model_never_partial (m m' : Api.Module) (sd : Api.SD) (h : Api.loadModel m sd = .ok m') :
    m'.dp = m.dp ∧ m'.params.map (·.1) = m.params.map (·.1) ∧
    ∀ nv ∈ m'.params, sd.lookup (m.dp, nv.1) = some nv.2 := by
  unfold Api.loadModel at h
  split at h
  · cases h
  · rename_i hany
    injection h with h
    subst h
    refine ⟨rfl, by simp [List.map_map, Function.comp_def], ?_⟩
    intro nv hnv
    simp only [List.mem_map] at hnv
    obtain ⟨x, hx, rfl⟩ := hnv
    simp only [Bool.not_eq_true, List.any_eq_false, Api.Module.stateDict, List.mem_map] at hany
    have := hany ((m.dp, x.1), x.2) ⟨x, hx, rfl⟩
    cases hl : List.lookup (m.dp, x.1) sd with
    | none => simp [hl] at this
    | some v => simp

theorem missing_keys_rejected (m : Api.Module) (sd : Api.SD) (n v : Nat) (hn : (n, v) ∈ m.params)
    (hmiss : sd.lookup (m.dp, n) = none) : Api.loadModel m sd = .error .missingKeys := by
  unfold Api.loadModel
  rw [if_pos]
  simp only [List.any_eq_true, Api.Module.stateDict, List.mem_map]
  exact ⟨((m.dp, n), v), ⟨(n, v), hn, rfl⟩, by simp [hmiss]⟩

theorem loadModel_ok_of (m : Api.Module) (sd : Api.SD) (h : ∀ nv ∈ m.params, (sd.lookup (m.dp, nv.1)).isSome = true) :
    ∃ m', Api.loadModel m sd = .ok m' ∧ m'.dp = m.dp := by
  unfold Api.loadModel
  rw [if_neg]
  · exact ⟨_, rfl, rfl⟩
  · intro hany
    obtain ⟨kv, hkv, hnone⟩ := List.any_eq_true.mp hany
    obtain ⟨nv, hnv, rfl⟩ := List.mem_map.mp hkv
    rw [Option.isNone_iff_eq_none] at hnone
    have := h nv hnv
    rw [hnone] at this
    cases this

/-- **`DataParallel` / `DistributedDataParallel` wrappers are transparent because the constructor strips them**
(`_remove_module_attribute`) -/
theorem dp_wrappers_transparent (saver loader : Api.Module) (hn : loader.params.map (·.1) = saver.params.map (·.1)) :
    ∃ m', Api.loadModel (Api.unwrapIf true loader) (Api.unwrapIf true saver).stateDict = .ok m' ∧ m'.dp = false := by
  refine loadModel_ok_of (Api.unwrapIf true loader) _ fun nv hnv => ?_
  obtain ⟨x, hx, hx1⟩ := List.mem_map.mp (hn ▸ List.mem_map.mpr ⟨nv, hnv, rfl⟩ : nv.1 ∈ saver.params.map (·.1))
  exact List.lookup_isSome_iff.mpr ⟨((false, x.1), x.2), List.mem_map.mpr ⟨x, hx, rfl⟩, by rw [hx1]; exact beq_self_eq_true _⟩

/-- … and **every** `*model` key has to be unwrapped: a constructor that only unwrapped `model` would store a wrapped
additional model under `module.`-prefixed keys, which an unwrapped loader rejects -/
theorem unwrap_regex_models_needed :
    let saver : Api.Objs := ⟨⟨true, [(0, 5)]⟩, some ⟨true, [(0, 7), (1, 8)]⟩, []⟩
    let loader : Api.Objs := ⟨⟨false, [(0, 1)]⟩, some ⟨false, [(0, 1), (1, 1)]⟩, []⟩
    Api.roundTrip latestAliases {} saver [] 3 {} loader (.load (.int 3))
      = .loaded (some 3) ⟨⟨false, [(0, 5)]⟩, some ⟨false, [(0, 7), (1, 8)]⟩, []⟩ [Api.dateKey, Api.iterKey] ∧
    Api.roundTrip latestAliases { unwrapRegex := false } saver [] 3 { unwrapRegex := false } loader (.load (.int 3))
      = .missingKeys := by
  decide +kernel

/-- `save_to_disk = False`: every rank but 0 in `Engine.train` -/
theorem save_disabled_writes_nothing (t : List Stmt) (d : Dir) (it : Int) (chunks : List Bytes) :
    Api.saveIf false t d it chunks = d := rfl

/-- **why only one rank may write**: two concurrent saves of the same label share the temporary's name; if the second
opens (truncates) it while the first is between two writes, the first one's `os.replace` puts an incomplete file in place -/
theorem two_writers_violates :
    let a := saveOps 5 (chunk (toyEncode 1 10) [3, 4])
    let b := saveOps 5 (chunk (toyEncode 1 10) [3, 4])
    wfSave saveTable = true ∧
    loadLatest toyDecode (run Dir.empty (a.take 2 ++ b.take 1 ++ a.drop 2)) = .error .corrupt := by
  decide +kernel

/-- `save(**kwargs)`: keyword arguments override the checkpointable of the same name and are appended otherwise;
`__datetime__` comes last; `only_models` leaves everything but the models alone -/
example :
    let o : Api.Objs := ⟨⟨false, [(0, 5)]⟩, none, [(3, 30), (6, 60), (7, 70)]⟩
    (Api.fileOf o [(3, 31), (9, 90)]).others = [(3, 31), (6, 60), (9, 90), (Api.dateKey, 0)] ∧
    Api.roundTrip latestAliases {} o [(3, 31)] 4 {} ⟨⟨false, [(0, 1)]⟩, none, [(3, 1), (6, 2)]⟩ (.load .latest)
      = .loaded (some 4) ⟨⟨false, [(0, 5)]⟩, none, [(3, 31), (6, 2)]⟩ [6, Api.dateKey, Api.iterKey] ∧
    Api.roundTrip latestAliases {} o [] 4 {} ⟨⟨false, [(0, 1)]⟩, none, [(3, 1)]⟩ .modelsFromFile
      = .loaded none ⟨⟨false, [(0, 5)]⟩, none, [(3, 1)]⟩ [3, 6, Api.dateKey] ∧
    Api.roundTrip latestAliases { saveToDisk := false } o [] 4 {} ⟨⟨false, [(0, 1)]⟩, none, []⟩ (.load .latest) = .nothing := by
  decide +kernel

/-- **closed-form schedulers do not read the optimiser's current learning rate** (`param_groups[0]["lr"]`) -/
theorem closed_form_step_ignores_optimizer_lr (f : Rat → Int → Rat) (o o' : Lr.Opt) (s : Lr.Sch) :
    (Lr.step f (o, s)).1.lr = (Lr.step f (o', s)).1.lr ∧ (Lr.step f (o, s)).2 = (Lr.step f (o', s)).2 :=
  ⟨rfl, rfl⟩

theorem lr_steps_sched (f : Rat → Int → Rat) (o o' : Lr.Opt) (s : Lr.Sch) (n : Nat) :
    (Lr.steps f (o, s) n).2 = (Lr.steps f (o', s) n).2 ∧
    (Lr.steps f (o, s) (n + 1)).1.lr = (Lr.steps f (o', s) (n + 1)).1.lr := by
  induction n with
  | zero => exact ⟨rfl, rfl⟩
  | succ n ih =>
    have hstep : ∀ x y : Lr.Opt × Lr.Sch, x.2 = y.2 →
        (Lr.step f x).2 = (Lr.step f y).2 ∧ (Lr.step f x).1.lr = (Lr.step f y).1.lr := by
      intro x y h; simp only [Lr.step, h, and_self]
    have h2 : (Lr.steps f (o, s) (n + 1)).2 = (Lr.steps f (o', s) (n + 1)).2 := (hstep _ _ ih.1).1
    exact ⟨h2, (hstep _ _ h2).2⟩

/-- **what a resume has to restore**: scheduler only — the first iteration runs at the rate the fresh constructor wrote
(the warm-up start value), every later one at the right rate; optimiser only — the schedule restarts at `last_epoch = 0` -/
theorem what_resume_must_restore (f : Rat → Int → Rat) (lr' : Rat) (saved : Lr.Opt × Lr.Sch) (n : Nat) :
    Lr.resume f lr' saved true true = saved ∧
    (Lr.resume f lr' saved false true).1.lr = f lr' 0 ∧
    (Lr.steps f (Lr.resume f lr' saved false true) (n + 1)).1.lr = (Lr.steps f saved (n + 1)).1.lr ∧
    (Lr.steps f (Lr.resume f lr' saved false true) n).2 = (Lr.steps f saved n).2 ∧
    (Lr.resume f lr' saved true false).2.lastEpoch = 0 := by
  obtain ⟨o, s⟩ := saved
  have := lr_steps_sched f (Lr.construct f lr').1 o s n
  refine ⟨rfl, ?_, this.2, this.1, ?_⟩
  · simp [Lr.resume, Lr.construct, Lr.step]
  · simp [Lr.resume, Lr.construct, Lr.step]

/-- a **chained** scheduler (new rate computed from the current one, as torch's own `MultiStepLR`) stays wrong for ever
after a resume that does not restore `param_groups`; the closed form recovers at the next `step()` -/
theorem chained_scheduler_would_drift :
    let f : Rat → Int → Rat := fun base e => if e ≥ 2 then base / 2 else base
    let g : Rat → Int → Rat := fun cur e => if e = 2 then cur / 2 else cur
    let saved : Lr.Opt × Lr.Sch := (⟨1 / 2, 1⟩, ⟨3, 4, 1⟩)
    let fresh : Lr.Opt × Lr.Sch := (⟨1, 1⟩, saved.2)
    (Lr.step f fresh).1.lr = 1 / 2 ∧ (Lr.stepChained g fresh).1.lr = 1 ∧ (Lr.stepChained g saved).1.lr = 1 / 2 := by
  simp [Lr.step, Lr.stepChained]

theorem sorted_map_range' (a s : Int) (hs : 0 < s) : ∀ n k : Nat,
    Sched.sorted ((List.range' k n).map fun (i : Nat) => a + s * (i : Int)) = true
  | 0, _ => rfl
  | 1, _ => rfl
  | n + 2, k => by
    have ih := sorted_map_range' a s hs (n + 1) (k + 1)
    simp only [List.range'_succ, List.map_cons] at ih ⊢
    simp only [Sched.sorted, Bool.and_eq_true, decide_eq_true_eq]
    refine ⟨?_, ih⟩
    have : s * ((k + 1 : Nat) : Int) = s * (k : Int) + s := by
      rw [Int.natCast_succ, Int.mul_add, Int.mul_one]
    omega

/-- **the milestones `direct/train.py` hands to `WarmupMultiStepLR`**,
`list(range(lr_step_size, num_iterations, lr_step_size))`, **are increasing**: its constructor never raises, `bisect_right`
counts correctly -/
theorem solver_steps_sorted (step total : Int) : Sched.sorted (solverSteps step total) = true := by
  unfold solverSteps pyRange
  by_cases hs : step ≤ 0
  · rw [if_pos hs]; rfl
  · rw [if_neg hs, List.range_eq_range']
    exact sorted_map_range' step step (by omega) _ 0

theorem kill_checkpoint_aligned_iff (k j : Nat) :
    (resumeStart (killLabel (j : Int))).toNat % k = 0 ↔ j % k = 0 := by
  have : (resumeStart (killLabel (j : Int))).toNat = j := by unfold resumeStart killLabel; omega
  rw [this]

/-- **when `gradient_steps` divides `checkpoint_steps` (the usual configuration) no periodic checkpoint is at a window
boundary**: every resume from one is the mid-window resume of the known finding C16 `resume-mid-window` -/
theorem periodic_checkpoints_misaligned_when_k_divides_period (k ck t : Nat) (hk : 2 ≤ k) (hd : ck % k = 0)
    (ht : t % ck = 0) : (t + 1) % k = 1 := by
  have h1 : k ∣ ck := Nat.dvd_of_mod_eq_zero hd
  have h2 : ck ∣ t := Nat.dvd_of_mod_eq_zero ht
  have h3 : t % k = 0 := Nat.mod_eq_zero_of_dvd (Nat.dvd_trans h1 h2)
  rw [Nat.add_mod, h3, Nat.zero_add, Nat.mod_mod, Nat.mod_eq_of_lt (by omega)]

-- the hypotheses are satisfiable: `k = 2`, `checkpoint_steps = 4`, label 8
example : (2 : Nat) ≤ 2 ∧ 4 % 2 = 0 ∧ 8 % 4 = 0 ∧ (8 + 1) % 2 = 1 := by decide

/-- for `k ≥ 2` the alignment hypothesis of the history theorem can only hold for hand-picked stop points (e.g. SIGINTs
at window starts) -/
theorem consecutive_periodic_checkpoints_never_both_aligned (k ck m : Nat) (hk : 2 ≤ k) :
    ¬ ((m * ck + 1) % k = 0 ∧ ((m + 1) * ck + 1) % k = 0) := by
  rintro ⟨h1, h2⟩
  have hsub : ((m + 1) * ck + 1 - (m * ck + 1)) % k = 0 := Nat.sub_mod_eq_zero_of_mod_eq (by rw [h1, h2])
  have hck : ck % k = 0 := by
    have : (m + 1) * ck + 1 - (m * ck + 1) = ck := by rw [Nat.add_mul]; omega
    rwa [this] at hsub
  have := periodic_checkpoints_misaligned_when_k_divides_period k ck (m * ck) hk hck (by simp)
  omega

/-- **what a misaligned resume does** (integer toy: every batch gradient is `k`, learning rate 1): the `(t + 1) % k`
gradients in the accumulator when the checkpoint was written are lost, the divisor stays `k` -/
theorem misaligned_resume_differs (k t : Nat) (hk : 2 ≤ k) :
    let cfg : Cfg := { k := k }
    let batch : Nat → Int := fun _ => (k : Int)
    let init : St Int Unit Int Unit := ⟨0, (), 0, 0, ()⟩
    let U := runRange Toy.intOps (fun _ => (1 : Int)) cfg batch init 0
    let r := (t + 1) % k
    (runRange Toy.intOps (fun _ => (1 : Int)) cfg batch (restore 0 (snapshot (U (t + 1)))) (t + 1) (k - r)).theta
      = (U (t + 1 + (k - r))).theta + (r : Int) := by
  intro cfg batch init U r
  have hrk : r < k := Nat.mod_lt _ (by omega)
  have hg : (U (t + 1)).grad = (r : Int) * k := intToy_grad k (t + 1) hk
  have hadd : U (t + 1 + (k - r)) = runRange Toy.intOps (fun _ => (1 : Int)) cfg batch (U (t + 1)) (t + 1) (k - r) := by
    show runRange _ _ _ _ _ 0 (t + 1 + (k - r)) = _
    rw [runRange_add, Nat.zero_add]
  rw [hadd]
  -- from here on the state at `t + 1` is opaque (its projections would otherwise be computed by unfolding the run)
  generalize U (t + 1) = u at hg
  rw [show k - r = k - (t + 1) % k from rfl, intToy_first_step k hk _ (t + 1), intToy_first_step k hk u (t + 1), hg]
  have hkpos : (k : Int) ≠ 0 := by omega
  show u.theta - (0 + ((k - r : Nat) : Int) * k) / k = u.theta - (r * k + ((k - r : Nat) : Int) * k) / k + r
  rw [Int.zero_add, Int.mul_ediv_cancel _ hkpos, ← Int.add_mul, Int.mul_ediv_cancel _ hkpos]
  omega

/-- **which resumes are equal**: with `resume_equals_uninterrupted` (aligned ⇒ equal, for every model / loss /
optimiser) this is the known finding C16 `resume-mid-window`, exactly -/
theorem resume_equal_iff_aligned (k t : Nat) (hk : 2 ≤ k) :
    let cfg : Cfg := { k := k }
    let batch : Nat → Int := fun _ => (k : Int)
    let init : St Int Unit Int Unit := ⟨0, (), 0, 0, ()⟩
    let U := runRange Toy.intOps (fun _ => (1 : Int)) cfg batch init 0
    (runRange Toy.intOps (fun _ => (1 : Int)) cfg batch (restore 0 (snapshot (U (t + 1)))) (t + 1)
        (k - (t + 1) % k)).theta = (U (t + 1 + (k - (t + 1) % k))).theta ↔ (t + 1) % k = 0 := by
  -- the resumed run is off by exactly `(t + 1) % k` (`misaligned_resume_differs`), and `x + r = x ↔ r = 0`
  have key := misaligned_resume_differs k t hk
  dsimp only at key ⊢
  rw [key]
  omega

/-- **Crash safety of a save that prunes older checkpoints** (`max_to_keep`-style): `wfSaveX` accepts a well-formed
core followed by pruning statements only — nothing is deleted before `last_model.txt` was switched; `dels` are the
labels whose `model_<j>.pt` is removed.  Crash points between and after the deletions are included. -/
theorem crash_safe_with_pruning {S} (decode : Bytes → Option S) (t : List Stmt) (hwf : wfSaveX t = true)
    (d : Dir) (it : Nat) (chunks : List Bytes) (s : S) (hdec : decode chunks.flatten = some s)
    (dels : List Int) (hd : (it : Int) ∉ dels) (n : Nat) (m : Option Nat) :
    let d' := run d (crashAt (opsOfX t it chunks dels) n m)
    loadLatest decode d' = loadLatest decode d ∨ loadLatest decode d' = .ok it s :=
  crash_safe_of_wfX decode t hwf d it chunks s hdec dels hd _ (crashAt_crashOf _ n m)

theorem save_with_pruning_then_load {S} (decode : Bytes → Option S) (t : List Stmt) (hwf : wfSaveX t = true)
    (d : Dir) (it : Nat) (chunks : List Bytes) (s : S) (hdec : decode chunks.flatten = some s)
    (dels : List Int) (hd : (it : Int) ∉ dels) :
    loadLatest decode (run d (opsOfX t it chunks dels)) = .ok it s := by
  obtain ⟨core, n, hcore, rfl, hnp⟩ := wfSaveX_decomp hwf
  rw [opsOfX_append, opsOfX_of_no_prune core it chunks dels hnp, run_append]
  exact loadLatest_ok_unlinks decode _ it s (save_then_load_of_wf decode core hcore d it chunks s hdec) dels hd _
    (prune_ops_touch n it chunks dels)

/-- pruning at the end is accepted, pruning before the pointer moved is rejected -/
theorem wf_tables_with_pruning :
    wfTables.all wfSaveX = true ∧ wfSaveX (saveTable ++ [.prune]) = true ∧
    wfSaveX [.openW .modelTmp, .writePayload .modelTmp, .closeF .modelTmp, .replace .modelTmp .model, .prune,
             .openW .lastTmp, .writeLabel .lastTmp, .closeF .lastTmp, .replace .lastTmp .last] = false ∧
    wfSaveX (.prune :: saveTable) = false :=
  ⟨List.all_eq_true.mpr fun t ht => wfSaveX_of_wfSave (List.contains_iff_mem.mpr ht), by decide +kernel⟩

/-- **pruning before the pointer moved is not crash safe**: the save at 12 deletes `model_5.pt` while
`last_model.txt` still names it.  And **the new label must not be among the deleted ones**: "keep the highest label"
after re-saving a lower one (a restart over an old directory) deletes the checkpoint just written. -/
theorem prune_before_pointer_violates :
    let tP : List Stmt := [.openW .modelTmp, .writePayload .modelTmp, .closeF .modelTmp, .replace .modelTmp .model, .prune,
                           .openW .lastTmp, .writeLabel .lastTmp, .closeF .lastTmp, .replace .lastTmp .last]
    let d := run Dir.empty (saveOps 5 (chunk (toyEncode 1 10) [3, 4]))
    loadLatest toyDecode d = .ok 5 1 ∧
    loadLatest toyDecode (run d (crashAt (opsOfX tP 12 (chunk (toyEncode 2 10) [3, 4]) [5]) 7 none)) = .error .fileNotFound ∧
    loadLatest toyDecode (run d (opsOfX tP 12 (chunk (toyEncode 2 10) [3, 4]) [5])) = .ok 12 2 ∧
    -- a well-formed table, but the pruning rule deletes the label just saved (12 exists, 5 is re-saved, "keep the highest")
    loadLatest toyDecode (run (run d (saveOps 12 (chunk (toyEncode 2 10) [3, 4])))
      (opsOfX (saveTable ++ [.prune]) 5 (chunk (toyEncode 3 10) [3, 4]) [5])) = .error .fileNotFound := by
  decide +kernel

-- the hypotheses of `crash_safe_with_pruning` are satisfiable: a table that prunes, label 7, `dels = [5, 6]`
example : wfSaveX (saveTable ++ [.prune]) = true ∧ ((7 : Nat) : Int) ∉ ([5, 6] : List Int) := by decide

/-- **Exception safety of a save** (an exception raised inside write `n` after `m` bytes; Python unwinds): the core is
well formed and the exceptional path only closes files (`wfUnwind`: no rename, write or deletion in a `with` / `finally`
clean-up).  Process death at the same point: `crash_safe_all_wf_tables`. -/
theorem exception_safe {S} (decode : Bytes → Option S) (xt : List XStmt) (hwf : wfSave (xt.map (·.stmt)) = true)
    (hun : wfUnwind xt = true) (d : Dir) (it : Nat) (chunks : List Bytes) (s : S)
    (hdec : decode chunks.flatten = some s) (n m : Nat) :
    let d' := run d (excOps xt it chunks n m)
    loadLatest decode d' = loadLatest decode d ∨ loadLatest decode d' = .ok it s := by
  show loadLatest decode (run d (excOps xt it chunks n m)) = _ ∨
    loadLatest decode (run d (excOps xt it chunks n m)) = _
  rw [run_excOps xt hun d it chunks n m]
  exact crash_safe_of_wf decode _ hwf d it chunks s hdec _ (crashAt_crashOf _ n (some m))

/-- the repaired tree (two `with open(tmp)` blocks: unwinding only closes the temporary) is accepted; a context manager
that closes **and renames** in a `finally` is not -/
theorem unwind_tables :
    wfUnwind saveTableX = true ∧ saveTableX.map (·.stmt) = saveTable ∧
    wfUnwind [⟨.openW .modelTmp, none⟩, ⟨.writePayload .modelTmp, none⟩, ⟨.closeF .modelTmp, some 1⟩,
              ⟨.replace .modelTmp .model, some 1⟩, ⟨.openW .lastTmp, none⟩, ⟨.writeLabel .lastTmp, none⟩,
              ⟨.closeF .lastTmp, some 5⟩, ⟨.replace .lastTmp .last, some 5⟩] = false := by
  decide +kernel

/-- **renaming on the exceptional path is not safe** (`finally: f.close(); os.replace(tmp, path)`): a second save of
label 5 (kill path after the periodic checkpoint of the same iteration) whose first write raises renames the truncated
temporary over the only good `model_5.pt` -/
theorem rename_on_unwind_violates :
    let bad : List XStmt :=
      [⟨.openW .modelTmp, none⟩, ⟨.writePayload .modelTmp, none⟩, ⟨.closeF .modelTmp, some 1⟩,
       ⟨.replace .modelTmp .model, some 1⟩, ⟨.openW .lastTmp, none⟩, ⟨.writeLabel .lastTmp, none⟩,
       ⟨.closeF .lastTmp, some 5⟩, ⟨.replace .lastTmp .last, some 5⟩]
    let d := run Dir.empty (saveOps 5 (chunk (toyEncode 1 10) [3, 4]))
    loadLatest toyDecode d = .ok 5 1 ∧
    loadLatest toyDecode (run d (excOps bad 5 (chunk (toyEncode 2 10) [3, 4]) 1 1)) = .error .corrupt ∧
    loadLatest toyDecode (run d (excOps saveTableX 5 (chunk (toyEncode 2 10) [3, 4]) 1 1)) = .ok 5 1 := by
  decide +kernel

/-- **a process that dies at a statement boundary of an iteration outside the kill path** (during or after the optimiser
step, around `lr_scheduler.step()`, at the entry of the periodic save, inside `write_to_logs`) **keeps the directory
invariant**, which is what the next resume needs (`Run.process_eq`); the histories of
`interrupted_history_with_validation` contain no such death -/
theorem death_outside_kill_path_keeps_invariant (r : Run P O G B L Sc) (hr : r.Ok) (v : VCfg P) (hv : v.Ok r)
    (stop : Stop) (x : Die) (hx : x.wf r) (start : Nat) (swv : Bool) (it : Nat) (d : Dir) (hd : r.Inv d) :
    r.Inv (vloop r v stop (some x) start swv r.total it (r.U it) d []).2.1 :=
  vloop_inv v r hv hr stop (some x) (fun y hy => by cases hy; exact hx) start swv r.total it d [] hd

/-- **why only `_do_iteration` may be inside the `try` that routes to the kill path**: the kill path stores the current
state under `iter_idx − 1`; were the optimiser step inside and the signal right after it, the checkpoint labelled 6 would
contain iteration 7's update, which the resumed process applies again (integer toy, lr `= last_epoch + 1`) -/
theorem kill_path_after_step_violates :
    let cfg : Cfg := { k := 1 }
    let lrAt : Nat → Int := fun e => e + 1
    let batch : Nat → Int := fun _ => 1
    let init : St Int Unit Int Unit := ⟨0, (), 0, 0, ()⟩
    let U := runRange Toy.intOps lrAt cfg batch init 0
    -- iteration 7 interrupted after `optimizer.step()` (4 statements of the loop table), saved by the kill path
    let part := iterT (loopTable.take 4) Toy.intOps lrAt cfg (U 7) 7 (batch 7)
    let start := (resumeStart (killLabel 7)).toNat
    wfTry tryEvents = true ∧ wfTry [.backward, .divGrad, .clip, .optStep, .scalerUpdate, .zeroGrad] = false ∧
    (runRange Toy.intOps lrAt cfg batch (restore 0 (snapshot part)) start (9 - start)).theta = -53 ∧
    (U 9).theta = -45 := by
  decide +kernel

end DirectVerif.C15
