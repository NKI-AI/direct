import DirectVerif.Model.Mask
/-!
# C03 — `whereWith` for an arbitrary elementwise kernel, over numpy broadcasting on reversed shapes

What every masked operator of `Props/C03.lean` instantiates: `whereWith_entry`, `whereWith_congr` (the result depends
on `k` only through the kernel), `whereWith_idem`, and `srcAt_index_lt` (a broadcast read of a well-formed operand
never uses the default).
-/
namespace DirectVerif.Mask
open DirectVerif

theorem unravelR_length (s : List Nat) (f : Nat) : (unravelR s f).length = s.length := by
  induction s generalizing f with
  | nil => rfl
  | cons n s ih => simp [unravelR, ih]

theorem pos_of_lt_mul {f n p : Nat} (h : f < n * p) : 0 < n :=
  Nat.pos_of_ne_zero fun h0 => by rw [h0, Nat.zero_mul] at h; exact Nat.not_lt_zero _ h

theorem unravelR_inRange (s : List Nat) (f : Nat) (h : f < prodR s) : inRangeR s (unravelR s f) := by
  induction s generalizing f with
  | nil => trivial
  | cons n s ih => exact ⟨Nat.mod_lt _ (pos_of_lt_mul h), ih _ (Nat.div_lt_of_lt_mul h)⟩

theorem ravelR_unravelR (s : List Nat) (f : Nat) (h : f < prodR s) : ravelR s (unravelR s f) = f := by
  induction s generalizing f with
  | nil => exact (Nat.lt_one_iff.mp h).symm
  | cons n s ih =>
    show f % n + n * ravelR s (unravelR s (f / n)) = f
    rw [ih _ (Nat.div_lt_of_lt_mul h), Nat.mod_add_div]

theorem ravelR_lt (s i : List Nat) (h : inRangeR s i) : ravelR s i < prodR s := by
  induction s generalizing i with
  | nil => cases i with
    | nil => exact Nat.one_pos
    | cons _ _ => exact h.elim
  | cons n s ih =>
    cases i with
    | nil => exact h.elim
    | cons j is =>
      have := ih is h.2
      show j + n * ravelR s is < n * prodR s
      calc j + n * ravelR s is < n + n * ravelR s is := Nat.add_lt_add_right h.1 _
        _ = n * (ravelR s is + 1) := by rw [Nat.mul_add, Nat.mul_one, Nat.add_comm]
        _ ≤ n * prodR s := Nat.mul_le_mul_left n this

theorem unravelR_ravelR (s i : List Nat) (h : inRangeR s i) : unravelR s (ravelR s i) = i := by
  induction s generalizing i with
  | nil => cases i with
    | nil => rfl
    | cons _ _ => exact h.elim
  | cons n s ih =>
    cases i with
    | nil => exact h.elim
    | cons j is =>
      have hn : 0 < n := Nat.zero_lt_of_lt h.1
      show (j + n * ravelR s is) % n :: unravelR s ((j + n * ravelR s is) / n) = j :: is
      rw [Nat.add_mul_mod_self_left, Nat.mod_eq_of_lt h.1, Nat.add_mul_div_left _ _ hn,
        Nat.div_eq_of_lt h.1, Nat.zero_add, ih is h.2]

theorem bIdxR_nil_left (i : List Nat) : bIdxR [] i = [] := by cases i <;> rfl

theorem bIdxR_cons_of_lt {n i : Nat} (h : i < n) (s is : List Nat) :
    bIdxR (n :: s) (i :: is) = i :: bIdxR s is := by
  show (if n = 1 then 0 else i) :: _ = _
  split
  · next h1 => rw [show i = 0 from Nat.lt_one_iff.mp (h1 ▸ h)]
  · rfl

theorem bIdxR_of_inRange (s i : List Nat) (h : inRangeR s i) : bIdxR s i = i := by
  induction s generalizing i with
  | nil => cases i with
    | nil => rfl
    | cons _ _ => exact h.elim
  | cons n s ih =>
    cases i with
    | nil => exact h.elim
    | cons j is => rw [bIdxR_cons_of_lt h.1, ih is h.2]

theorem bShapeR_nil_right (s : List Nat) : bShapeR s [] = some s := by cases s <;> rfl

theorem bShapeR_cons_cons {a b : Nat} {s t c : List Nat} (h : bShapeR (a :: s) (b :: t) = some c) :
    ∃ c', bShapeR s t = some c' ∧ ((c = a :: c' ∧ (a = b ∨ b = 1)) ∨ (c = b :: c' ∧ a = 1)) := by
  simp only [bShapeR] at h
  split at h
  · next hab =>
    obtain ⟨c', hc', rfl⟩ := Option.map_eq_some_iff.mp h
    exact ⟨c', hc', Or.inl ⟨rfl, hab⟩⟩
  · split at h
    · next ha =>
      obtain ⟨c', hc', rfl⟩ := Option.map_eq_some_iff.mp h
      exact ⟨c', hc', Or.inr ⟨rfl, ha⟩⟩
    · cases h

theorem bShapeR_cons_of {a b : Nat} {s t : List Nat} (h : a = b ∨ a = 1) (hst : bShapeR s t = some t) :
    bShapeR (a :: s) (b :: t) = some (b :: t) := by
  simp only [bShapeR, hst, Option.map_some]
  split
  · next hab =>
    rcases h with rfl | rfl
    · rfl
    · rw [show b = 1 from hab.elim Eq.symm id]
  · next hab => rw [if_pos (h.resolve_left fun e => hab (Or.inl e))]

theorem bShapeR_self (s : List Nat) : bShapeR s s = some s := by
  induction s with
  | nil => rfl
  | cons a s ih => exact bShapeR_cons_of (Or.inl rfl) ih

theorem bShapeR_idem (a b c : List Nat) (h : bShapeR a b = some c) : bShapeR a c = some c := by
  induction a generalizing b c with
  | nil => rfl
  | cons x s ih =>
    cases b with
    | nil => cases h; exact bShapeR_self _
    | cons y t =>
      obtain ⟨c', hc', ⟨rfl, _⟩ | ⟨rfl, hx⟩⟩ := bShapeR_cons_cons h
      · exact bShapeR_cons_of (Or.inl rfl) (ih t c' hc')
      · exact bShapeR_cons_of (Or.inr hx) (ih t c' hc')

theorem bShapeR_nil (a b : List Nat) (h : bShapeR a b = some []) : a = [] ∧ b = [] := by
  cases a with
  | nil => exact ⟨rfl, Option.some.inj h⟩
  | cons x s =>
    cases b with
    | nil => cases h
    | cons y t => obtain ⟨_, _, ⟨hc, _⟩ | ⟨hc, _⟩⟩ := bShapeR_cons_cons h <;> cases hc

/-- broadcasting keeps a trailing complex axis of length 2 -/
theorem bShapeR_head_two (a t c : List Nat) (h : bShapeR a (2 :: t) = some c) : c.head? = some 2 := by
  cases a with
  | nil => cases h; rfl
  | cons x s =>
    obtain ⟨c', _, ⟨rfl, rfl | h1⟩ | ⟨rfl, _⟩⟩ := bShapeR_cons_cons h
    · rfl
    · cases h1
    · rfl

theorem bIdxR_inRange (a b c i : List Nat) (h : bShapeR a b = some c) (hi : inRangeR c i) :
    inRangeR a (bIdxR a i) := by
  induction a generalizing b c i with
  | nil => rw [bIdxR_nil_left]; trivial
  | cons x s ih =>
    -- the head of `c` is `x` unless `x = 1`, and the tail of `c` is a broadcast of `s`
    obtain ⟨y, c', t, hc', rfl, hxy⟩ : ∃ y c' t, bShapeR s t = some c' ∧ c = y :: c' ∧ (y = x ∨ x = 1) := by
      cases b with
      | nil => cases h; exact ⟨x, s, [], bShapeR_nil_right s, rfl, Or.inl rfl⟩
      | cons y t =>
        obtain ⟨c', hc', ⟨rfl, _⟩ | ⟨rfl, hx⟩⟩ := bShapeR_cons_cons h
        · exact ⟨x, c', t, hc', rfl, Or.inl rfl⟩
        · exact ⟨y, c', t, hc', rfl, Or.inr hx⟩
    cases i with
    | nil => exact hi.elim
    | cons j is =>
      refine ⟨?_, ih t c' is hc' hi.2⟩
      show (if x = 1 then 0 else j) < x
      split
      · next h1 => rw [h1]; exact Nat.one_pos
      · next h1 => exact hxy.resolve_right h1 ▸ hi.1

/-- `outShapeR` is `bShapeR`, except that two 0-dim operands give `[1]` -/
theorem outShapeR_some {m k c : List Nat} (h : outShapeR m k = some c) :
    bShapeR m k = some c ∨ (m = [] ∧ k = [] ∧ c = [1]) := by
  unfold outShapeR at h
  split at h
  · next hb => exact Or.inr ⟨(bShapeR_nil _ _ hb).1, (bShapeR_nil _ _ hb).2, (Option.some.inj h).symm⟩
  · exact Or.inl h

theorem outShapeR_of_bShapeR {m k c : List Nat} (h : bShapeR m k = some c) (hc : c ≠ []) : outShapeR m k = some c := by
  unfold outShapeR
  split
  · next hb => rw [hb] at h; exact (hc (Option.some.inj h).symm).elim
  · exact h

theorem outShapeR_idem (m k c : List Nat) (h : outShapeR m k = some c) : outShapeR m c = some c := by
  rcases outShapeR_some h with hb | ⟨rfl, _, rfl⟩
  · apply outShapeR_of_bShapeR (bShapeR_idem _ _ _ hb)
    rintro rfl
    rw [outShapeR, hb] at h
    cases h
  · rfl

theorem outShapeR_head_two (a t c : List Nat) (h : outShapeR a (2 :: t) = some c) : c.head? = some 2 := by
  rcases outShapeR_some h with hb | ⟨_, h2, _⟩
  · exact bShapeR_head_two _ _ _ hb
  · cases h2

theorem srcAt_index_lt (mR kR sR : List Nat) (h : outShapeR mR kR = some sR) (fl : Nat) (hfl : fl < prodR sR) :
    ravelR mR (bIdxR mR (unravelR sR fl)) < prodR mR := by
  rcases outShapeR_some h with hb | ⟨rfl, _, _⟩
  · exact ravelR_lt _ _ (bIdxR_inRange _ _ _ _ hb (unravelR_inRange _ _ hfl))
  · exact Nat.one_pos

theorem srcAt_self {α} (sR : List Nat) (data : List α) (d : α) (fl : Nat) (h : fl < prodR sR) :
    srcAt { shape := sR.reverse, data := data } d sR fl = data.getD fl d := by
  simp only [srcAt, List.reverse_reverse, bIdxR_of_inRange _ _ (unravelR_inRange _ _ h), ravelR_unravelR _ _ h]

theorem srcAt_map {α β} (g : α → β) (shape : List Nat) (data : List α) (d : α) (d' : β) (kR sR : List Nat)
    (hwf : data.length = prodR shape.reverse) (h : outShapeR shape.reverse kR = some sR) (fl : Nat)
    (hfl : fl < prodR sR) :
    srcAt { shape := shape, data := data.map g } d' sR fl = g (srcAt { shape := shape, data := data } d sR fl) := by
  have hlt := srcAt_index_lt _ _ _ h fl hfl
  rw [← hwf] at hlt
  simp only [srcAt, List.getD_eq_getElem?_getD, List.getElem?_map, List.getElem?_eq_getElem hlt, Option.map_some,
    Option.getD_some]

section Where
variable {μ : Type} [Inhabited μ] (f : μ → FVal → FVal) (m : Tensor μ)

theorem whereWith_some (k o : Tensor FVal) (h : whereWith f m k = some o) :
    ∃ sR, outShapeR m.shape.reverse k.shape.reverse = some sR ∧
      o = { shape := sR.reverse,
            data := (List.range (prodR sR)).map fun fl =>
              f (srcAt m default sR fl) (srcAt k .posZero sR fl) } := by
  unfold whereWith at h
  split at h
  · cases h
  · next sR hs => exact ⟨sR, hs, (Option.some.inj h).symm⟩

theorem whereWith_entry (k o : Tensor FVal) (h : whereWith f m k = some o) :
    outShapeR m.shape.reverse k.shape.reverse = some o.shape.reverse ∧
    o.data.length = prodR o.shape.reverse ∧
    ∀ fl, fl < prodR o.shape.reverse →
      o.data[fl]? = some (f (srcAt m default o.shape.reverse fl) (srcAt k .posZero o.shape.reverse fl)) := by
  obtain ⟨sR, hs, rfl⟩ := whereWith_some f m k o h
  simp only [List.reverse_reverse, List.length_map, List.length_range, true_and]
  exact ⟨hs, fun fl hfl => by rw [List.getElem?_map, List.getElem?_range hfl]; rfl⟩

theorem whereWith_congr (k k' : Tensor FVal) (hs : k.shape = k'.shape)
    (h : ∀ sR, outShapeR m.shape.reverse k.shape.reverse = some sR → ∀ fl, fl < prodR sR →
      f (srcAt m default sR fl) (srcAt k .posZero sR fl) = f (srcAt m default sR fl) (srcAt k' .posZero sR fl)) :
    whereWith f m k = whereWith f m k' := by
  unfold whereWith
  rw [← hs]
  split
  · rfl
  · next sR hsR =>
    congr 2
    exact List.map_congr_left fun fl hfl => h sR hsR fl (List.mem_range.mp hfl)

theorem whereWith_idem (hf : ∀ mv kv, f mv (f mv kv) = f mv kv) (k o : Tensor FVal)
    (h : whereWith f m k = some o) : whereWith f m o = some o := by
  obtain ⟨sR, hs, rfl⟩ := whereWith_some f m k o h
  unfold whereWith
  simp only [List.reverse_reverse, outShapeR_idem _ _ _ hs]
  congr 2
  apply List.map_congr_left
  intro fl hfl
  have hlt : fl < prodR sR := List.mem_range.mp hfl
  rw [srcAt_self sR _ _ fl hlt, List.getD_eq_getElem?_getD, List.getElem?_map, List.getElem?_range hlt]
  exact hf _ _

end Where

end DirectVerif.Mask
