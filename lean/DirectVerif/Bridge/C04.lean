import DirectVerif.Gen.C04
import DirectVerif.Model.MaskInterior
import DirectVerif.Model.C04Poisson
import DirectVerif.Model.C04Tables
import DirectVerif.Lemmas.Basic
/-!
# Bridge C04 — what the translator extracted from `/repo` equals the hand-written model

Kernels are closed by fixed scripts; the structural tables are compared by evaluation (`rfl` where both sides are literal
tables, `decide +kernel` where strings are looked up).
-/
namespace DirectVerif.Bridge.C04
open DirectVerif DirectVerif.MaskGeom DirectVerif.Gen.C04

/-- `BaseMaskFunc.__call__` guards -/
theorem call_rejects_eq (framed : Bool) (rank : Int) :
    (call_rejects_rank rank || call_rejects_framed (if framed then 1 else 0) rank) = callRejects framed rank := by
  cases framed <;> simp [call_rejects_rank, call_rejects_framed, callRejects]

/-- `Kt*MaskFunc.mask_func` rank guard -/
theorem kt_rejects_eq (rank : Nat) :
    (kt_rejects_KtRadial rank = true ↔ ktGuard rank = .error .valueError) ∧
    (kt_rejects_KtUniform rank = true ↔ ktGuard rank = .error .valueError) ∧
    (kt_rejects_KtGaussian1D rank = true ↔ ktGuard rank = .error .valueError) := by
  simp only [kt_rejects_KtRadial, kt_rejects_KtUniform, kt_rejects_KtGaussian1D, ktGuard]
  by_cases h4 : rank = 4
  · subst h4; simp
  · by_cases h5 : rank = 5
    · subst h5; simp
    · have e4 : ¬ ((rank : Int) = 4) := by omega
      have e5 : ¬ ((rank : Int) = 5) := by omega
      simp [h4, h5, e4, e5]

/-- `_reshape_and_add_coil_axis`: which entries of `mask_shape` are overwritten with which of `shape` -/
theorem reshape_tables_eq :
    reshape_assign = reshapeAssign ∧ reshape_assign_framed = reshapeAssignFramed := by decide

/-- `_broadcast_mask` branches -/
theorem broadcast_table_eq : broadcast_branches = broadcastBranches := by decide

/-- every `return` of every `mask_func` is `self._reshape_and_add_coil_axis(…, shape)`, both branches; the
`center_mask_func` line generators go through `self._broadcast_mask(…, num_rows)` -/
theorem return_table_ok : returnTableOk return_table = true := by decide +kernel

/-- abstract interpretation of every `mask_func`: the mask branch returns `pattern-of-this-frame ∨ acs`, the `return_acs`
branch `acs` — a draw moved out of the frame loop, a frame copied from another one, or a dropped `| acs` breaks this -/
theorem assembly_table_ok : assemblyTableOk assembly_table = true := by decide +kernel

/-- `build_masking_function`: constructor parameters per class; Kt generators pin `mode = DYNAMIC` -/
theorem build_table_eq : build_table = buildTable ∧ kt_mode_pinned_dynamic = true := ⟨rfl, rfl⟩

theorem magic_offset_pos_eq (offset : Int) : magic_offset_pos offset = magicOffPos offset := by
  have h : offset % 2 = 0 ∨ offset % 2 = 1 := by omega
  rcases h with h | h <;>
    simp [magic_offset_pos, magicOffPos, fmod_two, h] <;> omega

theorem magic_offset_neg_eq (offset : Int) : magic_offset_neg offset = magicOffNeg offset := by
  have h : offset % 2 = 0 ∨ offset % 2 = 1 := by omega
  rcases h with h | h <;>
    simp [magic_offset_neg, magicOffNeg, fmod_two, h] <;> omega

theorem magic_poslen_eq (n : Int) : magic_poslen n = magicPosLen n := by
  unfold magic_poslen magicPosLen
  try simp only [fdiv_two]
  first | done | omega

theorem magic_neglen_eq (n : Int) : magic_neglen n = magicNegLen n := by
  unfold magic_neglen magicNegLen
  try simp only [fdiv_two]
  first | done | omega

/-! k-t grid helpers (numpy float idioms `np.floor(a / b)`, `np.ceil(a / b)` translated as floor / ceiling division) -/

theorem kt_linear_eq (idx row : Int) (h : 0 ≤ row) : (kt_linear_x idx row, kt_linear_y idx row) = linear2d idx row := by
  unfold kt_linear_x kt_linear_y linear2d
  simp only [Int.fdiv_eq_ediv_of_nonneg _ h]

theorem kt_phase_corrected_eq (phase ny : Int) : kt_phase_corrected phase ny = phase + halfUp ny := by
  unfold kt_phase_corrected halfUp
  simp only [fdiv_two]
  first | done | omega

theorem kt_time_corrected_eq (time nt : Int) : kt_time_corrected time nt = time + halfUp nt := by
  unfold kt_time_corrected halfUp
  simp only [fdiv_two]
  first | done | omega

theorem kt_trajectory_index_eq (phase time ny nt : Int) :
    kt_trajectory_index (kt_time_corrected time nt) (kt_phase_corrected phase ny) ny = trajIndex ny nt phase time := by
  rw [kt_time_corrected_eq, kt_phase_corrected_eq]
  rfl

theorem kt_uniform_ph_ti_eq (ind : Int) (n nt : Nat) :
    kt_uniform_ph ind n = ind % n - ((n / 2 : Nat) : Int) ∧ kt_uniform_ti ind n nt = ind / n - ((nt / 2 : Nat) : Int) := by
  unfold kt_uniform_ph kt_uniform_ti
  simp only [fdiv_two, Int.fdiv_eq_ediv_of_nonneg _ (Int.natCast_nonneg n),
    Int.fmod_eq_emod_of_nonneg _ (Int.natCast_nonneg n)]
  constructor <;> (first | done | omega)

theorem kt_inds_eq (ph ti : List Int) (n nt : Nat) :
    ktInds n nt ph ti = List.zipWith (fun p t => kt_uniform_inds p t n nt) ph ti ∧
    ktInds n nt ph ti = List.zipWith (fun p t => kt_gaussian_inds p t n nt) ph ti := by
  unfold ktInds kt_uniform_inds kt_gaussian_inds
  simp only [fdiv_two]
  have e1 : ((nt : Int) / 2) = ((nt / 2 : Nat) : Int) := by omega
  have e2 : ((n : Int) / 2) = ((n / 2 : Nat) : Int) := by omega
  rw [e1, e2]
  exact ⟨rfl, rfl⟩

/-- the clamp `inds[inds <= 0] = 1` exists in KtUniform (the driver runs `ktUniformFlat true`), not in KtGaussian1D -/
theorem clamp_table_eq : clamp_KtUniform = some (0, 1) ∧ clamp_KtGaussian1D = none := by decide

/-- `np.clip(…, 1, None)` on both Poisson-disc radii before the `_poisson` kernel -/
theorem poisson_radius_floor_eq : poisson_radius_floor = poissonRadiusFloor := by decide

/-! `direct/common/_poisson.pyx` (through the `.pyx` front-end): the statements `Model/C04Poisson.lean` mirrors -/

/-- every located statement of `poisson` reads as the model assumes -/
theorem pyx_facts_eq : pyx_facts = C04Poisson.pyxFacts := rfl

/-- `while num_actives > 0` is the model's `acts.size = 0` stop -/
theorem pyx_outer_guard_eq (na : Nat) : pyx_outer_guard na = !(decide (na = 0)) := by
  unfold pyx_outer_guard
  by_cases h : na = 0
  · subst h; simp
  · have h2 : 0 < na := by omega
    simp [h, h2]

/-- `while not done and k < max_attempts`: after `k` failed attempts the model has `max_attempts - k` left -/
theorem pyx_attempt_guard_eq (k ma : Nat) :
    pyx_attempt_guard 0 k ma = decide (0 < ma - k) ∧ pyx_attempt_guard 1 k ma = false := by
  unfold pyx_attempt_guard
  constructor
  · by_cases h : k < ma
    · have : ((k : Int) < ma) := by omega
      have h2 : 0 < ma - k := by omega
      simp [this, h2]
    · have : ¬ ((k : Int) < ma) := by omega
      have h2 : ¬ 0 < ma - k := by omega
      simp [this, h2]
  · simp

/-- on integer points; the model applies the same four comparisons to the exact float value -/
theorem pyx_in_grid_eq (qx qy : Int) (nx ny : Nat) :
    pyx_in_grid qx qy nx ny = C04Poisson.inGridTest (C04Poisson.Dy.ofInt qx) (C04Poisson.Dy.ofInt qy) nx ny := by
  unfold pyx_in_grid C04Poisson.inGridTest C04Poisson.Dy.nonneg C04Poisson.Dy.ltNat C04Poisson.Dy.ofInt C04Poisson.Dy.pow2
  simp [Bool.and_assoc]

theorem pyx_counter_updates_eq (na k : Int) :
    pyx_na_accept na = na + 1 ∧ pyx_na_remove na = na - 1 ∧ pyx_k_step k = k + 1 := ⟨rfl, rfl, rfl⟩

/-! tables about ALL classes deriving from `BaseMaskFunc` (discovered in the source, not a fixed list) and the callers -/

/-- no mask-function class (the 14 generators, their abstract bases, `CalgaryCampinasMaskFunc`) writes an instance or
class attribute or a `global` outside its construction -/
theorem state_table_ok : C04Tables.stateTableOk state_table = true := by decide

/-- every class with a concrete `mask_func` returns only through the reshape wrapper, except `CalgaryCampinasMaskFunc`
(out of scope: it builds `(1, rows, cols, 1)` arrays by hand); the 14 generators are all present -/
theorem class_table_ok : C04Tables.classTableOk class_table = true := by decide +kernel

/-- `CreateSamplingMask`, `EstimateBodyCoilImage`, `apply_mask` call the mask-function object itself (hence
`BaseMaskFunc.__call__` and its rank guards) with keywords among `shape`, `seed`, `return_acs` -/
theorem call_sites_ok : C04Tables.callSitesOk call_sites = true := by decide +kernel

end DirectVerif.Bridge.C04
