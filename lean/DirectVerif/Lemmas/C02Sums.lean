import Mathlib.Algebra.BigOperators.Fin
import Mathlib.Algebra.BigOperators.Group.List.Basic
import Mathlib.Algebra.BigOperators.Intervals
/-!
# C02 — list sums over flat row-major data as iterated finite sums (generic, Mathlib)

Used by `Props/C02.lean` to read `cdot` on the flat data of the driver's tensors as the inner product over coils × pixels.
-/
namespace DirectVerif.C02S
open scoped BigOperators

theorem list_sum_range_map {M : Type} [AddCommMonoid M] (f : ℕ → M) (n : ℕ) :
    ((List.range n).map f).sum = ∑ k ∈ Finset.range n, f k := rfl

theorem sum_range_mul {M : Type} [AddCommMonoid M] (g : ℕ → M) (A B : ℕ) :
    ∑ k ∈ Finset.range (A * B), g k = ∑ a ∈ Finset.range A, ∑ b ∈ Finset.range B, g (a * B + b) := by
  induction A with
  | zero => simp
  | succ A ih => rw [Nat.succ_mul, Finset.sum_range_add, ih, Finset.sum_range_succ]

/-- flat position `o*c*P + j*P + i` of `[o, j, i]` in a `Q × c × P` tensor -/
theorem sum_range_pos3 {M : Type} [AddCommMonoid M] (g : ℕ → M) (Q c P : ℕ) :
    ∑ k ∈ Finset.range (Q * (c * P)), g k =
      ∑ o ∈ Finset.range Q, ∑ j ∈ Finset.range c, ∑ i ∈ Finset.range P, g (o * c * P + j * P + i) := by
  rw [sum_range_mul]
  refine Finset.sum_congr rfl fun o _ => ?_
  rw [sum_range_mul]
  refine Finset.sum_congr rfl fun j _ => Finset.sum_congr rfl fun i _ => ?_
  rw [Nat.mul_assoc, Nat.add_assoc]

theorem zipWith_eq_range_map {α β γ : Type} (f : α → β → γ) (a : List α) (b : List β) (da : α) (db : β) (N : ℕ)
    (ha : a.length = N) (hb : b.length = N) :
    List.zipWith f a b = (List.range N).map fun k => f (a.getD k da) (b.getD k db) := by
  apply List.ext_getElem
  · simp [ha, hb]
  · intro k h1 h2
    have hk : k < N := by simpa using h2
    simp [List.getD_eq_getElem?_getD, List.getElem?_eq_getElem (ha ▸ hk), List.getElem?_eq_getElem (hb ▸ hk)]

end DirectVerif.C02S
