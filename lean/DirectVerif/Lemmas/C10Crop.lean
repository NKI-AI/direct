import DirectVerif.Model.Crop
import DirectVerif.Lemmas.Basic
/-! Index form (`getElem?`) and length of the one-axis list operations of C10: `centerCrop`, `fPad`, `padTo` (`slice`: `Lemmas/Basic.lean`). -/
namespace DirectVerif.C10
open DirectVerif DirectVerif.Crop

theorem centerCropLower_toNat (n s : Nat) : (centerCropLower n s).toNat = (n - s) / 2 := by
  unfold centerCropLower; omega

theorem centerCrop_getElem? {α} (s : Nat) (xs : List α) (k : Nat) :
    (centerCrop s xs)[k]? = if k < s then xs[k + (xs.length - s) / 2]? else none := by
  unfold centerCrop
  rw [slice_getElem?, centerCropLower_toNat, Nat.add_comm k]
  by_cases hk : k < s
  · rw [if_pos hk, if_pos (by omega)]
  · rw [if_neg hk, if_neg (by omega)]

theorem centerCrop_length {α} (s : Nat) (xs : List α) : (centerCrop s xs).length = min s xs.length := by
  unfold centerCrop slice
  rw [List.length_drop, List.length_take, centerCropLower_toNat]
  omega

theorem fPad_length {α} (fill : α) (l r : Nat) (xs : List α) : (fPad fill l r xs).length = l + xs.length + r := by
  simp only [fPad, List.length_append, List.length_replicate]

theorem fPad_getElem? {α} (fill : α) (l r : Nat) (xs : List α) (k : Nat) :
    (fPad fill l r xs)[k]? =
      if k < l then some fill else if k < l + xs.length then xs[k - l]?
      else if k < l + xs.length + r then some fill else none := by
  unfold fPad
  rw [List.append_assoc, List.getElem?_append, List.getElem?_append, List.length_replicate,
    List.getElem?_replicate, List.getElem?_replicate]
  by_cases h1 : k < l
  · rw [if_pos h1, if_pos h1, if_pos h1]
  · rw [if_neg h1, if_neg h1]
    by_cases h2 : k < l + xs.length
    · rw [if_pos h2, if_pos (by omega)]
    · rw [if_neg h2, if_neg (by omega)]
      by_cases h3 : k < l + xs.length + r
      · rw [if_pos h3, if_pos (by omega)]
      · rw [if_neg h3, if_neg (by omega)]

/-- `pad_tensor`'s amounts as natural numbers (both `0` when the list is already longer than the target) -/
theorem padTo_eq {α} (fill : α) (N : Nat) (xs : List α) :
    padTo fill N xs = fPad fill ((N - xs.length) / 2) (N - xs.length - (N - xs.length) / 2) xs := by
  unfold padTo padAfter padBefore
  congr 1 <;> omega

theorem padTo_length {α} (fill : α) (N : Nat) (xs : List α) : (padTo fill N xs).length = max xs.length N := by
  rw [padTo_eq, fPad_length]
  omega

end DirectVerif.C10
