import DirectVerif.Lemmas.C04Loops
import DirectVerif.Lemmas.C04Interior
import DirectVerif.Lemmas.C04Poisson
import DirectVerif.Model.C04PoissonGen
import DirectVerif.Model.C04Tables
import DirectVerif.Lemmas.C04Circus
/-!
# C04 — every mask generator returns a boolean mask of the documented geometry

`assemble g m shape spec returnAcs interior` (`Model/MaskGeom.lean`) is `mask_func(shape, return_acs)` of generator `g` in
mode `m` through `__call__`, the random / rasterised interior being an arbitrary frame-indexed boolean array: statements
hold for every draw.  The loops that decide whether a generator returns (Gaussian rejection, VD-Poisson bisection, CIRCUS
disc search), the integer interiors (`Model/MaskInterior.lean`) and `_poisson.pyx` (`Model/C04Poisson.lean`) are separate
models.  Tie to the code: `Bridge/C04.lean` and the correspondence check.
-/
namespace DirectVerif.C04
open DirectVerif DirectVerif.MaskGeom

/-- numpy broadcasting of a tensor of shape `a` against one of shape `b` of equal rank -/
def Broadcasts (a b : List Nat) : Prop :=
  a.length = b.length ∧ ∀ (i x y : Nat), a[i]? = some x → b[i]? = some y → x = 1 ∨ x = y

theorem mask_shape_static (pre : List Nat) (rows cols last : Nat) :
    maskShape .static (pre ++ [rows, cols, last]) = 1 :: (List.replicate pre.length 1 ++ [rows, cols, 1]) := by
  unfold maskShape; rw [maskShapeNoCoil_static]

theorem mask_shape_framed (m : Mode) (hm : m.framed = true) (pre : List Nat) (frames rows cols last : Nat) :
    maskShape m (pre ++ [frames, rows, cols, last]) =
      1 :: (List.replicate pre.length 1 ++ [frames, rows, cols, 1]) := by
  unfold maskShape; rw [maskShapeNoCoil_framed m hm]

theorem admissible_static (shape : List Nat) (h : 3 ≤ shape.length) :
    ∃ pre rows cols last, shape = pre ++ [rows, cols, last] := rank_decomp3 shape h

theorem admissible_framed (shape : List Nat) (h : 4 ≤ shape.length) :
    ∃ pre frames rows cols last, shape = pre ++ [frames, rows, cols, last] := rank_decomp4 shape h

theorem broadcasts_cons {x c : Nat} {s t : List Nat} (h : Broadcasts s t) (hx : x = 1 ∨ x = c) :
    Broadcasts (x :: s) (c :: t) := by
  refine ⟨congrArg (· + 1) h.1, fun i a b ha hb => ?_⟩
  cases i with
  | zero =>
    rw [List.getElem?_cons_zero, Option.some.injEq] at ha hb
    subst ha hb
    exact hx
  | succ i => exact h.2 i a b ha hb

theorem broadcasts_ones_append (pre s t : List Nat) (h : Broadcasts s t) :
    Broadcasts (List.replicate pre.length 1 ++ s) (pre ++ t) := by
  induction pre with
  | nil => exact h
  | cons p ps ih => exact broadcasts_cons ih (Or.inl rfl)

theorem broadcasts_last_one (xs : List Nat) (c : Nat) : Broadcasts (xs ++ [1]) (xs ++ [c]) := by
  induction xs with
  | nil => exact broadcasts_cons ⟨rfl, fun i x y h => by cases h⟩ (Or.inl rfl)
  | cons x xs ih => exact broadcasts_cons ih (Or.inr rfl)

theorem mask_shape_broadcasts (m : Mode) (shape : List Nat) (coil : Nat)
    (hr : neededRank m ≤ shape.length) : Broadcasts (maskShape m shape) (coil :: shape) := by
  cases hm : m.framed with
  | false =>
    obtain rfl : m = .static := by cases m <;> simp [Mode.framed] at hm ⊢
    obtain ⟨pre, a, b, c, rfl⟩ := admissible_static shape (by simpa [neededRank, Mode.framed] using hr)
    rw [mask_shape_static]
    exact broadcasts_cons (broadcasts_ones_append pre _ _ (broadcasts_last_one [a, b] c)) (Or.inl rfl)
  | true =>
    obtain ⟨pre, f, a, b, c, rfl⟩ := admissible_framed shape (by simpa [neededRank, hm] using hr)
    rw [mask_shape_framed m hm]
    exact broadcasts_cons (broadcasts_ones_append pre _ _ (broadcasts_last_one [f, a, b] c)) (Or.inl rfl)

/-- **C04 shape contract**: when the call returns, the tensor has the documented shape, its data fill it, and it
broadcasts against `(coil, *shape)` — any generator, mode, shape, branch, interior. -/
theorem shape_contract (g : Gen) (m : Mode) (shape : List Nat) (spec : AcsSpec) (racs : Bool)
    (interior : List (List Bool)) (t : Tensor Bool) (h : assemble g m shape spec racs interior = .ok t) :
    t.shape = maskShape m shape ∧ t.data.length = prod t.shape ∧
    ∀ coil, Broadcasts t.shape (coil :: shape) := by
  obtain ⟨_, _, hs, _, hr, hl⟩ := assemble_ok g m shape spec racs interior t h
  refine ⟨hs, ?_, ?_⟩
  · rw [hs, hl]; unfold maskShape; rw [TensorLift.prod_cons]; omega
  · intro coil; rw [hs]; exact mask_shape_broadcasts m shape coil hr

theorem mask_numel_static (pre : List Nat) (rows cols last : Nat) :
    prod (maskShape .static (pre ++ [rows, cols, last])) = rows * cols := by
  unfold maskShape; rw [TensorLift.prod_cons, prod_maskShapeNoCoil_static]; omega

theorem mask_numel_framed (m : Mode) (hm : m.framed = true) (pre : List Nat) (frames rows cols last : Nat) :
    prod (maskShape m (pre ++ [frames, rows, cols, last])) = frames * rows * cols := by
  unfold maskShape; rw [TensorLift.prod_cons, prod_maskShapeNoCoil_framed m hm]; omega

theorem assemble_returns (g : Gen) (m : Mode) (shape : List Nat) (spec : AcsSpec) (racs : Bool)
    (interior : List (List Bool)) (hc : callRejects m.framed shape.length = false)
    (hk : g.isKt = true → shape.length = 4 ∨ shape.length = 5)
    (hF : interior.length = framesOf m shape)
    (hlen : ∀ p ∈ interior, p.length = patLen g.family (rowsOf shape) (colsOf shape))
    (hacs : ∀ p ∈ interior, (acsFrame g.family (rowsOf shape) (colsOf shape) spec p).isSome) :
    ∃ t, assemble g m shape spec racs interior = .ok t := by
  have hrank : neededRank m ≤ shape.length := by
    unfold callRejects at hc; unfold neededRank
    cases hm : m.framed <;> simp [hm] at hc ⊢ <;> omega
  have hkt : (if g.isKt = true then ktGuard shape.length else Except.ok ()) = Except.ok () := by
    by_cases hkk : g.isKt = true
    · simp [hkk, ktGuard, hk hkk]
    · simp [hkk]
  have hflat : (interior.map fun p => frameData g.family (rowsOf shape)
        (framePattern racs p ((acsFrame g.family (rowsOf shape) (colsOf shape) spec p).getD []))).flatten.length =
      prod (maskShapeNoCoil m shape) := by
    rw [length_flatten_uniform _ (rowsOf shape * colsOf shape), List.length_map, hF, prod_maskShapeNoCoil m shape hrank]
    intro x hx
    obtain ⟨p, hp, rfl⟩ := List.mem_map.mp hx
    exact assembledFrame_length _ _ _ _ _ p (hlen p hp) (hacs p hp)
  unfold assemble callGuard assembleFrames reshapeAndAddCoil
  rw [if_neg (by simp [hc]), hkt]
  dsimp only
  rw [if_pos (List.all_eq_true.mpr hacs)]
  dsimp only
  rw [if_neg (by omega), if_neg (by rw [List.length_map, hflat]; exact fun h => h rfl)]
  exact ⟨_, rfl⟩

/-- FastMRI*/Cartesian* × Random/Equispaced/Magic, Gaussian1D -/
theorem line_generator_returns (g : Gen) (hg : g.family = .line) (m : Mode) (shape : List Nat) (l : Int) (racs : Bool)
    (interior : List (List Bool)) (hc : callRejects m.framed shape.length = false)
    (hF : interior.length = framesOf m shape) (hlen : ∀ p ∈ interior, p.length = colsOf shape) :
    ∃ t, assemble g m shape (.lines l) racs interior = .ok t := by
  apply assemble_returns g m shape (.lines l) racs interior hc ?_ hF
  · intro p hp; rw [hg]; exact hlen p hp
  · intro p _; rw [hg]; simp [acsFrame]
  · intro hk; cases g <;> simp [Gen.family, Gen.isKt] at hg hk

/-- Gaussian2D, Radial, Spiral, VariableDensityPoisson -/
theorem disc_generator_returns (g : Gen) (hg : g.family = .disc) (hk : g.isKt = false) (m : Mode) (shape : List Nat)
    (radius : Int) (racs : Bool) (interior : List (List Bool)) (hc : callRejects m.framed shape.length = false)
    (hF : interior.length = framesOf m shape) (hlen : ∀ p ∈ interior, p.length = rowsOf shape * colsOf shape) :
    ∃ t, assemble g m shape (.disc radius) racs interior = .ok t := by
  apply assemble_returns g m shape (.disc radius) racs interior hc ?_ hF
  · intro p hp; rw [hg]; exact hlen p hp
  · intro p _; rw [hg]; simp [acsFrame]
  · intro h; rw [hk] at h; cases h

/-- **C04 per-frame pattern**: frame `f` of the data is built from `interior[f]` alone. -/
theorem per_frame_pattern (g : Gen) (m : Mode) (shape : List Nat) (spec : AcsSpec) (racs : Bool)
    (interior : List (List Bool)) (t : Tensor Bool) (h : assemble g m shape spec racs interior = .ok t)
    (hlen : ∀ p ∈ interior, p.length = patLen g.family (rowsOf shape) (colsOf shape))
    (f : Nat) (hf : f < interior.length) (k : Nat) (hk : k < rowsOf shape * colsOf shape) :
    t.data[f * (rowsOf shape * colsOf shape) + k]? =
      (frameData g.family (rowsOf shape) (framePattern racs interior[f]
        ((acsFrame g.family (rowsOf shape) (colsOf shape) spec interior[f]).getD [])))[k]? := by
  obtain ⟨_, hsome, _, hd, _, _⟩ := assemble_ok g m shape spec racs interior t h
  rw [hd, getElem?_flatten_uniform _ (rowsOf shape * colsOf shape) ?_ f k hk]
  · rw [List.getElem?_map, List.getElem?_eq_getElem hf]; rfl
  · intro x hx
    obtain ⟨p, hp, rfl⟩ := List.mem_map.mp hx
    exact assembledFrame_length _ _ _ _ _ p (hlen p hp) (hsome p hp)

theorem row_cell (g : Gen) (hg : g.family ≠ .disc) (m : Mode) (shape : List Nat) (spec : AcsSpec) (racs : Bool)
    (interior : List (List Bool)) (t : Tensor Bool) (h : assemble g m shape spec racs interior = .ok t)
    (hlen : ∀ p ∈ interior, p.length = colsOf shape)
    (f : Nat) (hf : f < interior.length) (r c : Nat) (hr : r < rowsOf shape) (hc : c < colsOf shape) :
    ∃ a, acsFrame g.family (rowsOf shape) (colsOf shape) spec interior[f] = some a ∧ a.length = colsOf shape ∧
      t.data[f * (rowsOf shape * colsOf shape) + (r * colsOf shape + c)]? = (framePattern racs interior[f] a)[c]? := by
  have hpl : patLen g.family (rowsOf shape) (colsOf shape) = colsOf shape := by
    cases hf' : g.family <;> simp [patLen, hf'] at hg ⊢
  have hlen' : ∀ p ∈ interior, p.length = patLen g.family (rowsOf shape) (colsOf shape) := by
    intro p hp; rw [hpl]; exact hlen p hp
  obtain ⟨_, hsome, _, _, _, _⟩ := assemble_ok g m shape spec racs interior t h
  obtain ⟨a, ea⟩ := Option.isSome_iff_exists.mp (hsome _ (List.getElem_mem hf))
  have hal : a.length = colsOf shape := by
    rw [acsFrame_length _ _ _ _ _ a (hlen' _ (List.getElem_mem hf)) ea, hpl]
  have hpat : (framePattern racs interior[f] a).length = colsOf shape := by
    rw [framePattern_length racs _ a (by rw [hal, hlen _ (List.getElem_mem hf)]), hal]
  refine ⟨a, ea, hal, ?_⟩
  rw [per_frame_pattern g m shape spec racs interior t h hlen' f hf _ (cell_lt _ _ r c hr hc), ea, Option.getD_some,
    frameData_cell _ hg _ _ _ hpat r c hr hc]

theorem line_cell (g : Gen) (hg : g.family = .line) (m : Mode) (shape : List Nat) (l : Int)
    (interior : List (List Bool)) (t : Tensor Bool) (h : assemble g m shape (.lines l) false interior = .ok t)
    (hlen : ∀ p ∈ interior, p.length = colsOf shape)
    (f : Nat) (hf : f < interior.length) (r c : Nat) (hr : r < rowsOf shape) (hc : c < colsOf shape) :
    t.data[f * (rowsOf shape * colsOf shape) + (r * colsOf shape + c)]? =
      some (interior[f].getD c false || (centerMask (colsOf shape) l).getD c false) := by
  obtain ⟨a, ea, hal, h1⟩ := row_cell g (by rw [hg]; decide) m shape _ _ interior t h hlen f hf r c hr hc
  rw [hg] at ea
  obtain rfl : centerMask (colsOf shape) l = a := Option.some.inj ea
  rw [h1]
  exact getElem?_orL _ _ c (by rw [hlen _ (List.getElem_mem hf)]; exact hc) (by rw [hal]; exact hc)

/-- **C04: line generators sample whole columns** (line and Kt-line families, both branches). -/
theorem rows_identical (g : Gen) (hg : g.family ≠ .disc) (m : Mode) (shape : List Nat) (spec : AcsSpec) (racs : Bool)
    (interior : List (List Bool)) (t : Tensor Bool) (h : assemble g m shape spec racs interior = .ok t)
    (hlen : ∀ p ∈ interior, p.length = colsOf shape)
    (f : Nat) (hf : f < interior.length) (r r' c : Nat) (hr : r < rowsOf shape) (hr' : r' < rowsOf shape)
    (hc : c < colsOf shape) :
    t.data[f * (rowsOf shape * colsOf shape) + (r * colsOf shape + c)]? =
      t.data[f * (rowsOf shape * colsOf shape) + (r' * colsOf shape + c)]? := by
  obtain ⟨a, ea, _, h1⟩ := row_cell g hg m shape spec racs interior t h hlen f hf r c hr hc
  obtain ⟨a', ea', _, h2⟩ := row_cell g hg m shape spec racs interior t h hlen f hf r' c hr' hc
  obtain rfl : a = a' := Option.some.inj (ea.symm.trans ea')
  rw [h1, h2]

/-- what `assemblyTableOk` (decided on the extracted table: `Bridge.C04.assembly_table_ok`) buys -/
theorem assembly_table_sound (tbl : List (String × BExp × BExp)) (h : assemblyTableOk tbl = true) (g : Gen)
    (hg : g ∈ Gen.all) : ∃ m a, tbl.lookup g.name = some (m, a) ∧
      ∀ acs draw other cond : Bool,
        m.eval acs draw other cond = (framePattern false [draw] [acs]).getD 0 false ∧
        a.eval acs draw other cond = (framePattern true [draw] [acs]).getD 0 false := by
  unfold assemblyTableOk at h
  have hg' := List.all_eq_true.mp h g hg
  cases hl : tbl.lookup g.name with
  | none => simp [hl] at hg'
  | some ma =>
    refine ⟨ma.1, ma.2, rfl, fun acs draw other cond => ?_⟩
    have hall : ∀ p : Bool → Bool, allBool p = true → ∀ b, p b = true := by
      intro p hp b
      unfold allBool at hp
      cases b
      · exact (Bool.and_eq_true_iff.mp hp).1
      · exact (Bool.and_eq_true_iff.mp hp).2
    simp only [hl] at hg'
    have := hall _ (hall _ (hall _ (hall _ hg' acs) draw) other) cond
    simpa [framePattern, orL] using this

/-- what `classTableOk` (`Bridge.C04.class_table_ok`, over *all* classes deriving from `BaseMaskFunc`) buys: the 14
generators return only through the reshape wrapper; any class that does not is declared out of scope -/
theorem class_table_sound (tbl : List (String × Bool)) (h : C04Tables.classTableOk tbl = true) :
    (∀ g ∈ Gen.all, tbl.lookup (g.name ++ "MaskFunc") = some true) ∧
    (∀ r ∈ tbl, r.2 = false → r.1 ∈ C04Tables.outOfScope) := by
  unfold C04Tables.classTableOk at h
  simp only [Bool.and_eq_true, List.all_eq_true] at h
  constructor
  · intro g hg
    have := h.1 (g.name ++ "MaskFunc") (by unfold C04Tables.inScope; exact List.mem_map.mpr ⟨g, hg, rfl⟩)
    simpa using this
  · intro r hr hf
    have := h.2 r hr
    simp only [hf, Bool.false_or] at this
    exact List.contains_iff_mem.mp this

/-- a well-formed state table has no write outside construction -/
theorem state_table_sound (tbl : List C04Tables.StateRow) (h : C04Tables.stateTableOk tbl = true) :
    ∀ r ∈ tbl, r.2.2.2 = true := by
  unfold C04Tables.stateTableOk at h
  exact List.all_eq_true.mp h

theorem call_rejects_low_rank (g : Gen) (m : Mode) (shape : List Nat) (spec : AcsSpec) (racs : Bool)
    (interior : List (List Bool)) (h : shape.length < 3) :
    assemble g m shape spec racs interior = .error .valueError := by
  unfold assemble callGuard callRejects
  have : ((shape.length : Int) < 3) := by omega
  simp [this]

theorem call_rejects_framed_rank3 (g : Gen) (m : Mode) (hm : m.framed = true) (shape : List Nat) (spec : AcsSpec)
    (racs : Bool) (interior : List (List Bool)) (h : shape.length < 4) :
    assemble g m shape spec racs interior = .error .valueError := by
  unfold assemble callGuard callRejects
  have : ((shape.length : Int) < 4) := by omega
  simp [this, hm]

theorem kt_rejects_rank (g : Gen) (hk : g.isKt = true) (m : Mode) (shape : List Nat) (spec : AcsSpec)
    (racs : Bool) (interior : List (List Bool)) (h : shape.length ≠ 4 ∧ shape.length ≠ 5) :
    assemble g m shape spec racs interior = .error .valueError := by
  unfold assemble callGuard
  by_cases hc : callRejects m.framed shape.length = true
  · rw [if_pos hc]
  · have : ¬ (shape.length = 4 ∨ shape.length = 5) := by omega
    simp [hc, hk, ktGuard, this]

theorem reshape_rejects_wrong_size (m : Mode) (mask : Tensor Int) (shape : List Nat)
    (hr : neededRank m ≤ shape.length) (h : mask.data.length ≠ prod (maskShapeNoCoil m shape)) :
    reshapeAndAddCoil m mask shape = .error .runtimeError := by
  unfold reshapeAndAddCoil
  have : ¬ shape.length < neededRank m := by omega
  simp [this, h]

/-- `_broadcast_mask` accepts exactly 1-D and 2-D inputs -/
theorem broadcast_rejects_rank (t : Tensor Int) (rows : Nat) (h : t.shape.length ≠ 1 ∧ t.shape.length ≠ 2) :
    broadcastRows t rows = .error .valueError := by
  unfold broadcastRows
  match hs : t.shape with
  | [] => rfl
  | [_] => simp [hs] at h
  | [_, _] => simp [hs] at h
  | _ :: _ :: _ :: _ => rfl

theorem broadcast_rows_1d (n rows : Nat) (data : List Int) (hn : data.length = n) (r c : Nat) (hr : r < rows) (hc : c < n) :
    ∃ t, broadcastRows ({ shape := [n], data := data } : Tensor Int) rows = .ok t ∧ t.shape = [rows, n] ∧
      t.data[r * n + c]? = data[c]? := by
  refine ⟨_, rfl, rfl, ?_⟩
  have := getElem?_tileRows rows data r c hr (by omega)
  rw [hn] at this
  exact this

/-- `need = nonzero_count + 1` -/
theorem gaussian_loop_adds_exactly (need : Nat) (mask : List Bool) (cands : List Int)
    (h : (gaussLoop need mask cands).2 = 0) :
    (gaussLoop need mask cands).1.count true = mask.count true + need ∧
    (gaussLoop need mask cands).1.length = mask.length ∧
    ∀ i, mask.getD i false = true → (gaussLoop need mask cands).1.getD i false = true := by
  fun_induction gaussLoop need mask cands with
  | case1 => exact ⟨rfl, rfl, fun _ hi => hi⟩
  | case2 => cases h
  | case3 need mask c cs hacc ih =>
    obtain ⟨h1, h2, h3⟩ := ih h
    refine ⟨?_, ?_, fun i hi => h3 i (getD_set_mono mask c.toNat i hi)⟩
    · rw [h1, count_set_true mask c.toNat true (by omega) hacc.2.2]; omega
    · rw [h2, List.length_set]
  | case4 need mask c cs hrej ih => exact ih h

/-- **C04 termination of `gaussian_mask_1d/2d`**; `fair`: every cell keeps being proposed … -/
theorem gaussian_loop_terminates (stream : Nat → Int) (mask : List Bool) (need : Nat)
    (fair : ∀ k i, i < mask.length → ∃ j, k ≤ j ∧ stream j = (i : Int))
    (h : need ≤ freeCount mask) :
    ∃ fuel, (gaussLoop need mask ((List.range fuel).map stream)).2 = 0 := by
  obtain ⟨fuel, hf⟩ := gaussLoop_terminates stream mask.length fair need mask rfl h 0
  exact ⟨fuel, by rw [List.range_eq_range']; exact hf⟩

/-- … and only then: otherwise the real loop does not return -/
theorem gaussian_loop_stuck_if_infeasible (need : Nat) (mask : List Bool) (cands : List Int)
    (h : freeCount mask < need) : (gaussLoop need mask cands).2 ≠ 0 := by
  fun_induction gaussLoop need mask cands with
  | case1 => cases h
  | case2 => exact Nat.succ_ne_zero _
  | case3 need mask c cs hacc ih =>
    apply ih
    have := count_set_false mask c.toNat true (by omega) hacc.2.2
    unfold freeCount at h ⊢
    omega
  | case4 need mask c cs hrej ih => exact ih h

/-- `Gaussian1DMaskFunc` requests `round(n/R − l − 1) + 1 ≤ n − l` cells for `R ≥ 1`; only the integer step from there
is stated here -/
theorem gaussian1d_request_fits (n l need : Nat) (hl : l ≤ n) (h : need ≤ n - l) :
    need ≤ freeCount (centerMask n l) := by
  unfold freeCount
  have h1 := count_true_add_false (centerMask n l)
  rw [count_centerMask n l hl, length_centerMask] at h1
  omega

/-- the repaired loop; measure: grid points strictly between `lo` and `hi` -/
theorem bisection_terminates (mid : Nat → Nat → Nat)
    (hmid : ∀ lo hi, lo < hi → lo ≤ mid lo hi ∧ mid lo hi ≤ hi) (f : Nat → Verdict) (fuel lo hi : Nat)
    (h : hi - lo < fuel) : bisect mid f fuel lo hi ≠ .outOfFuel := by
  fun_induction bisect mid f fuel lo hi with
  | case1 => omega
  | case2 => exact BisectResult.noConfusion
  | case3 => exact BisectResult.noConfusion
  | case4 fuel lo hi hlt m hv hne ih => have := hmid lo hi hlt; exact ih (by omega)
  | case5 => exact BisectResult.noConfusion
  | case6 fuel lo hi hlt m hv hne ih => have := hmid lo hi hlt; exact ih (by omega)
  | case7 => exact BisectResult.noConfusion

/-- a mask is returned only within the tolerance; otherwise the documented `ValueError` -/
theorem bisection_post (mid : Nat → Nat → Nat) (f : Nat → Verdict) (fuel lo hi : Nat) :
    (∃ p, bisect mid f fuel lo hi = .returned p ∧ f p = .within) ∨
    bisect mid f fuel lo hi = .valueError ∨ bisect mid f fuel lo hi = .outOfFuel := by
  fun_induction bisect mid f fuel lo hi with
  | case1 => exact Or.inr (Or.inr rfl)
  | case2 fuel lo hi hlt m hv => exact Or.inl ⟨m, rfl, hv⟩
  | case3 => exact Or.inr (Or.inl rfl)
  | case4 fuel lo hi hlt m hv hne ih => exact ih
  | case5 => exact Or.inr (Or.inl rfl)
  | case6 fuel lo hi hlt m hv hne ih => exact ih
  | case7 => exact Or.inr (Or.inl rfl)

theorem bisection_returns_or_raises (mid : Nat → Nat → Nat)
    (hmid : ∀ lo hi, lo < hi → lo ≤ mid lo hi ∧ mid lo hi ≤ hi) (f : Nat → Verdict) (lo hi : Nat) :
    (∃ p, bisect mid f (hi - lo + 1) lo hi = .returned p ∧ f p = .within) ∨
    bisect mid f (hi - lo + 1) lo hi = .valueError := by
  rcases bisection_post mid f (hi - lo + 1) lo hi with h | h | h
  · exact Or.inl h
  · exact Or.inr h
  · exact absurd h (bisection_terminates mid hmid f _ lo hi (by omega))

/-- the pinned tree's loop (no stop when the midpoint equals an end point) spins on two adjacent floats where the
repaired loop raises -/
theorem bisection_pinned_violates :
    (∀ fuel, bisectPinned (fun lo hi => (lo + hi) / 2) (fun _ => .below) fuel 0 1 = .outOfFuel) ∧
    bisect (fun lo hi => (lo + hi) / 2) (fun _ => .below) 2 0 1 = .valueError :=
  ⟨bisectPinned_spins _ _ 0 1 (by omega) rfl rfl, by decide⟩

/-- exit test of `circular_centered_mask`: `|disc| / |disc ∩ mask| > 1.1`, i.e. more than 1/11 of the disc unsampled -/
theorem circus_disc_returns_iff (rows cols : Nat) (mask : List Bool) (thr : List Int) :
    (circusDisc rows cols mask thr).isSome ↔
      ∃ t ∈ thr, 10 * (diskLe rows cols t).count true > 11 * (andL (diskLe rows cols t) mask).count true := by
  rw [Option.isSome_iff_ne_none, Ne, circusDisc_none_iff]
  simp only [Classical.not_forall, Classical.not_not, exists_prop]

/-- **the search returns promptly**: with fewer than 10/11 of the cells sampled (every CIRCUS pattern of acceleration
≥ 1.1) it has returned by the first radius reaching the far corner, i.e. after at most `10·√((rows/2)² + (cols/2)²)`
increments of `eps = 0.1`.  Converse boundary: `C06.circus_disc_full_never_returns`. -/
theorem circus_disc_returns_promptly (rows cols : Nat) (mask : List Bool) (thr : List Int) (n : Nat)
    (hlen : mask.length = rows * cols) (hfar : ∃ t ∈ thr.take n, farSq rows cols ≤ t)
    (hsparse : 11 * mask.count true < 10 * (rows * cols)) :
    ∃ r, circusDisc rows cols mask thr = some r ∧ circusDisc rows cols mask (thr.take n) = some r := by
  have h := circusDisc_returns_of_sparse rows cols mask (thr.take n) hlen hfar hsparse
  obtain ⟨r, hr⟩ := Option.isSome_iff_exists.mp h
  exact ⟨r, by rw [circusDisc_take rows cols mask thr n h, hr], hr⟩

/-- non-vacuity -/
example : ∃ r, circusDisc 3 3 [false, false, false, false, true, false, false, false, false] [1, 1, 2, 3] = some r ∧
    circusDisc 3 3 [false, false, false, false, true, false, false, false, false] ([1, 1, 2, 3].take 3) = some r :=
  circus_disc_returns_promptly 3 3 _ _ 3 rfl ⟨2, by decide, by decide⟩ (by decide)

/-- `linear_indices_to_2d_coordinates` (1-based `x ∈ [1, row]`) -/
theorem kt_linear2d_grid (n x y : Int) (hn : 0 < n) (hx1 : 1 ≤ x) (hxn : x ≤ n) :
    linear2d ((y - 1) * n + x) n = (x, y) := linear2d_grid n x y hn hx1 hxn

/-- `resolve_duplicates_on_kt_grid` moves duplicates, drops and adds none -/
theorem kt_resolve_keeps_count (phase time : List Int) (ny nt : Nat) (p t : List Int)
    (h : resolveDuplicates phase time ny nt = some (p, t)) :
    p.length = min phase.length time.length ∧ t.length = min phase.length time.length := by
  unfold resolveDuplicates at h
  simp only [] at h
  split at h
  · cases h
  · rename_i traj' hr
    simp only [Option.some.injEq, Prod.mk.injEq] at h
    have hl := relocate_length _ _ _ _ _ hr
    rw [← h.1, ← h.2]
    simp [hl]

theorem kt_resolve_identity_of_nodup (phase time : List Int) (ny nt : Nat)
    (h : (List.zipWith (trajIndex ny nt) phase time).Nodup) :
    resolveDuplicates phase time ny nt =
      some (((List.zipWith (trajIndex ny nt) phase time).map fun v => (linear2d v ny).1 - halfUp ny),
            ((List.zipWith (trajIndex ny nt) phase time).map fun v => (linear2d v ny).2 - halfUp nt)) :=
  resolveDuplicates_of_nodup phase time ny nt h

/-- **KtUniform**: the detour of the Toeplitz indices `ind` through `(ph, ti)`, `resolve_duplicates_on_kt_grid` and back
yields `inds = ind`: nothing is `< 0`, and `inds <= 0` happens exactly for the legitimate sample `ind = 0` — which the clamp
`inds[inds <= 0] = 1` then misplaces. -/
theorem kt_uniform_inds_eq_flat (n nt : Nat) (hn : 0 < n) (ind : List Int) (hnd : ind.Nodup) :
    ∃ ph ti, resolveDuplicates (ind.map fun f => f % n - ((n / 2 : Nat) : Int))
        (ind.map fun f => f / n - ((nt / 2 : Nat) : Int)) n nt = some (ph, ti) ∧ ktInds n nt ph ti = ind := by
  have htraj : List.zipWith (trajIndex n nt) (ind.map fun f => f % n - ((n / 2 : Nat) : Int))
      (ind.map fun f => f / n - ((nt / 2 : Nat) : Int)) = ind.map (· + 1) := by
    rw [List.zipWith_map_left, List.zipWith_map_right, List.zipWith_self]
    apply List.map_congr_left
    intro f _
    exact trajIndex_flat n nt f
  have hnd' : (ind.map (· + 1)).Nodup := by
    unfold List.Nodup at hnd ⊢
    exact List.Pairwise.map _ (fun a b hab => by omega) hnd
  rw [resolveDuplicates_of_nodup _ _ _ _ (by rw [htraj]; exact hnd'), htraj]
  refine ⟨_, _, rfl, ?_⟩
  unfold ktInds
  simp only [List.map_map, List.zipWith_map_left, List.zipWith_map_right, List.zipWith_self]
  conv => rhs; rw [← List.map_id ind]
  apply List.map_congr_left
  intro f _
  simp only [Function.comp, linear2d_flat n hn f, halfUp_cast, id]
  have := Int.mul_ediv_add_emod f n
  have e : (n : Int) * (f / n + 1 - (((nt / 2 : Nat) : Int) + 1) + ((nt / 2 : Nat) : Int)) = (n : Int) * (f / n) := by
    rw [show f / n + 1 - (((nt / 2 : Nat) : Int) + 1) + ((nt / 2 : Nat) : Int) = f / n by omega]
  rw [e]; omega

/-- the clamp as coded (N = 4, nt = 2, combs `[0, 2]` / `[0]`): column 0 of frame 0 is dropped, column 0 of frame 1 set -/
theorem kt_uniform_clamp_misplaces_origin :
    (ktUniformFlat false 4 2 [0, 2] [0]).map (ktUniformFrames 4 2) =
      some [[true, false, true, false], [false, true, false, true]] ∧
    (ktUniformFlat true 4 2 [0, 2] [0]).map (ktUniformFrames 4 2) =
      some [[false, false, true, false], [true, true, false, true]] := by decide

/-- … and when that cell is already sampled the frame loses a sample -/
theorem kt_uniform_clamp_loses_sample :
    ((ktUniformFlat false 4 2 [0, 2] [0, 1]).map fun f => f.count true) = some 5 ∧
    ((ktUniformFlat true 4 2 [0, 2] [0, 1]).map fun f => f.count true) = some 4 := by decide

/-- CIRCUS: every `indices_idx ∈ [0, K)`, `K = 4 (J − 1)`, `J = side − 2 sq`, addresses a cell of the square array -/
theorem circus_square_perimeter (side sq : Nat) (h : 2 * sq + 2 ≤ side) :
    (squareOrdered side sq).length = 4 * (side - 2 * sq - 1) ∧
    ∀ rc ∈ squareOrdered side sq, rc.1 < side ∧ rc.2 < side := by
  constructor
  · unfold squareOrdered
    simp only [List.length_append, List.length_map, upRange, downRange, List.length_range]
    omega
  · intro rc hm
    unfold squareOrdered at hm
    simp only [List.mem_append, List.mem_map, mem_upRange, mem_downRange] at hm
    rcases hm with ((⟨c, hc, rfl⟩ | ⟨r, hr, rfl⟩) | ⟨c, hc, rfl⟩) | ⟨r, hr, rfl⟩ <;> dsimp only <;> omega

/-- `_poisson.pyx` (known finding generator-crashes/VariableDensityPoisson/active-list-overrun): radius 1, cell (0,0)
sampled, candidate (0.8, 0.8) is accepted (distance² 1.28 ≥ 1) into the sampled cell `int(q) = (0,0)` … -/
theorem poisson_accepts_occupied_cell :
    poissonAccept 2 2 10 10 [true, false, false, false] 8 8 = true ∧
    [true, false, false, false].getD (poissonCell 2 10 8 8) false = true := by decide

/-- … so `num_actives` passes the capacity `nx·ny` of `pxs/pys`: the kernel writes `pxs[4]` on a 2 × 2 grid -/
theorem poisson_active_list_overrun_witness :
    poissonOverrun 2 2 (poissonRun false 2 2 10 10 { mask := [false, false, false, false], actives := [(0, 0)] }
      [(0, some (8, 8)), (0, some (8, 8)), (0, some (8, 8)), (0, some (8, 8))]) = true := by decide

/-- why the code clips the radii at one pixel (`Bridge.C04.poisson_radius_floor_eq`): from √2 pixels on an accepted
candidate always samples a new cell … -/
theorem poisson_large_radius_safe (nx ny : Nat) (den r : Int) (hden : 0 < den) (hr : 2 * (den * den) ≤ r * r)
    (mask : List Bool) (qx qy : Int) (h : poissonAccept nx ny den r mask qx qy = true) :
    mask.getD (poissonCell ny den qx qy) false = false := by
  obtain ⟨hx0, hy0, _, hcy, hk⟩ := poissonAccept_cell nx ny den r hden mask qx qy h
  unfold poissonAccept at h
  simp only [Bool.and_eq_true, List.all_eq_true, List.mem_range, Bool.not_eq_true', Bool.and_eq_false_iff,
    decide_eq_false_iff_not] at h
  -- the kernel's test for the candidate's own cell: free, or a radius away from its corner …
  rcases h.2 _ hk with hfree | hfar
  · exact hfree
  · -- … but the corner is less than a pixel away along both axes
    exfalso
    apply hfar
    unfold poissonCell
    rw [(div_mod_cell ny _ _ hcy).1, (div_mod_cell ny _ _ hcy).2]
    have fx := frac_sq_lt qx den hden hx0
    have fy := frac_sq_lt qy den hden hy0
    omega

/-- … while below one pixel (0.3: the short axis of a non-square k-space without the clip) a candidate stays in the
sampled cell and is accepted again and again -/
theorem poisson_subpixel_radius_overrun_witness :
    poissonOverrun 1 2 (poissonRun false 1 2 10 3 { mask := [true, false], actives := [(0, 0)] }
      [(0, some (4, 4)), (0, some (4, 4)), (0, some (4, 4))]) = true := by decide

/-- with the suggested guard `num_actives ≤ #sampled + 1`; `_partial`: the initial point is not marked, so capacity
`nx·ny` is still one short in the worst case -/
theorem poisson_guard_bound_partial (nx ny : Nat) (den r : Int) (hden : 0 < den)
    (evs : List (Nat × Option (Int × Int))) (p0 : Nat × Nat) :
    (poissonRun true nx ny den r { mask := List.replicate (nx * ny) false, actives := [p0] } evs).actives.length
      ≤ nx * ny + 1 :=
  poissonRun_guard_invariant nx ny den r hden evs _ (by simp) (by simp)

/-! ## `_poisson.pyx`: the bit-exact kernel model (`Model/C04Poisson.lean`)

`kernel env fuel` is one call `poisson(nx, ny, max_attempts, mask, radius_x, radius_y, seed)`; `env.draws` is the libc
stream after `srand(seed)`, `env.trig` the `cos`/`sin` table.  Nothing below depends on the trig values being right. -/

section PoissonKernel
open DirectVerif.C04Poisson

theorem poisson_kernel_invariant (env : Env) (fuel : Nat) (st0 : St) (h0 : init env = .ok st0) :
    Inv env (kernel env fuel).st :=
  (kernel_spec env fuel).1 st0 h0

theorem poisson_mask_shape (env : Env) (fuel : Nat) (st0 : St) (h0 : init env = .ok st0) :
    (kernel env fuel).st.mask.size = env.nx * env.ny :=
  (poisson_kernel_invariant env fuel st0 h0).maskSize

/-- the test is made on the floats `qx, qy`, the store goes to `(int(qx), int(qy))` -/
theorem poisson_written_cell_in_grid (env : Env) (px py r1 : Nat) (c s : Dy)
    (h : (attempt env px py r1 c s).inGrid = true) :
    (attempt env px py r1 c s).cx < env.nx ∧ (attempt env px py r1 c s).cy < env.ny :=
  attempt_cell_in_grid env px py r1 c s h

/-- **C04: no access outside the `nx × ny` arrays** (`mask`, `radius_x/radius_y`) -/
theorem poisson_grid_accesses_in_bounds (env : Env) (fuel : Nat) :
    (kernel env fuel).halt ≠ some .cellOutOfGrid ∧ (kernel env fuel).halt ≠ some .readOutOfGrid := by
  -- `kernel_spec` lists every way a run can stop; neither of the two out-of-grid stops is on the list
  have stops : ∀ h, (kernel env fuel).halt = some h →
      h = .outOfDraws ∨ h = .badIndex ∨ h = .desync ∨ h = .overrun ∨ h = .outOfFuel :=
    fun h e => ((kernel_spec env fuel).2.2 h e).imp_right fun r => r.imp_right fun r => r.imp_right fun r =>
      r.imp And.left And.left
  constructor
  · intro e
    have := stops _ e
    simp at this
  · intro e
    have := stops _ e
    simp at this

theorem poisson_actives_on_grid (env : Env) (fuel : Nat) (st0 : St) (h0 : init env = .ok st0)
    (j : Nat) (hj : j < (kernel env fuel).st.acts.size) :
    (kernel env fuel).st.acts[j].1 < env.nx ∧ (kernel env fuel).st.acts[j].2 < env.ny :=
  (poisson_kernel_invariant env fuel st0 h0).actsGrid j hj

/-- `stale` = candidates accepted into a cell that was already sampled; `maxna ≤ nx·ny` is the capacity of `pxs`/`pys` -/
theorem poisson_active_list_accounting (env : Env) (fuel : Nat) (st0 : St) (h0 : init env = .ok st0) :
    let st := (kernel env fuel).st
    st.acts.size + st.removals = st.accepts + 1 ∧ st.mask.count true + st.stale = st.accepts ∧
    st.iters = st.accepts + st.removals ∧ st.acts.size ≤ st.maxna ∧ st.maxna ≤ max 1 (env.nx * env.ny) := by
  have h := poisson_kernel_invariant env fuel st0 h0
  exact ⟨h.actives, h.sampled, h.iters, h.maxLe, h.maxCap⟩

/-- **when the active lists overrun** (known finding `generator-crashes/VariableDensityPoisson/active-list-overrun`):
at an accepted candidate with `num_actives = nx·ny`; the stale acceptances then make up for every removal and every
unsampled cell, minus the slot of the initial point -/
theorem poisson_overrun_condition (env : Env) (fuel : Nat) (st0 : St) (h0 : init env = .ok st0)
    (hcap : 1 ≤ env.nx * env.ny) (h : (kernel env fuel).halt = some .overrun) :
    let st := (kernel env fuel).st
    st.acts.size = env.nx * env.ny ∧ st.mask.count true + st.stale + 1 = env.nx * env.ny + st.removals ∧
    (env.nx * env.ny - st.mask.count true) + st.removals ≤ st.stale + 1 := by
  have hi := poisson_kernel_invariant env fuel st0 h0
  have hge : env.nx * env.ny ≤ (kernel env fuel).st.acts.size := by
    -- of the stops `kernel_spec` lists only `overrun` is this one, and it comes with full lists
    simpa using (kernel_spec env fuel).2.2 _ h
  -- the lists are full (the stop) and never overfull (`maxna` is capped at the capacity)
  have hsize : (kernel env fuel).st.acts.size = env.nx * env.ny :=
    Nat.le_antisymm (Nat.le_trans hi.maxLe (Nat.max_eq_right hcap ▸ hi.maxCap)) hge
  have h1 := hi.actives; have h2 := hi.sampled
  have hc : (kernel env fuel).st.mask.count true ≤ env.nx * env.ny := by
    rw [← hi.maskSize]; exact Array.count_le_size
  refine ⟨hsize, by omega, by omega⟩

/-- nothing is checked before the write `pxs[num_actives] = …` -/
theorem poisson_overrun_iff (env : Env) (st : St) (i : Nat) (o : Option (Nat × Nat)) (pos att : Nat) :
    bookkeep env st i o pos att = .error .overrun ↔ o.isSome = true ∧ env.nx * env.ny ≤ st.acts.size := by
  cases o with
  | none => simp [bookkeep]
  | some c =>
    by_cases hfull : env.nx * env.ny ≤ st.acts.size
    · simp [bookkeep, hfull]
    · by_cases hg : c.1 < env.nx ∧ c.2 < env.ny <;> simp [bookkeep, hfull, hg]

/-- one slot short even when every accepted candidate samples a new cell: 1 × 2 grid, radius 1, recorded stream of
`srand(233)` -/
def overrunFreshEnv : Env :=
  { nx := 1, ny := 2, maxAttempts := 1, rx := #[⟨1, 0⟩, ⟨1, 0⟩], ry := #[⟨1, 0⟩, ⟨1, 0⟩],
    draws := #[2119191493, 490991862, 1073400032, 143212267, 230293729, 2000467226, 206076552, 461922739],
    trig := #[(⟨11304517, -24⟩, ⟨7038722625899749, -53⟩, ⟨2810072161451269, -52⟩),
              (⟨5668645, -22⟩, ⟨489840355056453, -51⟩, ⟨8791503923649091, -53⟩)] }

theorem poisson_current_overruns_fresh :
    (kernel overrunFreshEnv 10).halt = some .overrun ∧ (kernel overrunFreshEnv 10).st.stale = 0 ∧
    (kernel overrunFreshEnv 10).st.removals = 0 := by decide +kernel

/-- … and with stale acceptances after removals: 2 × 2 grid, radius 1, `max_attempts = 10`, `srand(272)`; the 19th
attempt writes `pxs[4]` -/
def overrunStaleEnv : Env :=
  { nx := 2, ny := 2, maxAttempts := 10, rx := #[⟨1, 0⟩, ⟨1, 0⟩, ⟨1, 0⟩, ⟨1, 0⟩], ry := #[⟨1, 0⟩, ⟨1, 0⟩, ⟨1, 0⟩, ⟨1, 0⟩],
    draws := #[989179677, 1796212363, 639933494, 1174831724, 68468417, 1154851320, 367063606, 468517877, 1209813154,
      1072413098, 89939010, 2983851, 257327310, 1168910928, 379258639, 1028723530, 1835872748, 718019376, 38654896,
      2093711427, 274612389, 1535066740, 1322673789, 816706788, 1960667519, 1752444601, 2103020991, 286662702,
      222572669, 582944072, 1084297580, 1211752346, 231672787, 1724231074, 239100422, 300141204, 731598746,
      606164028, 768659081, 1941411901, 1678577127, 858598092, 1944395752, 1935904437, 2027509020, 176170743],
    trig := #[(⟨6721871, -25⟩, ⟨2206767167244393, -51⟩, ⟨7169376126566315, -55⟩),
      (⟨11499159, -23⟩, ⟨223670472767585, -50⟩, ⟨8827673287439329, -53⟩),
      (⟨13160489, -22⟩, ⟨-9007131191165135, -53⟩, ⟨4482047069350211, -60⟩),
      (⟨2343511, -28⟩, ⟨9006856004183195, -53⟩, ⟨1258146905591693, -57⟩),
      (⟨14344695, -22⟩, ⟨-8660267787174661, -53⟩, ⟨-1237881281568591, -52⟩),
      (⟨12624337, -22⟩, ⟨-8929178536298315, -53⟩, ⟨4731864886517655, -55⟩),
      (⟨8811423, -22⟩, ⟨-2276761051849829, -52⟩, ⟨121428544109859, -47⟩),
      (⟨3211713, -19⟩, ⟨8895954171432107, -53⟩, ⟨-352813494851243, -51⟩),
      (⟨2354763, -19⟩, ⟨-3949468655387785, -54⟩, ⟨-4394031825943971, -52⟩),
      (⟨2505625, -20⟩, ⟨-6577913789646005, -53⟩, ⟨6153103980154375, -53⟩),
      (⟨10752865, -21⟩, ⟨907854808504273, -51⟩, ⟨-8242719985624733, -53⟩),
      (⟨5462755, -23⟩, ⟨7163878159724009, -53⟩, ⟨2729857511264829, -52⟩),
      (⟨13306333, -22⟩, ⟨-9002903867943397, -53⟩, ⟨-8900393687738761, -58⟩),
      (⟨11372211, -24⟩, ⟨3507994400709795, -52⟩, ⟨2824249438034891, -52⟩),
      (⟨14733147, -24⟩, ⟨5751683554094929, -53⟩, ⟨6931650215364347, -53⟩),
      (⟨4716433, -21⟩, ⟨-88294797585051, -47⟩, ⟨1753520388556439, -51⟩),
      (⟨1317073, -19⟩, ⟨-7280848283586647, -53⟩, ⟨2651362229402089, -52⟩),
      (⟨11878561, -21⟩, ⟨3667877329939957, -52⟩, ⟨-163328243789589, -48⟩),
      (⟨8647761, -24⟩, ⟨7836917355935067, -53⟩, ⟨4439860895439225, -53⟩)] }

theorem poisson_current_overruns_stale :
    (kernel overrunStaleEnv 50).halt = some .overrun ∧ (kernel overrunStaleEnv 50).st.stale = 2 ∧
    (kernel overrunStaleEnv 50).st.removals = 1 ∧ (kernel overrunStaleEnv 50).st.acts.size = 4 := by decide +kernel

/-- `while not done and k < max_attempts`; two `rand()` values per attempt -/
theorem poisson_attempt_loop_terminates (env : Env) (mask : Array Bool) (px py k pos att : Nat)
    (o : Option (Nat × Nat)) (pos' att' : Nat) (h : attempts env mask px py k pos att = .ok (o, pos', att')) :
    att ≤ att' ∧ att' ≤ att + k ∧ pos' = pos + 2 * (att' - att) ∧ (o = none → att' = att + k) := by
  obtain ⟨a, b, c, _, e⟩ := attempts_spec env mask px py k pos att o pos' att' h
  exact ⟨a, b, c, e⟩

/-- every iteration accepts or removes, and removals exceed acceptances by at most one -/
theorem poisson_iterations_bound (env : Env) (fuel : Nat) (st0 : St) (h0 : init env = .ok st0) :
    let st := (kernel env fuel).st
    st.iters ≤ 2 * (st.mask.count true + st.stale) + 1 ∧ st.iters ≤ 2 * (env.nx * env.ny + st.stale) + 1 := by
  have hi := poisson_kernel_invariant env fuel st0 h0
  have h1 := hi.actives; have h2 := hi.sampled; have h3 := hi.iters
  have hc : (kernel env fuel).st.mask.count true ≤ env.nx * env.ny := by
    rw [← hi.maskSize]; exact Array.count_le_size
  exact ⟨by omega, by omega⟩

/-- `_partial`: "the kernel always returns" is false for adversarial streams (stale acceptance and removal can alternate
for ever); with fuel beyond `2·(nx·ny + S) + 1` the run has ended unless more than `S` acceptances were stale. -/
theorem poisson_returns_or_stale_partial (env : Env) (fuel S : Nat) (st0 : St) (h0 : init env = .ok st0)
    (hf : 2 * (env.nx * env.ny + S) + 1 < fuel) :
    (kernel env fuel).halt ≠ some .outOfFuel ∨ S < (kernel env fuel).st.stale := by
  by_cases hh : (kernel env fuel).halt = some .outOfFuel
  · right
    have hb := (poisson_iterations_bound env fuel st0 h0).2
    -- of the stops `kernel_spec` lists only `outOfFuel` is this one: all `fuel` iterations were made
    have : (kernel env fuel).st.iters = fuel := by simpa using (kernel_spec env fuel).2.2 _ hh
    omega
  · exact Or.inl hh

theorem poisson_draws_bound (env : Env) (fuel : Nat) (st0 : St) (h0 : init env = .ok st0) :
    let st := (kernel env fuel).st
    st.pos = 2 + st.iters + 2 * st.att ∧ st.att ≤ st.iters * env.maxAttempts ∧
    st.pos ≤ 2 + st.iters * (1 + 2 * env.maxAttempts) := by
  have hi := poisson_kernel_invariant env fuel st0 h0
  have h1 := hi.draws; have h2 := hi.attLe
  refine ⟨h1, h2, ?_⟩
  rw [Nat.mul_add, Nat.mul_one, h1]
  have : 2 * (kernel env fuel).st.att ≤ (kernel env fuel).st.iters * (2 * env.maxAttempts) := by
    rw [Nat.mul_comm 2 env.maxAttempts, ← Nat.mul_assoc]; omega
  omega

theorem poisson_done_no_actives (env : Env) (fuel : Nat) (h : (kernel env fuel).halt = none) :
    (kernel env fuel).st.acts.size = 0 :=
  (kernel_spec env fuel).2.1 h

/-- `randint(upper)` returns `upper` itself for `rand() = RAND_MAX` (probability 2⁻³¹ per draw): the model stops with
`badIndex`, the compiled kernel would read `pxs[num_actives]` -/
theorem poisson_randint_rand_max : randint randMax 7 = 7 ∧ randint (randMax - 1) 7 = 6 ∧ randint 0 7 = 0 := by
  decide +kernel

/-- non-vacuity: `init env = .ok _` holds, and a recorded run ends normally -/
example : (init overrunStaleEnv).toOption.isSome = true := by decide +kernel
example : (kernel { overrunStaleEnv with maxAttempts := 0 } 50).halt = none ∧
    (kernel { overrunStaleEnv with maxAttempts := 0 } 50).st.removals = 1 := by decide +kernel

/-- `VariableDensityPoissonMaskFunc.mask_func` around the kernel is `assemble` with the (corner-cropped) kernel mask as
interior: `shape_contract`, `per_frame_pattern`, `C06.acs_subset_mask` apply to it -/
theorem poisson_assemble_eq_assemble (m : Mode) (shape : List Nat) (radius : Int) (crop : Option (List Bool))
    (ks : List (List Bool)) :
    assemblePoisson m shape radius crop ks = assemble .poisson m shape (.disc radius) false (ks.map (cropKernel crop)) := by
  unfold assemblePoisson assemble
  cases callGuard m shape.length with
  | error e => rfl
  | ok u =>
    simp only [Gen.isKt, Bool.false_eq_true, if_false, Gen.family]
    unfold assembleFrames
    simp only [acsFrame, Option.isSome_some, List.all_eq_true, implies_true, if_true, Option.getD_some, frameData,
      framePattern, Bool.false_eq_true, if_false, List.length_map, List.map_map]
    have e : (poissonFrame (rowsOf shape) (colsOf shape) radius crop) =
        ((fun p => orL p (centeredDisk (rowsOf shape) (colsOf shape) radius)) ∘ cropKernel crop) := by
      funext p; rfl
    rw [e]

theorem poisson_assemble_shape_contract (m : Mode) (shape : List Nat) (radius : Int) (crop : Option (List Bool))
    (ks : List (List Bool)) (t : Tensor Bool) (h : assemblePoisson m shape radius crop ks = .ok t) :
    t.shape = maskShape m shape ∧ t.data.length = prod t.shape ∧ ∀ coil, Broadcasts t.shape (coil :: shape) := by
  rw [poisson_assemble_eq_assemble] at h
  exact shape_contract _ _ _ _ _ _ t h

/-- the order before the repair `2480376` cropped the ACS disc as well (3 × 3, radius 2, crop keeping the centre) -/
theorem poisson_crop_pinned_violates :
    (poissonFramePinned 3 3 2 (some [false, false, false, false, true, false, false, false, false])
      (List.replicate 9 false)).count true = 1 ∧
    (poissonFrame 3 3 2 (some [false, false, false, false, true, false, false, false, false])
      (List.replicate 9 false)).count true = 9 := by decide

end PoissonKernel

example : maskShape .static [7, 9, 12, 2] = [1, 1, 9, 12, 1] := by decide
example : maskShape .dynamic [7, 3, 9, 12, 2] = [1, 1, 3, 9, 12, 1] := by decide
example : maskShape .multislice [3, 9, 12, 2] = [1, 3, 9, 12, 1] := by decide
example : Broadcasts (maskShape .dynamic [7, 3, 9, 12, 2]) [5, 7, 3, 9, 12, 2] :=
  mask_shape_broadcasts .dynamic _ 5 (by decide)
example : (assemble .fastmriRandom .dynamic [2, 2, 4, 1] (.lines 2) false
    [[true, false, false, false], [false, false, false, true]]).toOption.map (·.data) =
    some [true, true, true, false, true, true, true, false, false, true, true, true, false, true, true, true] := by decide
example : (assemble .ktUniform .dynamic [1, 1, 2, 2, 4, 1] (.lines 2) false []).toOption = none := by decide
example : (assemble .gaussian2d .static [5, 5, 2] (.disc 2) true [[]]).toOption.map (·.data.count true) = some 9 := by decide
example : (gaussLoop 2 [false, true, false, false] [1, 7, 0, 0, 3]).2 = 0 := by decide
example : gaussLoop 2 [false, true, false, false] [1, 7, 0, 0, 3] = ([true, true, false, true], 0) := by decide
example : (gaussLoop 3 [false, true, true, false] [0, 3, 1, 2, 0, 3]).2 = 1 := by decide
/-- non-vacuity of `gaussian_loop_terminates`: round robin is fair -/
example : ∃ fuel, (gaussLoop 2 [false, true, false] ((List.range fuel).map fun j => (((j % 3 : Nat)) : Int))).2 = 0 :=
  gaussian_loop_terminates (fun j => ((j % 3 : Nat) : Int)) [false, true, false] 2
    (fun k i hi => ⟨3 * k + i, by omega, by simp at hi; omega⟩) (by decide)
/-- … and of `assemble_returns` / `shape_contract` -/
example : ∃ t, assemble .fastmriMagic .multislice [3, 2, 5, 4, 2] (.lines 1) false [List.replicate 4 false, List.replicate 4 true] = .ok t :=
  line_generator_returns _ rfl _ _ _ _ _ (by decide) (by decide) (by decide)
example : bisect (fun lo hi => (lo + hi) / 2) (fun p => if p = 5 then .within else if p < 5 then .below else .above) 20 0 16
    = .returned 5 := by decide

end DirectVerif.C04
