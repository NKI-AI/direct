import DirectVerif.Model.Ckpt
/-!
# `int(str(n)) = n` for the label written to `last_model.txt` — no Mathlib
-/
namespace DirectVerif.Ckpt

theorem digitsFuel_all (f n : Nat) : (digitsFuel f n).all isDigit = true := by
  induction f generalizing n with
  | zero => simp [digitsFuel]
  | succ f ih =>
    unfold digitsFuel
    split
    · simp [isDigit]; omega
    · simp only [List.all_append, ih, List.all_cons, List.all_nil, Bool.and_true, Bool.true_and]
      simp [isDigit]; omega

theorem digitsFuel_value (f n : Nat) (h : n < f) :
    (digitsFuel f n).foldl (fun a c => 10 * a + (c - 48)) 0 = n := by
  induction f generalizing n with
  | zero => omega
  | succ f ih =>
    unfold digitsFuel
    split
    · simp
    · rw [List.foldl_append, ih (n / 10) (by omega)]
      simp only [List.foldl_cons, List.foldl_nil]
      omega

/-- a string of digits has no white space to strip … -/
theorem strip_of_all {l : List Nat} (h : l.all isDigit = true) : strip l = l := by
  have drop : ∀ {l : List Nat}, l.all isDigit = true → l.dropWhile isSpace = l := by
    intro l h
    cases l with
    | nil => rfl
    | cons c r =>
      simp only [List.all_cons, Bool.and_eq_true] at h
      have hc := h.1
      have : isSpace c = false := by
        simp only [isDigit, Bool.and_eq_true, decide_eq_true_eq] at hc
        simp only [isSpace, Bool.or_eq_false_iff, beq_eq_false_iff_ne, Bool.and_eq_false_iff, decide_eq_false_iff_not]
        omega
      rw [List.dropWhile_cons, this]; rfl
  unfold strip
  rw [drop h, drop (by simpa using h), List.reverse_reverse]

/-- … and no newline -/
theorem readline_of_all {l : List Nat} (h : l.all isDigit = true) : readline l = l := by
  unfold readline
  induction l with
  | nil => rfl
  | cons c r ih =>
    simp only [List.all_cons, Bool.and_eq_true] at h
    have hc : (c != 10) = true := by
      have := h.1
      simp only [isDigit, Bool.and_eq_true, decide_eq_true_eq] at this
      simp only [bne_iff_ne, ne_eq]
      omega
    rw [List.takeWhile_cons, hc]
    simp [ih h.2]

theorem parseNat_digits (n : Nat) : parseNat (digits n) = some n := by
  unfold parseNat digits
  have hne : digitsFuel (n + 1) n ≠ [] := by unfold digitsFuel; split <;> simp
  rw [if_pos ⟨hne, digitsFuel_all _ _⟩, digitsFuel_value _ _ (Nat.lt_succ_self n)]

/-- the label survives the round trip through `last_model.txt` -/
theorem parseInt_strInt (n : Nat) : parseInt (readline (strInt (n : Int))) = some (n : Int) := by
  have hs : strInt (n : Int) = digits n := by
    unfold strInt
    rw [if_neg (by omega)]
    simp
  have ha : (digits n).all isDigit = true := digitsFuel_all _ _
  rw [hs, readline_of_all ha]
  unfold parseInt
  simp only [strip_of_all ha, parseNat_digits]
  rfl

end DirectVerif.Ckpt
