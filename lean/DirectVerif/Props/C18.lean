import DirectVerif.Model.BatchSep
import DirectVerif.Lemmas.C18Prims
import DirectVerif.Lemmas.C18Coil
import Mathlib.Algebra.BigOperators.Group.Finset.Basic
import Mathlib.Data.Fintype.Basic
/-!
# C18 — in evaluation mode a sample's reconstruction is independent of its batch

A batched operation is a function `List α → List β` (the list is axis 0) and is `Separable` when it is a `List.map`;
then a sample gets the same output alone or among arbitrary companions (`batch_independent`).  Separability is closed
under the ways a forward pass of `direct/nn` wires operations together (`prog_separable`) and holds for every call site
that the decidable judgement `Prim.ok` accepts (`stdInterp_sound`); a module that writes no state answers a call the same
after any history (`no_hidden_state_across_calls`); expressions built from per-coil maps, broadcasts and coil sums do not
see the coil order (`coil_program_invariant`).  `Bridge/C18.lean` evaluates the judgements on the tables generated from
/repo.  Trusted: that those tables list every operation of a forward pass (scanner and execution trace), and that the
torch kernels a `Prog` calls `kern` (convolution, activation, eval-mode normalisation layers) are per-sample.
-/
namespace DirectVerif.C18
open DirectVerif DirectVerif.BatchSep

theorem separable_comp {α β γ : Type} {f : List α → List β} {g : List β → List γ}
    (hf : Separable f) (hg : Separable g) : Separable (g ∘ f) := sep_comp (f := f) (g := g) hf hg

/-- C18 for one operation: any batch size, any position, any companion values -/
theorem batch_independent {α β : Type} {f : List α → List β} (h : Separable f) (pre post : List α) (x : α) :
    (f (pre ++ x :: post))[pre.length]? = (f [x])[0]? := by
  obtain ⟨f₁, hf⟩ := h
  rw [hf, hf, List.getElem?_map, List.getElem?_append_right (Nat.le_refl _), Nat.sub_self]
  rfl

theorem separable_length {α β : Type} {f : List α → List β} (h : Separable f) (xs : List α) :
    (f xs).length = xs.length := by
  obtain ⟨f₁, hf⟩ := h
  rw [hf, List.length_map]

/-- skip connections, `x − mean`, `· / std`, gates -/
theorem separable_zipWith {α β γ δ : Type} {f : List α → List β} {g : List α → List γ} (op : β → γ → δ)
    (hf : Separable f) (hg : Separable g) : Separable (fun xs => List.zipWith op (f xs) (g xs)) :=
  sep_zipWith op hf hg

/-- `comb` is the combining function (mean, std, sum, …): only the axes matter -/
theorem norm_separable (t : Table) (ht : t.wf = true) (r : Red) (hr : r ∈ t) (comb : List NT → NT) :
    Separable (r.apply comb) := by
  have hp : r.perSample = true := List.all_eq_true.mp ht r hr
  simp only [Red.perSample, Bool.and_eq_true, Bool.not_eq_true', List.all_eq_true, decide_eq_true_eq] at hp
  obtain ⟨⟨⟨_, hne⟩, hax⟩, _⟩ := hp
  unfold Red.apply
  simp only [hne, Bool.false_eq_true, if_false]
  -- reducing axis `d + 1` of the batch tensor is reducing axis `d` of every sample
  refine sep_foldl_axes (op := batchedReduce comb) (fun d => ⟨reduceAt comb d, rfl⟩) _ fun d hd => ?_
  unfold Red.natAxes at hd
  rw [List.mem_mergeSort] at hd
  obtain ⟨a, ha, rfl⟩ := List.mem_map.mp hd
  have := (hax a ha).1
  omega

/-- witness: the sum over axis 0 -/
theorem reduce_axis0_not_separable :
    ¬ Separable (batchedReduce (fun xs => .leaf (xs.foldl (fun acc t => match t with | .leaf v => acc + v | _ => acc) 0)) 0) := by
  rintro ⟨f₁, hf⟩
  -- two samples go in, one sum comes out
  have h1 : [NT.leaf 3] = [f₁ (.leaf 1), f₁ (.leaf 2)] := hf [.leaf 1, .leaf 2]
  exact absurd (show (1 : Nat) = 2 from congrArg List.length h1) (by decide)

theorem normBatch_separable (groups : Nat) : Separable (normBatch groups) := sep_map _

theorem normWholeBatch_not_separable : ¬ Separable (normWholeBatch 1) := by
  rintro ⟨f₁, hf⟩
  -- the statistics of `[1, 2]` alone and next to `[5, 9]`
  have h1 : [[2, 3, 2]] = [f₁ [1, 2]] := hf [[1, 2]]
  have h2 : [[4, 17, 620], [4, 17, 620]] = [f₁ [1, 2], f₁ [5, 9]] := hf [[1, 2], [5, 9]]
  exact absurd ((List.cons.inj h1).1.trans (List.cons.inj h2).1.symm) (by decide)

/-- a forward pass that never assigns to `self.*` (`ro`) is a function of its inputs -/
theorem no_hidden_state_across_calls {σ ι ο : Type} (m : Module σ ι ο) (ro : ∀ s x, (m s x).1 = s) (s : σ)
    (history : List ι) : runCalls m s history = (s, history.map fun x => (m s x).2) := by
  induction history with
  | nil => rfl
  | cons x xs ih =>
    simp only [runCalls, List.map_cons]
    have e : m s x = (s, (m s x).2) := Prod.ext (ro s x) rfl
    rw [e, ih]

theorem repeated_evaluation_identical {σ ι ο : Type} (m : Module σ ι ο) (ro : ∀ s x, (m s x).1 = s) (s : σ)
    (history : List ι) (x : ι) :
    (runCalls m s (history ++ [x, x])).2 = (history.map fun x => (m s x).2) ++ [(m s x).2, (m s x).2] := by
  rw [no_hidden_state_across_calls m ro]; simp

/-- witness: a call counter -/
theorem hidden_state_witness :
    (runCalls (fun (s : Nat) (x : Nat) => (s + 1, x + s)) 0 [5, 5]).2 = [5, 6] := by decide

/-- the same permutation applied to sensitivity maps and data -/
theorem coil_sum_perm_invariant {M N : Type} [AddCommMonoid M] {n : Nat} (σ : Equiv.Perm (Fin n)) (S y : Fin n → N)
    (f : N → N → M) : ∑ i, f (S (σ i)) (y (σ i)) = ∑ i, f (S i) (y i) :=
  Equiv.sum_comp σ fun i => f (S i) (y i)

theorem csum_perm {α : Type} (g : α → G) {p q : List α} (h : p.Perm q) : csum (p.map g) = csum (q.map g) :=
  foldr_perm cadd (0, 0) cadd_comm cadd_assoc (h.map g)

theorem expand_perm_equivariant {s s' : List G} (h : s.Perm s') (x : G) : (expandPix s x).Perm (expandPix s' x) :=
  h.map _

theorem dc_block_perm_invariant {p q : List (G × G)} (h : p.Perm q) (x : G) : dcPix p x = dcPix q x := csum_perm _ h

theorem standardize_perm_equivariant {p q : List (G × G)} (h : p.Perm q) : (standardizePix p).Perm (standardizePix q) := by
  unfold standardizePix
  -- `reduce (σ·S) (σ·y) = reduce S y`
  rw [show reducePix p = reducePix q from csum_perm _ h]
  exact h.map _

/-- a `permute` whose literal starts with 0 is a product of adjacent axis swaps none of which touches axis 0 -/
theorem permute_keeps_batch_separable (perm : List Nat) (h : perm.head? = some 0 ∨ perm = []) : Separable (batchedPermute perm) := by
  refine sep_foldl_axes (fun d => ⟨_, batchedAlong_succ transpose01 d⟩) _ fun d hd => ?_
  rcases h with h | h
  · exact sortSwaps_swaps_pos perm h d (List.mem_reverse.mp hd)
  · subst h; simp [sortSwaps] at hd

/-- witness: swapping axes 0 and 1 exchanges samples and rows -/
theorem permute_moving_batch_not_separable : ¬ Separable (batchedPermute [1, 0]) := by
  rintro ⟨f₁, hf⟩
  -- one sample with two rows goes in, two "samples" come out
  have h1 : [NT.node [.leaf 1], .node [.leaf 2]] = [f₁ (.node [.leaf 1, .leaf 2])] := hf [.node [.leaf 1, .leaf 2]]
  exact absurd (show (2 : Nat) = 1 from congrArg List.length h1) (by decide)

/-- `cat` / `stack` -/
theorem cat_separable {α : Type} (d : Nat) (hd : 1 ≤ d) {f g : List α → List NT} (hf : Separable f) (hg : Separable g) :
    Separable (fun xs => batchedCat d (f xs) (g xs)) := by
  obtain ⟨k, rfl⟩ : ∃ k, d = k + 1 := ⟨d - 1, (Nat.sub_add_cancel hd).symm⟩
  -- on axis `k + 1` of the batch tensor `cat` pairs the samples up and concatenates them along their axis `k`
  exact sep_zipWith (catAt k) hf hg

/-- along the batch axis `cat` is not a batched operation at all -/
theorem cat_axis0_changes_batch (a b : List NT) : (batchedCat 0 a b).length = a.length + b.length := by
  exact List.length_append

def SoundInterp (I : Interp) : Prop := ∀ p : Prim, p.ok = true → Separable (I.prim p)

theorem prog_separable (I : Interp) (hI : SoundInterp I) (e : Prog) (h : e.prims.all Prim.ok = true) : Separable (e.eval I) := by
  induction e with
  | input => exact sep_id
  | kern n e ih => exact sep_comp (f := e.eval I) (g := List.map (I.kern n)) (ih h) (sep_map _)
  | prim p e ih =>
    simp only [Prog.prims, List.all_cons, Bool.and_eq_true] at h
    exact sep_comp (f := e.eval I) (g := I.prim p) (ih h.2) (hI p h.1)
  | zip n a b iha ihb =>
    simp only [Prog.prims, List.all_append, Bool.and_eq_true] at h
    exact sep_zipWith (f := a.eval I) (g := b.eval I) _ (iha h.1) (ihb h.2)

theorem natAxis_pos (rank : Nat) (a : Int) (h0 : a ≠ 0) (hneg : a < 0 → 1 ≤ a + rank) : 1 ≤ natAxis rank a := by
  unfold natAxis normAxis
  split <;> omega

theorem swapPerm_head (rank a b : Nat) (ha : 1 ≤ a) (hb : 1 ≤ b) :
    (swapPerm rank a b).head? = some 0 ∨ swapPerm rank a b = [] := by
  cases rank with
  | zero => exact Or.inr rfl
  | succ r =>
    left
    rw [swapPerm, List.range_succ_eq_map, List.map_cons, List.head?_cons, if_neg (by omega), if_neg (by omega)]

/-- one disjunct per form (0: listed axes, 3: an open range of axes, 4: the axis is a parameter) -/
theorem axesAvoid_spec {form : Nat} {args : List Int} (h : axesAvoidBatch form args = true) :
    (form = 0 → ∀ a ∈ args, a ≠ 0) ∧ (form = 3 → 1 ≤ args.headD 1) := by
  unfold axesAvoidBatch at h
  constructor
  · rintro rfl a ha
    -- form 0: the disjuncts of forms 3 and 4 are false; what is left says that no listed axis is 0
    have h0 : (!args.isEmpty && args.all (· != 0)) = true := by simpa using h
    exact bne_iff_ne.mp (List.all_eq_true.mp (Bool.and_eq_true_iff.mp h0).2 a ha)
  · rintro rfl
    -- form 3: only the second disjunct can hold: the list is not empty and the range starts at an axis `≥ 1`
    have h3 : (!args.isEmpty && args.all fun a => decide (1 ≤ a)) = true := by simpa using h
    cases args with
    | nil => cases h3
    | cons a rest => exact of_decide_eq_true (List.all_eq_true.mp (Bool.and_eq_true_iff.mp h3).2 a (List.mem_cons_self ..))

theorem alongSem_separable (rank : Prim → Nat) (along opq : String → NT → NT) (p : Prim)
    (hr : ∀ a ∈ p.args, a < 0 → 1 ≤ a + rank p) (h : p.form = 0 ∨ p.form = 3 → axesAvoidBatch p.form p.args = true) :
    Separable (alongSem rank along opq p) := by
  unfold alongSem
  cases h0 : (p.form == 0) with
  | true =>
    have hf : p.form = 0 := beq_iff_eq.mp h0
    refine sep_foldl_axes (fun d => ⟨_, batchedAlong_succ _ d⟩) _ fun d hd => ?_
    obtain ⟨a, ha, rfl⟩ := List.mem_map.mp (List.mem_mergeSort.mp hd)
    exact natAxis_pos _ _ ((axesAvoid_spec (h (Or.inl hf))).1 hf a ha) (hr a ha)
  | false =>
    cases h3 : (p.form == 3) with
    | true =>
      have hf : p.form = 3 := beq_iff_eq.mp h3
      refine sep_foldl_axes (fun d => ⟨_, batchedAlong_succ _ d⟩) _ fun d hd => ?_
      have hd' := of_decide_eq_true (List.mem_filter.mp (List.mem_reverse.mp hd)).2
      have := (axesAvoid_spec (h (Or.inr hf))).2 hf
      omega
    | false => exact sep_map _

theorem permSem_separable (rank : Prim → Nat) (p : Prim) (hr : ∀ a ∈ p.args, a < 0 → 1 ≤ a + rank p)
    (h : (if p.form == 0 then p.args.head? == some 0 else p.form == 1 && !p.args.isEmpty && p.args.all (· != 0)) = true) :
    Separable (permSem rank p) := by
  unfold permSem
  cases h0 : (p.form == 0) with
  | true =>
    rw [h0, if_pos rfl] at h
    refine permute_keeps_batch_separable _ (Or.inl ?_)
    rw [List.head?_map, beq_iff_eq.mp h]
    rfl
  | false =>
    rw [h0, if_neg Bool.false_ne_true] at h
    have hall : ∀ a ∈ p.args, a ≠ 0 := fun a ha =>
      bne_iff_ne.mp (List.all_eq_true.mp (Bool.and_eq_true_iff.mp h).2 a ha)
    -- an axis that `transpose` is not given defaults to 1
    have hpos : ∀ o : Option Int, (∀ a, o = some a → a ∈ p.args) → 1 ≤ natAxis (rank p) (o.getD 1) := by
      intro o ho
      cases o with
      | none => exact natAxis_pos _ 1 (by decide) (by omega)
      | some a => exact natAxis_pos _ a (hall a (ho a rfl)) (hr a (ho a rfl))
    rw [List.headD_eq_head?_getD, List.getD_eq_getElem?_getD]
    exact permute_keeps_batch_separable _ (swapPerm_head _ _ _
      (hpos _ fun a => List.mem_of_mem_head?) (hpos _ fun a => List.mem_of_getElem?))

/-- families 0, 1, 4: a reduction, an along-axis operation, a `flatten` -/
theorem ok_axes {p : Prim} (hok : p.ok = true) (hA : (p.family == 0 || p.family == 1 || p.family == 4) = true) :
    p.form = 0 ∨ p.form = 3 → axesAvoidBatch p.form p.args = true := by
  unfold Prim.ok at hok
  simp only [Bool.or_eq_true, beq_iff_eq] at hA
  rcases hA with (hA | hA) | hA <;> rw [hA] at hok
  · -- a reduction is accepted by its axes, or — over all axes — only when it feeds a warning, and then `form = 1`
    rcases Bool.or_eq_true_iff.mp hok with h | h
    · exact fun _ => h
    · have : p.form = 1 := beq_iff_eq.mp (Bool.and_eq_true_iff.mp h).1
      omega
  · -- an along-axis operation is accepted exactly by its axes
    exact fun _ => hok
  · -- a `flatten` is accepted when `form = 0`, the list is not empty and names no axis 0: the first disjunct of
    -- `axesAvoidBatch`
    simp only [Bool.and_eq_true, beq_iff_eq] at hok
    intro _
    simp [axesAvoidBatch, hok.1.1, hok.1.2, hok.2]

/-- `hr`: negative axes address axes of the operand other than the first (`|a| < rank`).  A `Prim` carries no rank, so
this is a hypothesis on the interpretation; it is satisfiable for every table (last `example` of this file). -/
theorem stdInterp_sound (rank : Prim → Nat) (along : String → NT → NT) (opq : String → NT → NT) (zp : String → NT → NT → NT)
    (hr : ∀ p : Prim, ∀ a ∈ p.args, a < 0 → 1 ≤ a + rank p) : SoundInterp (stdInterp rank along opq zp) := by
  intro p hok
  have hprim : (stdInterp rank along opq zp).prim p = fun batch =>
      if p.family == 0 || p.family == 1 || p.family == 4 then alongSem rank along opq p batch
      else if p.family == 2 then permSem rank p batch else batch.map (opq p.op) :=
    funext fun batch => if_pos hok
  rw [hprim]
  cases hA : (p.family == 0 || p.family == 1 || p.family == 4) with
  | true => exact alongSem_separable rank along opq p (hr p) (ok_axes hok hA)
  | false =>
    cases h2 : (p.family == 2) with
    | true =>
      refine permSem_separable rank p (hr p) ?_
      unfold Prim.ok at hok
      rw [beq_iff_eq.mp h2] at hok
      exact hok
    | false => exact sep_map _

/-- a call site the judgement rejects denotes (in the standard interpretation) the same operation along the batch axis -/
theorem stdInterp_rejected (rank : Prim → Nat) (along : String → NT → NT) (opq : String → NT → NT) (zp : String → NT → NT → NT)
    (p : Prim) (h : p.ok = false) : (stdInterp rank along opq zp).prim p = batchedAlong (along p.op) 0 := by
  funext batch
  simp [stdInterp, h]

/-- any rank above the running maximum of `|a|` meets the hypothesis `hr` of `stdInterp_sound` -/
theorem natAbs_le_foldl_max (l : List Int) (m : Nat) :
    m ≤ l.foldl (fun m a => max m a.natAbs) m ∧ ∀ a ∈ l, a.natAbs ≤ l.foldl (fun m a => max m a.natAbs) m := by
  induction l generalizing m with
  | nil => simp
  | cons b l ih =>
    obtain ⟨h1, h2⟩ := ih (max m b.natAbs)
    refine ⟨Nat.le_trans (Nat.le_max_left _ _) h1, fun a ha => ?_⟩
    rcases List.mem_cons.mp ha with rfl | ha
    · exact Nat.le_trans (Nat.le_max_right _ _) h1
    · exact h2 a ha

/-- C18 for a zoo model: with `m.ok primTable`, any data-flow graph that only uses primitives of the functions the model
executes is separable, however the forward pass wires them -/
theorem model_separable (tbl : List FuncRow) (m : ModelRow) (hm : m.ok tbl = true) (I : Interp) (hI : SoundInterp I) (e : Prog)
    (he : ∀ p ∈ e.prims, p ∈ m.prims tbl) : Separable (e.eval I) := by
  refine prog_separable I hI e (List.all_eq_true.mpr fun p hp => ?_)
  -- `p` is a primitive of a function `tbl[i]` that the model executes, and that function passed
  obtain ⟨i, hi, hpi⟩ := List.mem_flatMap.mp (he p hp)
  have hfi := List.all_eq_true.mp hm i hi
  cases hf : tbl[i]? with
  | none => rw [hf] at hpi; exact absurd hpi List.not_mem_nil
  | some f =>
    rw [hf] at hfi hpi
    exact List.all_eq_true.mp (Bool.and_eq_true_iff.mp hfi).1 p hpi

/-- `MultiCoil.forward` with `coil_to_batch` (fold coils into the batch, run the model, un-fold), all samples with `c`
coils -/
theorem multiCoilFold_batch_independent {α β : Type} (f : α → β) (c : Nat) (pre post : List (List α)) (x : List α)
    (h : ∀ y ∈ pre ++ x :: post, y.length = c) :
    (multiCoilFold f c (pre ++ x :: post))[pre.length]? = (multiCoilFold f c [x])[0]? := by
  rw [multiCoilFold_eq f c _ h,
    multiCoilFold_eq f c [x] fun y hy => h y (by
      rw [List.mem_singleton.mp hy]; exact List.mem_append_right pre (List.mem_cons_self ..))]
  exact batch_independent (sep_map (List.map f)) pre post x

/-- the coil-major un-fold agrees with the row-major one for a single sample … -/
theorem unmergeCB_batch_one {α : Type} [Inhabited α] (c : Nat) (ys : List α) (h : ys.length = c) :
    unmergeCB 1 c ys = unmergeBC 1 c ys := by
  subst h
  unfold unmergeCB unmergeBC
  simp only [List.range_one, List.map_cons, List.map_nil, Nat.mul_one, Nat.add_zero, Nat.zero_mul, List.drop_zero,
    List.take_length, List.cons.injEq, and_true]
  refine List.ext_getElem (by rw [List.length_map, List.length_range]) fun i _ h2 => ?_
  rw [List.getElem_map, List.getElem_range, List.getD_eq_getElem?_getD, List.getElem?_eq_getElem h2, Option.getD_some]

/-- … but mixes the coils of different samples as soon as there are two samples with two coils -/
theorem unmergeCB_mixes_samples :
    (unmergeCB 2 2 (mergeBC [[10, 11], [20, 21]]))[0]? = some [10, 20] ∧ (unmergeBC 2 2 (mergeBC [[10, 11], [20, 21]]))[0]? = some [10, 11] := by
  decide +kernel

/-- the store (`Loc`) holds attributes, buffers, class attributes, module-level names, memo tables and process-wide
switches; that the forward paths write none of them is `Bridge.C18.effects_accounted` -/
theorem call_without_writes_is_pure {ι ο : Type} (c : Call ι ο) (h : ∀ s x, (c s x).1 = []) (s : Store) (history : List ι) :
    runCalls c.toModule s history = (s, history.map fun x => (c s x).2) := by
  apply no_hidden_state_across_calls
  intro s x
  simp [Call.toModule, h, applyWrites]

/-- two instances sharing class / module / process state -/
theorem interleaved_instances_independent {ι ο : Type} (a b : Call ι ο) (ha : ∀ s x, (a s x).1 = []) (hb : ∀ s x, (b s x).1 = [])
    (s : Store) (history : List (ι ⊕ ι)) :
    runTwo a b s history = (s, history.map fun x => match x with | .inl x => (a s x).2 | .inr x => (b s x).2) := by
  induction history with
  | nil => rfl
  | cons x xs ih =>
    cases x with
    | inl x => simp only [runTwo, ha, applyWrites, List.foldl_nil, ih, List.map_cons]
    | inr x => simp only [runTwo, hb, applyWrites, List.foldl_nil, ih, List.map_cons]

/-- witness: a class-level cache written by one instance -/
theorem shared_class_state_witness :
    (runTwo (fun s (x : Int) => ([(Loc.cls "last", x)], x + s (Loc.cls "last")))
            (fun s (x : Int) => ([], x + s (Loc.cls "last"))) (fun _ => 0) [.inr 5, .inl 7, .inr 5]).2 = [5, 7, 12] := by
  decide +kernel

/-- C18 for the coil order: every network built from per-coil maps, element-wise combinations of coil tensors, broadcasts
of images and coil sums reconstructs the same image for every coil order -/
theorem coil_program_invariant (i : IExpr G) (σ : List Nat) (inp : List (G × G)) (hσ : σ.Perm (List.range inp.length)) :
    i.eval cadd (0, 0) (gather σ inp) = i.eval cadd (0, 0) inp :=
  iexpr_invariant cadd (0, 0) cadd_comm cadd_assoc i σ inp hσ

theorem coil_program_equivariant (e : CExpr G) (σ : List Nat) (inp : List (G × G)) (hσ : σ.Perm (List.range inp.length)) :
    e.eval cadd (0, 0) (gather σ inp) = gather σ (e.eval cadd (0, 0) inp) :=
  cexpr_equivariant cadd (0, 0) cadd_comm cadd_assoc e σ inp hσ

/-- the data-consistency step the driver executes, `Σ conj(S)·(S·x − y)` with `inp = (S, y)`, is such an expression -/
def dcExpr (x : G) : IExpr G :=
  .sum (.zip (fun s d => cmul (conj s) d) .k (.zip csub (.bcast (fun x s => cmul s x) (.const x) .k) .s))

theorem dcPix_is_coil_program (sy : List (G × G)) (x : G) : dcPix sy x = (dcExpr x).eval cadd (0, 0) sy := by
  simp only [dcExpr, IExpr.eval, CExpr.eval, List.map_map, zipWith_map_map]
  rfl

/-- `reduce_operator` likewise -/
def reduceExpr : IExpr G := .sum (.zip (fun s d => cmul (conj s) d) .k .s)

theorem reducePix_is_coil_program (sx : List (G × G)) : reducePix sx = reduceExpr.eval cadd (0, 0) sx := by
  simp only [reduceExpr, IExpr.eval, CExpr.eval, zipWith_map_map]
  rfl

/-- outside the language: singling out a coil, or mixing coils with position-dependent weights (a convolution over the
coil axis as channels) -/
theorem select_coil_not_invariant : selectCoil 0 0 (gather [1, 0] [3, 4]) ≠ selectCoil 0 0 [3, 4] := by decide

theorem coil_as_channels_not_equivariant :
    coilMix (fun i j => (i : Int) + 2 * j) (gather [1, 0] [3, 4]) ≠ gather [1, 0] (coilMix (fun i j => (i : Int) + 2 * j) [3, 4]) := by decide +kernel

/-- a loop over `range(n // k)` chunks of `k` coils -/
theorem chunkSumFloor_eq (k : Nat) (xs : List G) : chunkSumFloor k xs = csum (xs.take (xs.length / k * k)) :=
  chunkSum_eq_take k _ xs

/-- so a test with 8 or 16 coils and `k = 8` shows nothing -/
theorem chunkSumFloor_complete (k : Nat) (xs : List G) (h : xs.length % k = 0) : chunkSumFloor k xs = csum xs := by
  rw [chunkSumFloor_eq, Nat.div_mul_cancel (Nat.dvd_of_mod_eq_zero h), List.take_length]

/-- `⌈n / k⌉` chunks, or `torch.split` -/
theorem chunkSumCeil_complete (k : Nat) (hk : 0 < k) (xs : List G) : chunkSumCeil k xs = csum xs := by
  unfold chunkSumCeil
  rw [chunkSum_eq_take]
  have h : xs.length ≤ (xs.length + k - 1) / k * k := by
    have h1 := Nat.div_add_mod (xs.length + k - 1) k
    have h2 := Nat.mod_lt (xs.length + k - 1) hk
    rw [Nat.mul_comm] at h1
    omega
  rw [List.take_of_length_le h]

theorem chunkSumCeil_perm_invariant (k : Nat) (hk : 0 < k) {p q : List G} (h : p.Perm q) : chunkSumCeil k p = chunkSumCeil k q := by
  rw [chunkSumCeil_complete k hk, chunkSumCeil_complete k hk]
  have := csum_perm id h
  rwa [List.map_id, List.map_id] at this

/-- witness: with 3 coils and chunks of 2 the last coil is dropped, and which coil is last depends on the order -/
theorem chunkSumFloor_drops_remainder :
    chunkSumFloor 2 [(1, 0), (2, 0), (4, 0)] = (3, 0) ∧ chunkSumFloor 2 [(4, 0), (1, 0), (2, 0)] = (5, 0) ∧
      csum [(1, 0), (2, 0), (4, 0)] = (7, 0) := by decide +kernel

example : Table.wf [⟨"NormUnetModel2d.norm", "mean", 3, [-1], true⟩, ⟨"reduce_operator", "sum", 5, [1], true⟩] = true := by decide
example : Table.wf [⟨"ConjGrad.cg", "mean", 1, [], true⟩] = false := by decide
example : normBatch 2 [[1, 2, 3, 5], [0, 0, 4, 4]] = [[2, 3, 2, 2, 8, 8], [2, 0, 0, 2, 8, 0]] := by decide +kernel
example : (normBatch 2 [[7, 7, 7, 7], [1, 2, 3, 5], [9, 9, 9, 9]])[1]? = (normBatch 2 [[1, 2, 3, 5]])[0]? := by decide +kernel
example : reducePix [((1, 2), (3, 4)), ((0, 1), (5, 6))] = reducePix [((0, 1), (5, 6)), ((1, 2), (3, 4))] := by decide
example : ([((1, 2), (3, 4)), ((0, 1), (5, 6))] : List (G × G)).Perm [((0, 1), (5, 6)), ((1, 2), (3, 4))] :=
  List.Perm.swap _ _ _

example : Prim.ok ⟨"Unet2d.forward", 2, "permute", 0, [0, 3, 1, 2], 0⟩ = true := by decide
example : Prim.ok ⟨"x", 2, "permute", 0, [1, 0, 2], 0⟩ = false := by decide
example : Prim.ok ⟨"x", 1, "cat", 0, [0], 0⟩ = false := by decide
example : Prim.ok ⟨"x", 0, "mean", 1, [], 0⟩ = false := by decide
example : Prim.ok ⟨"RIM.forward", 0, "max", 1, [], 1⟩ = true := by decide
example : Prim.ok ⟨"x", 3, "view", 1, [2], 0⟩ = false := by decide
example : Prim.ok ⟨"MRILogLikelihood.forward", 8, "loop-chunked", 2, [2, 4, 8], 0⟩ = false := by decide
example : Prim.ok ⟨"RIM.forward", 8, "if-training", 0, [32], 0⟩ = true := by decide
example : Prim.ok ⟨"MultiCoil._compute_model_per_coil", 8, "loop-full", 3, [2, 4, 32], 0⟩ = true := by decide
example : FuncRow.ok ⟨"MultiCoil.forward", [⟨"MultiCoil.forward", 3, "reshape", 2, [2], 0⟩]⟩ = false := by decide
example : FuncRow.ok ⟨"MultiCoil.forward", [⟨"MultiCoil.forward", 3, "reshape", 2, [2], 0⟩, ⟨"MultiCoil.forward", 3, "reshape", 0, [1], 0⟩]⟩ = true := by decide
example : batchedPermute [0, 2, 1] [.node [.node [.leaf 1, .leaf 2], .node [.leaf 3, .leaf 4]]] = [.node [.node [.leaf 1, .leaf 3], .node [.leaf 2, .leaf 4]]] := rfl
example : multiCoilFold (· + 1) 2 [[1, 2], [5, 6], [8, 9]] = [[2, 3], [6, 7], [9, 10]] := by decide +kernel
example : ([1, 0] : List Nat).Perm (List.range ([((1, 2), (3, 4)), ((0, 1), (5, 6))] : List (G × G)).length) := by decide
example : ModelRow.ok [⟨"Unet2d.forward", [⟨"Unet2d.forward", 0, "sum", 0, [1], 0⟩, ⟨"Unet2d.forward", 2, "permute", 0, [0, 3, 1, 2], 0⟩]⟩] ("Unet2d", [0]) = true := by decide
example : ModelRow.ok [⟨"ConjGrad.cg", [⟨"ConjGrad.cg", 0, "mean", 1, [], 0⟩]⟩] ("ConjGradNet", [0]) = false := by decide
example : ∀ s x, ((fun (s : Store) (x : Int) => (([] : List (Loc × Int)), x + s (Loc.attr "weight"))) s x).1 = [] := fun _ _ => rfl
example : EffRow.ok ⟨"RIM.forward", 3, "RIM._zero_states[key]"⟩ = false := by decide
example : EffRow.ok ⟨"RIM.forward", 9, "cell_output.set_"⟩ = true := by decide
example : (dcExpr (1, 1)).eval cadd (0, 0) (gather [1, 0] [((1, 2), (3, 4)), ((0, 1), (5, 6))]) =
    (dcExpr (1, 1)).eval cadd (0, 0) [((1, 2), (3, 4)), ((0, 1), (5, 6))] := by decide +kernel
example : ∃ I : Interp, SoundInterp I :=
  ⟨stdInterp (fun p => p.args.foldl (fun m a => max m a.natAbs) 0 + 1) (fun _ t => t) (fun _ t => t) (fun _ a _ => a),
    stdInterp_sound (fun p => p.args.foldl (fun m a => max m a.natAbs) 0 + 1) _ _ _ (by
      intro p a ha hneg
      have := (natAbs_le_foldl_max p.args 0).2 a ha
      omega)⟩
end DirectVerif.C18
