import DirectVerif.Model.C14Loop
/-!
Delivery orders of a loader with `k` batches in flight (`windowOrders`): every order is a permutation of the
batches, one batch in flight means in-order delivery, two allow a swap.
-/
namespace DirectVerif.Recon
open DirectVerif

theorem perm_cons_eraseIdx {α} {l : List α} {i : Nat} (h : i < l.length) : l.Perm (l[i] :: l.eraseIdx i) := by
  induction l generalizing i with
  | nil => simp at h
  | cons a l ih =>
    cases i with
    | zero => simp
    | succ i =>
      simp only [List.getElem_cons_succ, List.eraseIdx_cons_succ]
      have := ih (i := i) (by simpa using h)
      exact (List.Perm.cons a this).trans (List.Perm.swap _ _ _)

theorem windowOrdersAux_nil {α} (fuel : Nat) (rest : List α) : windowOrdersAux fuel [] rest = [[]] := by
  cases fuel <;> rfl

theorem windowOrdersAux_cons {α} (fuel : Nat) (x : α) (infl rest : List α) :
    windowOrdersAux (fuel + 1) (x :: infl) rest =
      (List.range (infl.length + 1)).flatMap fun i =>
        match (x :: infl)[i]? with
        | none => []
        | some y => (windowOrdersAux fuel ((x :: infl).eraseIdx i ++ rest.take 1) (rest.drop 1)).map (y :: ·) := by
  rw [windowOrdersAux]
  rfl

theorem windowOrdersAux_one {α} : ∀ (fuel : Nat) (x : α) (rest : List α), rest.length + 1 ≤ fuel →
    windowOrdersAux fuel [x] rest = [x :: rest] := by
  intro fuel
  induction fuel with
  | zero => intro x rest h; exact absurd h (Nat.not_succ_le_zero _)
  | succ fuel ih =>
    intro x rest h
    rw [windowOrdersAux_cons]
    -- the only batch in flight is handed over; the next one, if any, takes its place
    cases rest with
    | nil =>
      show List.map _ (windowOrdersAux fuel [] []) ++ [] = _
      rw [windowOrdersAux_nil]
      rfl
    | cons y ys =>
      show List.map _ (windowOrdersAux fuel [y] ys) ++ [] = _
      rw [ih y ys (Nat.le_of_succ_le_succ h)]
      rfl

theorem windowOrders_one {α} (xs : List α) : windowOrders 1 xs = [xs] := by
  cases xs with
  | nil => rfl
  | cons x xs => exact windowOrdersAux_one _ x xs (Nat.le_refl _)

theorem windowOrdersAux_perm {α} : ∀ (fuel : Nat) (infl rest : List α), infl.length + rest.length ≤ fuel →
    (infl = [] → rest = []) → ∀ ys ∈ windowOrdersAux fuel infl rest, ys.Perm (infl ++ rest) := by
  intro fuel
  induction fuel with
  | zero =>
    intro infl rest h _ ys hy
    have h1 : infl = [] := List.eq_nil_of_length_eq_zero (by omega)
    have h2 : rest = [] := List.eq_nil_of_length_eq_zero (by omega)
    subst h1 h2
    rw [List.mem_singleton.mp hy]
    exact List.Perm.refl _
  | succ fuel ih =>
    intro infl rest h hinv ys hy
    cases hx : infl with
    | nil =>
      have := hinv hx
      subst hx this
      rw [windowOrdersAux_nil] at hy
      rw [List.mem_singleton.mp hy]
      exact List.Perm.refl _
    | cons x0 xs0 =>
      subst hx
      rw [windowOrdersAux_cons] at hy
      obtain ⟨i, hi, hy⟩ := List.mem_flatMap.mp hy
      have hi : i < (x0 :: xs0).length := List.mem_range.mp hi
      rw [List.getElem?_eq_getElem hi] at hy
      obtain ⟨zs, hz, rfl⟩ := List.mem_map.mp hy
      have hlen : ((x0 :: xs0).eraseIdx i ++ rest.take 1).length + (rest.drop 1).length ≤ fuel := by
        rw [List.length_append, List.length_eraseIdx_of_lt hi, List.length_take, List.length_drop]
        simp only [List.length_cons] at h ⊢; omega
      have hinv' : (x0 :: xs0).eraseIdx i ++ rest.take 1 = [] → rest.drop 1 = [] := by
        intro e
        have := (List.append_eq_nil_iff.mp e).2
        cases rest with
        | nil => rfl
        | cons a r => simp at this
      have hp := ih _ _ hlen hinv' zs hz
      have h1 : ((x0 :: xs0).eraseIdx i ++ rest.take 1 ++ rest.drop 1) = (x0 :: xs0).eraseIdx i ++ rest := by
        rw [List.append_assoc, List.take_append_drop]
      rw [h1] at hp
      exact (List.Perm.cons _ hp).trans
        ((List.Perm.append_right rest (perm_cons_eraseIdx hi)).symm.trans (List.Perm.refl _))

theorem windowOrders_perm {α} (k : Nat) (hk : 0 < k) (xs ys : List α) (h : ys ∈ windowOrders k xs) :
    ys.Perm xs := by
  have := windowOrdersAux_perm xs.length (xs.take k) (xs.drop k)
    (by rw [List.length_take, List.length_drop]; omega)
    (by
      intro e
      cases xs with
      | nil => simp
      | cons a r =>
        cases k with
        | zero => omega
        | succ k => simp at e)
    ys h
  rwa [List.take_append_drop] at this

theorem windowOrders_swap {α} (k : Nat) (hk : 2 ≤ k) (p q : α) : [q, p] ∈ windowOrders k [p, q] := by
  have h2 : List.take k [p, q] = [p, q] := List.take_of_length_le hk
  have h3 : List.drop k [p, q] = [] := List.drop_of_length_le hk
  rw [windowOrders, h2, h3]
  -- both batches are in flight: hand over the second one first
  show [q, p] ∈ windowOrdersAux 2 [p, q] []
  rw [windowOrdersAux_cons]
  refine List.mem_flatMap.mpr ⟨1, List.mem_range.mpr (Nat.lt_succ_self 1), ?_⟩
  show [q, p] ∈ (windowOrdersAux 1 [p] []).map (q :: ·)
  rw [windowOrdersAux_one 1 p [] (Nat.le_refl _)]
  exact List.mem_singleton.mpr rfl

end DirectVerif.Recon
