import DirectVerif.Model.Fft
import DirectVerif.Props.C01
import DirectVerif.Props.C10
import DirectVerif.Lemmas.TensorLiftC10
/-!
# C10 — `CropKspace` / `PadKspace` over the C01 operators

The plans of `Model/Crop.lean` are interpreted with the plans of `fft2` / `ifft2` (`Model/Fft.lean`) over an abstract
`Backend`: `CropKspace = fft2 ∘ crop ∘ ifft2`, `PadKspace = fft2 ∘ view_as_real ∘ pad ∘ view_as_complex ∘ ifft2`.  The
equivalence with cropping / padding the backprojected image holds for every lawful backend and all 8 flag combinations;
on one axis it is instantiated with the list models of `center_crop` / `pad_tensor`.  The image-space identity
`crop ∘ pad = id` that the k-space identity asks for (`hcp`) is given for tensors by `TensorLift.pads_then_center_crops_id`.
-/
namespace DirectVerif.C10
open DirectVerif DirectVerif.Crop DirectVerif.Fft

def c01Ops {X} (B : Backend X) (cfg : Cfg) (pad crop : X → X) : KOps X :=
  { fwd := fft2 B cfg, bwd := ifft2 B cfg, vc := B.viewComplex, vr := B.viewReal, pad := pad, crop := crop }

theorem crop_kspace_eq_plan {X} (B : Backend X) (cfg : Cfg) (pad crop : X → X) (k : X) :
    runPlan (c01Ops B cfg pad crop) cropKspacePlan k = fft2 B cfg (crop (ifft2 B cfg k)) := rfl

theorem pad_kspace_eq_plan {X} (B : Backend X) (cfg : Cfg) (pad crop : X → X) (k : X) :
    runPlan (c01Ops B cfg pad crop) padKspacePlan k =
      fft2 B cfg (B.viewReal (pad (B.viewComplex (ifft2 B cfg k)))) := rfl

/-- **k-space crop ≡ image crop**, for every lawful backend, every flag combination, every crop function -/
theorem kspace_crop_eq_image_crop {X} {B : Backend X} (hB : C01.Lawful B) (cfg : Cfg) (pad crop : X → X) (k : X) :
    ifft2 B cfg (runPlan (c01Ops B cfg pad crop) cropKspacePlan k) = crop (ifft2 B cfg k) :=
  crop_kspace_image_equiv (c01Ops B cfg pad crop) (fun y => C01.ifft2_fft2_id_of_lawful hB cfg y) k

/-- **k-space pad ≡ image pad** -/
theorem kspace_pad_eq_image_pad {X} {B : Backend X} (hB : C01.Lawful B) (cfg : Cfg) (pad crop : X → X) (k : X) :
    ifft2 B cfg (runPlan (c01Ops B cfg pad crop) padKspacePlan k) =
      B.viewReal (pad (B.viewComplex (ifft2 B cfg k))) :=
  pad_kspace_image_equiv (c01Ops B cfg pad crop) (fun y => C01.ifft2_fft2_id_of_lawful hB cfg y) k

/-- `hcp` concerns the backprojected image of this `k` only: shapes are whatever `k` has -/
theorem kspace_pad_crop_id {X} {B : Backend X} (hB : C01.Lawful B) (cfg : Cfg) (pad crop : X → X) (k : X)
    (hcp : crop (B.viewReal (pad (B.viewComplex (ifft2 B cfg k)))) = ifft2 B cfg k) :
    runPlan (c01Ops B cfg pad crop) cropKspacePlan (runPlan (c01Ops B cfg pad crop) padKspacePlan k) = k := by
  rw [crop_kspace_eq_plan, kspace_pad_eq_image_pad hB, hcp, C01.fft2_ifft2_id_of_lawful hB]

/-- for `C01.axesBackend`; `AxisLaws` cannot be met by the `alongAxis` liftings (see its docstring) -/
theorem kspace_pad_crop_id_axes {X} {sI sF : Nat → X → X} {F : Bool → Norm → Nat → X → X} {vC vR : X → X}
    (h : C01.AxisLaws sI sF F vC vR) (dims : List Nat) (hnd : dims.Nodup) (cfg : Cfg) (pad crop : X → X) (k : X)
    (hcp : crop (vR (pad (vC (ifft2 (axesBackend sI sF F vC vR dims) cfg k)))) = ifft2 (axesBackend sI sF F vC vR dims) cfg k) :
    runPlan (c01Ops (axesBackend sI sF F vC vR dims) cfg pad crop) cropKspacePlan
      (runPlan (c01Ops (axesBackend sI sF F vC vR dims) cfg pad crop) padKspacePlan k) = k :=
  kspace_pad_crop_id (C01.axesBackend_lawful h dims hnd) cfg pad crop k hcp

section OneAxis
variable {α : Type} (F : Bool → Norm → List α → List α)
  (hlen : ∀ inv nm xs, (F inv nm xs).length = xs.length)
include hlen

theorem runData_length (cfg : Cfg) (plan : List Step) (xs : List α) :
    (runData (listBackend F) cfg plan xs).length = xs.length := by
  unfold runData
  induction plan generalizing xs with
  | nil => rfl
  | cons st rest ih =>
    rw [List.foldl_cons]
    rw [ih]
    split
    · cases hop : st.op <;>
        simp [applyOp, listBackend, C01.fftshift1_length, C01.ifftshift1_length, hlen]
    · rfl

theorem ifft2_length (cfg : Cfg) (xs : List α) : (ifft2 (listBackend F) cfg xs).length = xs.length :=
  runData_length F hlen cfg _ xs

variable (hif : ∀ nm xs, F true nm (F false nm xs) = xs) (hfi : ∀ nm xs, F false nm (F true nm xs) = xs)
include hif hfi

/-- **one axis, no hypothesis about crop / pad**: `CropKspace(n) ∘ PadKspace(N) = id` for every `n ≤ N`, every parity of
`N - n`, every flag combination and every length-preserving inverse transform pair `F` -/
theorem kspace_pad_crop_id_1d (cfg : Cfg) (fill : α) (N : Nat) (k : List α) (h : k.length ≤ N) :
    runPlan (c01Ops (listBackend F) cfg (padTo fill N) (centerCrop k.length)) cropKspacePlan
      (runPlan (c01Ops (listBackend F) cfg (padTo fill N) (centerCrop k.length)) padKspacePlan k) = k := by
  apply kspace_pad_crop_id (C01.listBackend_lawful F hif hfi)
  show centerCrop k.length (padTo fill N (ifft2 (listBackend F) cfg k)) = _
  rw [← ifft2_length F hlen cfg k]
  exact pad_then_center_crop_id fill N _ (by rw [ifft2_length F hlen]; exact h)

theorem kspace_crop_window_1d (cfg : Cfg) (pad : List α → List α) (s : Nat) (k : List α) (i : Nat) (hi : i < s) :
    (ifft2 (listBackend F) cfg (runPlan (c01Ops (listBackend F) cfg pad (centerCrop s)) cropKspacePlan k))[i]? =
      (ifft2 (listBackend F) cfg k)[i + (k.length - s) / 2]? := by
  rw [kspace_crop_eq_image_crop (C01.listBackend_lawful F hif hfi), centerCrop_getElem?, if_pos hi, ifft2_length F hlen]

theorem kspace_pad_places_1d (cfg : Cfg) (crop : List α → List α) (fill : α) (N : Nat) (k : List α) (h : k.length ≤ N)
    (i : Nat) (hi : i < k.length) :
    (ifft2 (listBackend F) cfg (runPlan (c01Ops (listBackend F) cfg (padTo fill N) crop) padKspacePlan k))[i + (N - k.length) / 2]? =
      (ifft2 (listBackend F) cfg k)[i]? := by
  rw [kspace_pad_eq_image_pad (C01.listBackend_lawful F hif hfi)]
  show (padTo fill N (ifft2 (listBackend F) cfg k))[i + (N - k.length) / 2]? = _
  rw [← ifft2_length F hlen cfg k] at h hi ⊢
  exact pad_places fill N _ h i hi

end OneAxis

example : runPlan (c01Ops (listBackend fun _ _ (xs : List Int) => xs) ⟨true, false, true⟩ (padTo 0 6) (centerCrop 3))
    cropKspacePlan (runPlan (c01Ops (listBackend fun _ _ xs => xs) ⟨true, false, true⟩ (padTo 0 6) (centerCrop 3))
      padKspacePlan [1, 2, 3]) = [1, 2, 3] :=
  kspace_pad_crop_id_1d (fun _ _ xs => xs) (fun _ _ _ => rfl) (fun _ _ => rfl) (fun _ _ => rfl) _ 0 6 [1, 2, 3] (by decide)

section ThreeAxes
open DirectVerif.Tensor DirectVerif.TensorLift
variable {α : Type} [Inhabited α]

/-- the `(z, x, y)` form of `pad_tensor` / `PadKspace` -/
theorem pad3_then_center_crop3_id_nd (t : Tensor α) (a b c Na Nb Nc : Nat) (fill : α)
    (hwf : t.data.length = prod t.shape) (hab : a ≠ b) (hac : a ≠ c) (hbc : b ≠ c)
    (ha : a < t.shape.length) (hb : b < t.shape.length) (hc : c < t.shape.length)
    (hNa : t.shape.getD a 1 ≤ Na) (hNb : t.shape.getD b 1 ≤ Nb) (hNc : t.shape.getD c 1 ≤ Nc) :
    (((((t.alongAxis a (padTo fill Na)).alongAxis b (padTo fill Nb)).alongAxis c (padTo fill Nc)).alongAxis a
        (centerCrop (t.shape.getD a 1))).alongAxis b (centerCrop (t.shape.getD b 1))).alongAxis c
        (centerCrop (t.shape.getD c 1)) = t :=
  pads_then_center_crops_id t fill [(a, Na), (b, Nb), (c, Nc)] hwf (by simp [hab, hac, hbc])
    (by simp only [List.forall_mem_cons, List.not_mem_nil, false_imp_iff, implies_true, and_true]
        exact ⟨⟨ha, hNa⟩, ⟨hb, hNb⟩, hc, hNc⟩)

example : (((⟨[2, 2], [1, 2, 3, 4]⟩ : Tensor Nat).alongAxis 0 (padTo 0 3)).alongAxis 1 (padTo 0 5)).data =
    [0, 1, 2, 0, 0, 0, 3, 4, 0, 0, 0, 0, 0, 0, 0] := by
  rw [alongAxis_eq_alongAxisL, alongAxis_eq_alongAxisL]; decide

end ThreeAxes

end DirectVerif.C10
