import DirectVerif.Model.Dataset
import DirectVerif.Lemmas.C12List
/-!
Specifications for the dataset models of `Model/Dataset.lean` (C12) and the proofs that the executable definitions meet
them: `parse_filenames_data` is a fold whose result is `dataOf` / `volsFrom` (the latter only while no file name recurs,
because `volume_indices` is a `dict`); the context window is the integer interval `s - c … s + c` read through the file
(`entryAt`); CPython's `bisect_right` loop returns the number of entries `≤ x` on the cumulative sizes of a
`ConcatDataset`.  `Props/C12.lean` states the property on top of these.
-/
namespace DirectVerif.Dataset
open DirectVerif

theorem rangeLen_zero (a b : Int) : rangeLen a b 0 = 0 := by simp [rangeLen]

theorem lt_rangeLen_iff {a b st : Int} (hst : 0 < st) (k : Nat) : k < rangeLen a b st ↔ a + k * st < b := by
  have hk : 0 ≤ (k : Int) * st := Int.mul_nonneg (Int.natCast_nonneg k) (Int.le_of_lt hst)
  unfold rangeLen
  rw [if_pos hst]
  split
  · have h0 : 0 ≤ (b - a - 1) / st := Int.ediv_nonneg (by omega) (Int.le_of_lt hst)
    have := Int.le_ediv_iff_mul_le (a := k) (b := b - a - 1) hst
    omega
  · omega

theorem rangeLen_neg_step {a b st : Int} (hst : st < 0) : rangeLen a b st = rangeLen (-a) (-b) (-st) := by
  have h1 : ¬ 0 < st := by omega
  have h2 : 0 < -st := by omega
  have e : -b - -a - 1 = a - b - 1 := by omega
  simp only [rangeLen, h1, hst, h2, if_true, if_false, e, Int.neg_lt_neg_iff]

theorem mem_pyRange_pos (a b st x : Int) (hst : 0 < st) :
    x ∈ pyRange a b st ↔ a ≤ x ∧ x < b ∧ (x - a) % st = 0 := by
  simp only [pyRange, List.mem_map, List.mem_range, lt_rangeLen_iff hst]
  constructor
  · rintro ⟨k, hk, rfl⟩
    have h0 : 0 ≤ (k : Int) * st := Int.mul_nonneg (Int.natCast_nonneg k) (Int.le_of_lt hst)
    refine ⟨by omega, hk, ?_⟩
    rw [show a + (k : Int) * st - a = k * st by omega]
    exact Int.mul_emod_left _ _
  · rintro ⟨h1, h2, h3⟩
    obtain ⟨q, hq⟩ := Int.dvd_of_emod_eq_zero h3
    have hq0 : 0 ≤ q := by
      rcases Int.lt_or_le q 0 with h | h
      · have := Int.mul_neg_of_pos_of_neg hst h
        omega
      · exact h
    refine ⟨q.toNat, ?_⟩
    rw [Int.toNat_of_nonneg hq0, Int.mul_comm]
    omega

theorem mem_pyRange_neg (a b st x : Int) (hst : st < 0) :
    x ∈ pyRange a b st ↔ b < x ∧ x ≤ a ∧ (a - x) % (-st) = 0 := by
  have hm : x ∈ pyRange a b st ↔ -x ∈ pyRange (-a) (-b) (-st) := by
    simp only [pyRange, List.mem_map, rangeLen_neg_step hst, Int.mul_neg]
    constructor
    · rintro ⟨k, hk, e⟩
      exact ⟨k, hk, by omega⟩
    · rintro ⟨k, hk, e⟩
      exact ⟨k, hk, by omega⟩
  rw [hm, mem_pyRange_pos _ _ _ _ (by omega), show -x - -a = a - x by omega]
  omega

theorem pyRange_nodup (a b st : Int) : (pyRange a b st).Nodup := by
  unfold pyRange
  by_cases hst : st = 0
  · subst hst; rw [rangeLen_zero]; simp
  · rw [List.nodup_iff_pairwise_ne, List.pairwise_map]
    refine List.Pairwise.imp ?_ (List.pairwise_lt_range)
    intro i j hij h
    have := Int.eq_of_mul_eq_mul_right hst (show (i : Int) * st = (j : Int) * st by omega)
    omega

theorem pyRange_length (a b st : Int) : (pyRange a b st).length = rangeLen a b st := by
  simp [pyRange]

theorem sliceIndices_step (sl : PySliceT) (n : Int) : (sliceIndices sl n).2.2 = sl.step.getD 1 := rfl

/-- CPython's clipping of a slice bound into `[lo, up]`; `(lo, up)` is `(0, n)` for a positive and `(-1, n - 1)` for a
negative step -/
theorem clip_bounds {n lo up : Int} (h1 : lo ≤ 0) (h2 : n - 1 ≤ up) (h3 : lo ≤ up) (v : Int) :
    lo ≤ (if v < 0 then max (v + n) lo else min v up) ∧ (if v < 0 then max (v + n) lo else min v up) ≤ up := by
  split <;> omega

theorem sliceIndices_bounds (sl : PySliceT) (n : Int) (hn : 0 ≤ n) :
    (0 < (sliceIndices sl n).2.2 → 0 ≤ (sliceIndices sl n).1 ∧ (sliceIndices sl n).2.1 ≤ n) ∧
    ((sliceIndices sl n).2.2 < 0 → (sliceIndices sl n).1 ≤ n - 1 ∧ -1 ≤ (sliceIndices sl n).2.1) := by
  obtain ⟨a, b, s⟩ := sl
  have hp : ∀ v : Int, _ := clip_bounds (n := n) (lo := 0) (up := n) (Int.le_refl 0) (by omega) hn
  have hm : ∀ v : Int, _ := clip_bounds (n := n) (lo := -1) (up := n - 1) (by omega) (Int.le_refl _) (by omega)
  refine ⟨fun h => ?_, fun h => ?_⟩
  · have h' : ¬ s.getD 1 < 0 := Int.not_lt.2 (Int.le_of_lt h)
    simp only [sliceIndices, h', if_false]
    -- an absent bound is `lo` / `up` itself, a given one is clipped; cases: start absent/given × stop absent/given
    cases a <;> cases b
    · exact ⟨Int.le_refl _, Int.le_refl _⟩
    · exact ⟨Int.le_refl _, (hp _).2⟩
    · exact ⟨(hp _).1, Int.le_refl _⟩
    · exact ⟨(hp _).1, (hp _).2⟩
  · have h' : s.getD 1 < 0 := h
    simp only [sliceIndices, h', if_true]
    cases a <;> cases b
    · exact ⟨Int.le_refl _, Int.le_refl _⟩
    · exact ⟨Int.le_refl _, (hm _).1⟩
    · exact ⟨(hm _).2, Int.le_refl _⟩
    · exact ⟨(hm _).2, (hm _).1⟩

theorem pyRange_mem_bounds (sl : PySliceT) (n : Nat) (x : Int)
    (hx : x ∈ pyRange (sliceIndices sl n).1 (sliceIndices sl n).2.1 (sliceIndices sl n).2.2) :
    0 ≤ x ∧ x < n := by
  have hb := sliceIndices_bounds sl n (Int.natCast_nonneg n)
  rcases Int.lt_trichotomy 0 (sliceIndices sl n).2.2 with h | h | h
  · have := (mem_pyRange_pos _ _ _ _ h).1 hx
    have := hb.1 h
    omega
  · rw [← h, pyRange, rangeLen_zero] at hx
    cases hx
  · have := (mem_pyRange_neg _ _ _ _ h).1 hx
    have := hb.2 h
    omega

theorem filter_contains_length (l : List Int) (n : Nat) (hnd : l.Nodup)
    (hb : ∀ x ∈ l, 0 ≤ x ∧ x < n) :
    ((List.range n).filter fun (x : Nat) => l.contains (x : Int)).length = l.length := by
  have hm : (((List.range n).filter fun (x : Nat) => l.contains (x : Int)).map Int.ofNat).Perm l := by
    rw [List.perm_ext_iff_of_nodup _ hnd]
    · intro y
      simp only [List.mem_map, List.mem_filter, List.mem_range, List.contains_iff_mem]
      constructor
      · rintro ⟨x, ⟨_, hx⟩, rfl⟩; exact hx
      · intro hy
        have := hb y hy
        exact ⟨y.toNat, ⟨by omega, by rw [Int.toNat_of_nonneg this.1]; exact hy⟩, Int.toNat_of_nonneg this.1⟩
    · rw [List.nodup_iff_pairwise_ne, List.pairwise_map]
      refine List.Pairwise.imp ?_ ((List.pairwise_lt_range).filter _)
      intro i j hij h
      have : (i : Int) = (j : Int) := h
      omega
  simpa using hm.length_eq

/-- `len(admissible_indices)` (what `volume_indices` is advanced by) is the number of slices that enter `self.data` -/
theorem numSlices_eq_length (filt : Option PySliceT) (n : Nat) :
    numSlices filt n = (sliceList filt n).length := by
  cases filt with
  | none => simp [numSlices, sliceList]
  | some sl =>
    simp only [numSlices, sliceList]
    rw [filter_contains_length _ n (pyRange_nodup _ _ _) (pyRange_mem_bounds sl n), pyRange_length]

/-! ### `parse_filenames_data`: specification and fold invariant -/

/-- the readable files (those whose `h5py.File(...)['kspace'].shape` does not raise `OSError`) -/
def readable {φ : Type} (files : List (φ × Option Nat)) : List (φ × Nat) :=
  files.filterMap fun x => x.2.map fun n => (x.1, n)

/-- specification of `self.data`: volume after volume, the admissible slices in increasing order -/
def dataOf {φ : Type} (filt : Option PySliceT) (vs : List (φ × Nat)) : List (φ × Nat) :=
  vs.flatMap fun x => (sliceList filt x.2).map fun s => (x.1, s)

/-- specification of `self.volume_indices`: consecutive ranges, one per readable file -/
def volsFrom {φ : Type} (filt : Option PySliceT) : Nat → List (φ × Nat) → List (φ × Nat × Nat)
  | _, [] => []
  | c, x :: r => (x.1, c, c + (sliceList filt x.2).length) :: volsFrom filt (c + (sliceList filt x.2).length) r

/-- consecutive ranges from `s` to `e`; empty ranges (a volume with no admissible slice) are allowed -/
def Contiguous {φ : Type} : Nat → List (φ × Nat × Nat) → Nat → Prop
  | s, [], e => s = e
  | s, v :: r, e => v.2.1 = s ∧ v.2.1 ≤ v.2.2 ∧ Contiguous v.2.2 r e

theorem dictSet_fresh {φ : Type} [DecidableEq φ] (d : List (φ × Nat × Nat)) (f : φ) (v : Nat × Nat)
    (h : f ∉ d.map (·.1)) : dictSet d f v = d ++ [(f, v)] := by
  have : d.any (fun x => x.1 == f) = false := by
    rw [List.any_eq_false]
    intro x hx hxf
    exact h (List.mem_map.mpr ⟨x, hx, by simpa using hxf⟩)
  simp [dictSet, this]

/-- the loop invariant of `parse_filenames_data`, from any intermediate state: `self.data` and the slice counter follow
the specification unconditionally; `volume_indices` does as long as no name recurs (the `dict` is then filled by
appending) -/
theorem parse_fold {φ : Type} [DecidableEq φ] (filt : Option PySliceT) (files : List (φ × Option Nat))
    (st : Parsed φ) :
    (files.foldl (parseStep filt) st).data = st.data ++ dataOf filt (readable files) ∧
    (files.foldl (parseStep filt) st).cur = st.cur + (dataOf filt (readable files)).length ∧
    ((st.vols.map (·.1) ++ (readable files).map (·.1)).Nodup →
      (files.foldl (parseStep filt) st).vols = st.vols ++ volsFrom filt st.cur (readable files)) := by
  induction files generalizing st with
  | nil => simp [readable, dataOf, volsFrom]
  | cons x xs ih =>
    obtain ⟨f, _ | n⟩ := x
    · -- an unreadable file: `continue`, the state is untouched
      exact ih st
    · -- a readable file `(f, n)`: one step, then the invariant for the rest from the new state
      obtain ⟨h1, h2, h3⟩ := ih (parseStep filt st (f, some n))
      have e : readable ((f, some n) :: xs) = (f, n) :: readable xs := rfl
      rw [List.foldl_cons, e, h1, h2]
      refine ⟨?_, ?_, fun hnd => ?_⟩
      · simp [parseStep, dataOf]
      · simp [parseStep, dataOf, numSlices_eq_length]
        omega
      · -- `f` is not yet a key, so the `dict` assignment appends
        have hf : f ∉ st.vols.map (·.1) := fun hmem =>
          (List.nodup_append.1 hnd).2.2 f hmem f (List.mem_cons_self ..) rfl
        have hv : (parseStep filt st (f, some n)).vols = st.vols ++ [(f, st.cur, st.cur + numSlices filt n)] :=
          dictSet_fresh _ _ _ hf
        have hnd' : ((parseStep filt st (f, some n)).vols.map (·.1) ++ (readable xs).map (·.1)).Nodup := by
          rw [hv]
          simpa [List.append_assoc] using hnd
        rw [h3 hnd', hv]
        simp [parseStep, volsFrom, numSlices_eq_length]

theorem parse_data_spec {φ : Type} [DecidableEq φ] (files : List (φ × Option Nat)) (filt : Option PySliceT) :
    (parseFilenames files filt).data = dataOf filt (readable files) := by
  simpa [parseFilenames] using (parse_fold filt files ({} : Parsed φ)).1

theorem parse_vols_spec {φ : Type} [DecidableEq φ] (files : List (φ × Option Nat)) (filt : Option PySliceT)
    (hnd : ((readable files).map (·.1)).Nodup) :
    (parseFilenames files filt).vols = volsFrom filt 0 (readable files) := by
  simpa [parseFilenames] using (parse_fold filt files ({} : Parsed φ)).2.2 (by simpa using hnd)

theorem readable_map_fst {φ : Type} (fs : List φ) (nOf : φ → Option Nat) :
    (readable (fs.map fun f => (f, nOf f))).map (·.1) = fs.filter fun f => (nOf f).isSome := by
  induction fs with
  | nil => rfl
  | cons f r ih =>
    cases h : nOf f <;> simp [readable, h] at ih ⊢ <;> exact ih

theorem readable_map_nodup {φ : Type} (fs : List φ) (nOf : φ → Option Nat) (h : fs.Nodup) :
    ((readable (fs.map fun f => (f, nOf f))).map (·.1)).Nodup := by
  rw [readable_map_fst]
  exact h.sublist List.filter_sublist

theorem volsFrom_length {φ : Type} (filt : Option PySliceT) (c : Nat) (vs : List (φ × Nat)) :
    (volsFrom filt c vs).length = vs.length := by
  induction vs generalizing c with
  | nil => rfl
  | cons x r ih => simp [volsFrom, ih]

theorem volsFrom_map_fst {φ : Type} (filt : Option PySliceT) (c : Nat) (vs : List (φ × Nat)) :
    (volsFrom filt c vs).map (·.1) = vs.map (·.1) := by
  induction vs generalizing c with
  | nil => rfl
  | cons x r ih => simp [volsFrom, ih]

theorem volsFrom_getElem? {φ : Type} (filt : Option PySliceT) (c : Nat) (vs : List (φ × Nat)) (k : Nat)
    (hk : k < vs.length) :
    (volsFrom filt c vs)[k]? = some (vs[k].1, c + ((vs.take k).map fun x => (sliceList filt x.2).length).sum,
      c + ((vs.take k).map fun x => (sliceList filt x.2).length).sum + (sliceList filt vs[k].2).length) := by
  induction vs generalizing c k with
  | nil => simp at hk
  | cons x r ih =>
    cases k with
    | zero => simp [volsFrom]
    | succ k =>
      rw [volsFrom, List.getElem?_cons_succ, ih _ k (Nat.lt_of_succ_lt_succ hk)]
      simp [Nat.add_assoc]

theorem dataOf_getElem? {φ : Type} (filt : Option PySliceT) (vs : List (φ × Nat)) (k : Nat) (hk : k < vs.length)
    (r : Nat) (hr : r < (sliceList filt vs[k].2).length) :
    (dataOf filt vs)[((vs.take k).map fun x => (sliceList filt x.2).length).sum + r]? =
      some (vs[k].1, (sliceList filt vs[k].2)[r]) := by
  have := getElem?_flatMap_block (fun x : φ × Nat => (sliceList filt x.2).map fun s => (x.1, s)) vs k hk r
    (by simpa using hr)
  simp only [List.length_map] at this
  rw [dataOf, this, List.getElem?_map, List.getElem?_eq_getElem hr]
  rfl

theorem volsFrom_contiguous {φ : Type} (filt : Option PySliceT) (c : Nat) (vs : List (φ × Nat)) :
    Contiguous c (volsFrom filt c vs) (c + (dataOf filt vs).length) := by
  induction vs generalizing c with
  | nil => simp [volsFrom, dataOf, Contiguous]
  | cons x r ih =>
    have e : (dataOf filt (x :: r)).length = (sliceList filt x.2).length + (dataOf filt r).length := by
      simp [dataOf]
    rw [e, ← Nat.add_assoc]
    exact ⟨rfl, Nat.le_add_right _ _, ih _⟩

theorem contiguous_le {φ : Type} {s e : Nat} {vols : List (φ × Nat × Nat)} (h : Contiguous s vols e) : s ≤ e := by
  induction vols generalizing s with
  | nil => exact Nat.le_of_eq h
  | cons v r ih => exact h.1 ▸ Nat.le_trans h.2.1 (ih h.2.2)

theorem contiguous_bounds {φ : Type} {s e : Nat} {vols : List (φ × Nat × Nat)} (h : Contiguous s vols e) (k : Nat)
    (hk : k < vols.length) : s ≤ vols[k].2.1 ∧ vols[k].2.2 ≤ e := by
  induction vols generalizing s k with
  | nil => simp at hk
  | cons v r ih =>
    obtain ⟨h1, h2, h3⟩ := h
    cases k with
    | zero => exact ⟨Nat.le_of_eq h1.symm, contiguous_le h3⟩
    | succ k =>
      have := ih h3 k (Nat.lt_of_succ_lt_succ hk)
      exact ⟨by rw [← h1]; exact Nat.le_trans h2 this.1, this.2⟩

theorem contiguous_unique_range {φ : Type} {s e : Nat} {vols : List (φ × Nat × Nat)} (h : Contiguous s vols e)
    (i : Nat) (hs : s ≤ i) (he : i < e) :
    ∃ k, (∃ hk : k < vols.length, vols[k].2.1 ≤ i ∧ i < vols[k].2.2) ∧
      ∀ k', (∃ hk' : k' < vols.length, vols[k'].2.1 ≤ i ∧ i < vols[k'].2.2) → k' = k := by
  induction vols generalizing s with
  | nil => exact absurd (Nat.lt_of_le_of_lt hs he) (Nat.lt_irrefl _ ∘ (h ▸ ·))
  | cons v r ih =>
    obtain ⟨h1, h2, h3⟩ := h
    by_cases hi : i < v.2.2
    · refine ⟨0, ⟨Nat.zero_lt_succ _, h1 ▸ hs, hi⟩, ?_⟩
      rintro (_ | k') ⟨hk', g1, _⟩
      · rfl
      · -- a later range starts at or after the end of the first
        have := (contiguous_bounds h3 k' (Nat.lt_of_succ_lt_succ hk')).1
        exact absurd (Nat.lt_of_lt_of_le hi (Nat.le_trans this g1)) (Nat.lt_irrefl _)
    · obtain ⟨k, ⟨hk, g⟩, hu⟩ := ih h3 (Nat.le_of_not_lt hi)
      refine ⟨k + 1, ⟨Nat.succ_lt_succ hk, g⟩, ?_⟩
      rintro (_ | k') ⟨hk', g1, g2⟩
      · exact absurd g2 hi
      · rw [hu k' ⟨Nat.lt_of_succ_lt_succ hk', g1, g2⟩]

theorem readSlices_length (lo hi : Int) : (readSlices lo hi).length = (hi - lo).toNat := by
  simp [readSlices, irange_length]

/-- what stands at integer position `p` along the slice axis of a file with `n` slices: slice `p` when that lies in the
file, a block of zeros otherwise -/
def entryAt (n : Nat) (p : Int) : Entry := if 0 ≤ p ∧ p < n then Entry.slice p.toNat else Entry.zero

theorem map_entryAt_outside (n : Nat) {a b : Int} (h : ∀ p, a ≤ p → p < b → p < 0 ∨ n ≤ p) :
    (irange a b).map (entryAt n) = List.replicate (b - a).toNat Entry.zero := by
  rw [List.eq_replicate_iff]
  refine ⟨by rw [List.length_map, irange_length], fun e he => ?_⟩
  obtain ⟨p, hp, rfl⟩ := List.mem_map.mp he
  rw [mem_irange] at hp
  exact if_neg (by have := h p hp.1 hp.2; omega)

theorem map_entryAt_inside (n : Nat) {a b : Int} (ha : 0 ≤ a) (hb : b ≤ n) :
    (irange a b).map (entryAt n) = readSlices a b := by
  apply List.map_congr_left
  intro p hp
  rw [mem_irange] at hp
  exact if_pos (by omega)

/-- zero blocks that are skipped only when they would be empty may as well always be added -/
theorem guarded_fill {α : Type} (z : α) (cur : List α) (short g₁ g₂ : Bool) (k₁ k₂ : Nat)
    (hs : short = false → g₁ = false ∧ g₂ = false) (h₁ : g₁ = false → k₁ = 0) (h₂ : g₂ = false → k₂ = 0) :
    (if short then
        (if g₂ then (if g₁ then List.replicate k₁ z ++ cur else cur) ++ List.replicate k₂ z
         else (if g₁ then List.replicate k₁ z ++ cur else cur))
      else cur) = List.replicate k₁ z ++ (cur ++ List.replicate k₂ z) := by
  cases short
  · obtain ⟨rfl, rfl⟩ := hs rfl
    simp [h₁ rfl, h₂ rfl]
  · cases g₁ <;> cases g₂ <;> simp [h₁, h₂]

/-- the assembled stack is the integer positions `s - c, …, s + c` read through the file: the clipped read is the
part of that interval inside `[0, n)`, the two zero blocks are the parts before `0` and from `n` on -/
theorem getSliceWindow_eq (c n s : Nat) (hs : s < n) :
    getSliceWindow c n s = (irange ((s : Int) - c) (s + c + 1)).map (entryAt n) := by
  have hlo : (s : Int) - c ≤ windowLo s c := Int.le_max_right _ _
  have hhi : windowHi s c n ≤ s + c + 1 := Int.min_le_left _ _
  have hlh : windowLo s c ≤ windowHi s c n := by unfold windowLo windowHi; omega
  have h0 : 0 ≤ windowLo s c := Int.le_max_left _ _
  have hn : windowHi s c n ≤ n := Int.min_le_right _ _
  rw [← irange_append hlo (Int.le_trans hlh hhi), ← irange_append hlh hhi, List.map_append, List.map_append,
    map_entryAt_outside n (fun p _ h => by unfold windowLo at h; omega),
    map_entryAt_inside n h0 hn,
    map_entryAt_outside n (fun p h _ => by unfold windowHi at h; omega)]
  have hb : (fillBeforeLen s c).toNat = (windowLo s c - (s - c)).toNat := by unfold fillBeforeLen windowLo; omega
  have ha : (fillAfterLen s c n).toNat = ((s : Int) + c + 1 - windowHi s c n).toNat := by
    unfold fillAfterLen windowHi; omega
  rw [← hb, ← ha]
  refine guarded_fill _ _ _ _ _ _ _ ?_ ?_ ?_
  · -- a read of full length `2c + 1` forces `lo = s - c` and `hi = s + c + 1`, both inside the file
    simp only [windowShort, readSlices_length, fillBeforeGuard, fillAfterGuard, decide_eq_false_iff_not]
    omega
  · simp only [fillBeforeGuard, fillBeforeLen, decide_eq_false_iff_not]; omega
  · simp only [fillAfterGuard, fillAfterLen, decide_eq_false_iff_not]; omega

theorem window_pinned_violates : (getSliceWindowPinned 1 3 0).length ≠ 2 * 1 + 1 := by decide
theorem window_pinned_violates' : (getSliceWindowPinned 1 2 1).length ≠ 2 * 1 + 1 := by decide
example : getSliceWindow 1 3 0 = [.zero, .slice 0, .slice 1] := by decide
example : getSliceWindow 2 2 1 = [.zero, .slice 0, .slice 1, .zero, .zero] := by decide
example : getSliceWindow 3 1 0 = [.zero, .zero, .zero, .slice 0, .zero, .zero, .zero] := by decide

theorem insertSorted_perm {φ : Type} (le : φ → φ → Bool) (x : φ) (l : List φ) :
    (insertSorted le x l).Perm (x :: l) := by
  induction l with
  | nil => exact List.Perm.refl _
  | cons y ys ih =>
    unfold insertSorted
    split
    · exact List.Perm.refl _
    · exact ((List.Perm.cons y ih).trans (List.Perm.swap x y ys))

theorem sortFiles_perm {φ : Type} (le : φ → φ → Bool) (l : List φ) : (sortFiles le l).Perm l := by
  induction l with
  | nil => exact List.Perm.refl _
  | cons x xs ih => exact (insertSorted_perm le x _).trans (List.Perm.cons x ih)

theorem insertSorted_sorted {φ : Type} (le : φ → φ → Bool) (htot : ∀ a b, le a b = true ∨ le b a = true)
    (htr : ∀ a b c, le a b = true → le b c = true → le a c = true) (x : φ) (l : List φ)
    (hl : l.Pairwise (fun a b => le a b = true)) : (insertSorted le x l).Pairwise (fun a b => le a b = true) := by
  induction l with
  | nil => simp [insertSorted]
  | cons y ys ih =>
    unfold insertSorted
    rw [List.pairwise_cons] at hl
    split
    · rename_i hxy
      rw [List.pairwise_cons]
      refine ⟨?_, List.pairwise_cons.mpr hl⟩
      intro b hb
      rcases List.mem_cons.mp hb with rfl | hb
      · exact hxy
      · exact htr _ _ _ hxy (hl.1 b hb)
    · rename_i hxy
      have hyx : le y x = true := (htot x y).resolve_left hxy
      rw [List.pairwise_cons]
      refine ⟨?_, ih hl.2⟩
      intro b hb
      rcases List.mem_cons.mp ((insertSorted_perm le x ys).mem_iff.mp hb) with rfl | hb
      · exact hyx
      · exact hl.1 b hb

theorem sortFiles_sorted {φ : Type} (le : φ → φ → Bool) (htot : ∀ a b, le a b = true ∨ le b a = true)
    (htr : ∀ a b c, le a b = true → le b c = true → le a c = true) (l : List φ) :
    (sortFiles le l).Pairwise (fun a b => le a b = true) := by
  induction l with
  | nil => simp [sortFiles]
  | cons x xs ih => exact insertSorted_sorted le htot htr x _ ih

theorem sortFiles_eq_of_perm {φ : Type} (le : φ → φ → Bool) (htot : ∀ a b, le a b = true ∨ le b a = true)
    (htr : ∀ a b c, le a b = true → le b c = true → le a c = true)
    (hanti : ∀ a b, le a b = true → le b a = true → a = b) (l l' : List φ) (h : l.Perm l') :
    sortFiles le l = sortFiles le l' :=
  List.Perm.eq_of_pairwise (le := fun a b => le a b = true) (fun a b _ _ => hanti a b)
    (sortFiles_sorted le htot htr l) (sortFiles_sorted le htot htr l')
    ((sortFiles_perm le l).trans (h.trans (sortFiles_perm le l').symm))

theorem mem_dedupFirst {φ : Type} [DecidableEq φ] (l : List φ) (x : φ) : x ∈ dedupFirst l ↔ x ∈ l := by
  induction l with
  | nil => simp [dedupFirst]
  | cons y ys ih =>
    simp only [dedupFirst, List.mem_cons, List.mem_filter, ih, decide_eq_true_eq]
    by_cases h : x = y <;> simp [h]

theorem dedupFirst_nodup {φ : Type} [DecidableEq φ] (l : List φ) : (dedupFirst l).Nodup := by
  induction l with
  | nil => simp [dedupFirst]
  | cons y ys ih =>
    simp only [dedupFirst, List.nodup_cons, List.mem_filter, decide_eq_true_eq]
    exact ⟨fun h => h.2 rfl, ih.sublist List.filter_sublist⟩

theorem dedupFirst_of_nodup {φ : Type} [DecidableEq φ] (l : List φ) (h : l.Nodup) : dedupFirst l = l := by
  induction l with
  | nil => rfl
  | cons y ys ih =>
    rw [List.nodup_cons] at h
    simp only [dedupFirst, ih h.2]
    congr 1
    rw [List.filter_eq_self]
    intro a ha
    simp only [decide_eq_true_eq]
    intro e; subst e; exact h.1 ha

theorem cumsumFrom_length (t : Nat) (sizes : List Nat) : (cumsumFrom t sizes).length = sizes.length := by
  induction sizes generalizing t with
  | nil => rfl
  | cons l ls ih => simp [cumsumFrom, ih]

theorem cumsumFrom_getElem? (t : Nat) (sizes : List Nat) (k : Nat) :
    (cumsumFrom t sizes)[k]? = if k < sizes.length then some (t + (sizes.take (k + 1)).sum) else none := by
  induction sizes generalizing t k with
  | nil => simp [cumsumFrom]
  | cons l ls ih =>
    cases k with
    | zero => simp [cumsumFrom]; omega
    | succ k =>
      simp only [cumsumFrom, List.getElem?_cons_succ, ih, List.length_cons, Nat.add_lt_add_iff_right,
        List.take_succ_cons, List.sum_cons]
      split <;> simp <;> omega

theorem cumsum_getLast (sizes : List Nat) : ((cumsum sizes).getLast?.getD 0 : Nat) = sizes.sum := by
  rw [List.getLast?_eq_getElem?, cumsum, cumsumFrom_length, cumsumFrom_getElem?]
  cases sizes with
  | nil => rfl
  | cons l ls => simp

theorem cumsumFrom_sorted (t : Nat) (sizes : List Nat) :
    (cumsumFrom t sizes).Pairwise (· ≤ ·) ∧ ∀ v ∈ cumsumFrom t sizes, t ≤ v ∧ v ≤ t + sizes.sum := by
  induction sizes generalizing t with
  | nil => simp [cumsumFrom]
  | cons l ls ih =>
    obtain ⟨h1, h2⟩ := ih (t + l)
    simp only [cumsumFrom, List.pairwise_cons, List.mem_cons, List.sum_cons]
    refine ⟨⟨?_, h1⟩, ?_⟩
    · intro v hv; have := h2 v hv; omega
    · rintro v (rfl | hv)
      · omega
      · have := h2 v hv; omega

theorem bisectRight_le_length (xs : List Nat) (x : Int) : bisectRight xs x ≤ xs.length :=
  (List.takeWhile_sublist _).length_le

theorem bisectRight_lt_iff (xs : List Nat) (x : Int) (hs : xs.Pairwise (· ≤ ·)) (i : Nat) (hi : i < xs.length) :
    i < bisectRight xs x ↔ ((xs[i] : Nat) : Int) ≤ x := by
  unfold bisectRight
  induction xs generalizing i with
  | nil => simp at hi
  | cons a as ih =>
    rw [List.pairwise_cons] at hs
    simp only [List.takeWhile_cons]
    by_cases ha : (a : Int) ≤ x
    · simp only [ha, decide_true, if_true, List.length_cons]
      cases i with
      | zero => simp [ha]
      | succ i =>
        have := ih hs.2 i (Nat.lt_of_succ_lt_succ hi)
        simp only [List.getElem_cons_succ]
        omega
    · simp only [ha, decide_false, Bool.false_eq_true, if_false, List.length_nil, Nat.not_lt_zero, false_iff]
      cases i with
      | zero => exact ha
      | succ i =>
        have := hs.1 (as[i]'(Nat.lt_of_succ_lt_succ hi)) (List.getElem_mem _)
        simp only [List.getElem_cons_succ]
        omega

/-- loop invariant of the binary search: `lo ≤ count ≤ hi`; it ends with `lo = count` -/
theorem bisectLoop_eq (xs : List Nat) (x : Int) (hs : xs.Pairwise (· ≤ ·)) :
    ∀ fuel lo hi, lo ≤ bisectRight xs x → bisectRight xs x ≤ hi → hi ≤ xs.length → hi - lo ≤ fuel →
      bisectLoop xs x fuel lo hi = bisectRight xs x := by
  intro fuel
  induction fuel with
  | zero => intro lo hi h1 h2 _ h4; simp only [bisectLoop]; omega
  | succ fuel ih =>
    intro lo hi h1 h2 h3 h4
    simp only [bisectLoop]
    split
    · rename_i hlt
      have hm : lo ≤ (lo + hi) / 2 ∧ (lo + hi) / 2 < hi := by omega
      generalize (lo + hi) / 2 = mid at hm
      have hml : mid < xs.length := Nat.lt_of_lt_of_le hm.2 h3
      rw [show xs.getD mid 0 = xs[mid] by simp [List.getD, List.getElem?_eq_getElem hml]]
      -- the comparison `x < xs[mid]` says on which side of `mid` the count lies
      have key := bisectRight_lt_iff xs x hs mid hml
      split
      · exact ih lo mid h1 (by omega) (by omega) (by omega)
      · exact ih (mid + 1) hi (by omega) h2 h3 (by omega)
    · omega

/-- `bisect.bisect_right` as CPython computes it is the number of elements `≤ x`, for every non-decreasing list -/
theorem bisectRightBin_eq_count (xs : List Nat) (x : Int) (hs : xs.Pairwise (· ≤ ·)) :
    bisectRightBin xs x = bisectRight xs x :=
  bisectLoop_eq xs x hs xs.length 0 xs.length (Nat.zero_le _) (bisectRight_le_length xs x) (Nat.le_refl _)
    (Nat.sub_le _ _)

theorem bisect_spec (sizes : List Nat) (t idx : Nat) (h1 : t ≤ idx) (h2 : idx < t + sizes.sum) :
    bisectRight (cumsumFrom t sizes) idx < sizes.length ∧
    t + (sizes.take (bisectRight (cumsumFrom t sizes) idx)).sum ≤ idx ∧
    idx < t + (sizes.take (bisectRight (cumsumFrom t sizes) idx + 1)).sum := by
  induction sizes generalizing t with
  | nil => simp at h2; omega
  | cons l ls ih =>
    unfold bisectRight at *
    simp only [cumsumFrom, List.takeWhile_cons]
    by_cases hl : ((l + t : Nat) : Int) ≤ (idx : Int)
    · simp only [hl, decide_true, if_true, List.length_cons]
      have := ih (t + l) (by omega) (by simp at h2; omega)
      simp only [List.take_succ_cons, List.sum_cons]
      omega
    · simp only [hl, decide_false]
      simp; omega

theorem bisect_high (sizes : List Nat) (t : Nat) (x : Int) (h : ((t + sizes.sum : Nat) : Int) ≤ x) :
    bisectRight (cumsumFrom t sizes) x = sizes.length := by
  have : (cumsumFrom t sizes).takeWhile (fun (v : Nat) => decide ((v : Int) ≤ x)) = cumsumFrom t sizes := by
    apply takeWhile_of_all
    intro v hv
    have := (cumsumFrom_sorted t sizes).2 v hv
    simp; omega
  rw [bisectRight, this, cumsumFrom_length]

theorem locate_natCast (sizes : List Nat) (idx : Nat) :
    locate sizes idx = if bisectRight (cumsum sizes) idx < sizes.length then
      .ok (bisectRight (cumsum sizes) idx, idx - (sizes.take (bisectRight (cumsum sizes) idx)).sum)
      else .error .indexError := by
  have hnn : ¬ ((idx : Int) < 0) := Int.not_lt.2 (Int.natCast_nonneg idx)
  have hbin := bisectRightBin_eq_count (cumsum sizes) idx (cumsumFrom_sorted 0 sizes).1
  simp only [locate, hnn, false_and, if_false, hbin]
  split
  · rename_i hd
    congr 2
    generalize bisectRight (cumsum sizes) idx = d at hd
    cases d with
    | zero => simp [concatSampleIdx]
    | succ d =>
      have hd' : d < sizes.length := Nat.lt_of_succ_lt hd
      rw [concatSampleIdx, if_neg (by omega), Nat.add_sub_cancel, cumsum, cumsumFrom_getElem?, if_pos hd',
        Option.getD_some, Nat.zero_add, Int.toNat_sub]
  · rfl

theorem concat_locate_spec (sizes : List Nat) (idx : Nat) (h : idx < sizes.sum) :
    ∃ d j, locate sizes idx = .ok (d, j) ∧ ∃ hd : d < sizes.length, j < sizes[d] ∧
      idx = (sizes.take d).sum + j := by
  obtain ⟨b1, b2, b3⟩ := bisect_spec sizes 0 idx (Nat.zero_le _) (by omega)
  rw [sum_take_succ _ _ b1] at b3
  exact ⟨_, _, by rw [locate_natCast, cumsum, if_pos b1], b1, by omega, by omega⟩

theorem concat_negative (sizes : List Nat) (idx : Int) (h0 : idx < 0) (h1 : -(sizes.sum : Int) ≤ idx) :
    locate sizes idx = locate sizes ((sizes.sum : Int) + idx) := by
  have hnn : ¬ ((sizes.sum : Int) + idx < 0) := by omega
  have : ¬ (-idx > (sizes.sum : Int)) := by omega
  simp only [locate, cumsum_getLast, concatNegReject, concatNegIdx, h0, hnn, this, true_and, false_and, if_true,
    if_false, decide_eq_true_eq]

theorem concat_rejects_below (sizes : List Nat) (idx : Int) (h : idx < -(sizes.sum : Int)) :
    locate sizes idx = .error .valueError := by
  have h0 : idx < 0 := by omega
  have : -idx > (sizes.sum : Int) := by omega
  simp only [locate, cumsum_getLast, concatNegReject, h0, this, decide_true, and_self, if_true]

/-- at or above `len`: `bisect_right` returns `len(self.datasets)` and `self.datasets[dataset_idx]` raises `IndexError` -/
theorem concat_rejects_above (sizes : List Nat) (idx : Int) (h : (sizes.sum : Int) ≤ idx) :
    locate sizes idx = .error .indexError := by
  obtain ⟨i, rfl⟩ := Int.eq_ofNat_of_zero_le (show 0 ≤ idx by omega)
  rw [locate_natCast, cumsum, bisect_high sizes 0 i (by simpa using h), if_neg (Nat.lt_irrefl _)]

theorem flatPairsFrom_length (d0 : Nat) (sizes : List Nat) : (flatPairsFrom d0 sizes).length = sizes.sum := by
  induction sizes generalizing d0 with
  | nil => rfl
  | cons n ns ih => simp [flatPairsFrom, ih]

/-- the flat enumeration lists member `d`'s items from position `sizes[0] + … + sizes[d-1]` on -/
theorem flatPairsFrom_getElem? (d0 : Nat) (sizes : List Nat) (d j : Nat) (hd : d < sizes.length) (hj : j < sizes[d]) :
    (flatPairsFrom d0 sizes)[(sizes.take d).sum + j]? = some (d0 + d, j) := by
  induction sizes generalizing d0 d with
  | nil => simp at hd
  | cons n ns ih =>
    cases d with
    | zero =>
      have hj' : j < n := hj
      rw [flatPairsFrom, List.take_zero, List.sum_nil, Nat.zero_add,
        List.getElem?_append_left (by simpa using hj'), List.getElem?_map, List.getElem?_range hj']
      rfl
    | succ d =>
      rw [flatPairsFrom, List.take_succ_cons, List.sum_cons, Nat.add_assoc,
        List.getElem?_append_right (by simp), List.length_map, List.length_range, Nat.add_sub_cancel_left,
        ih (d0 + 1) d (Nat.lt_of_succ_lt_succ hd) hj, Nat.add_assoc, Nat.add_comm 1 d]

theorem pyIndex_natCast {α : Type} (xs : List α) (i : Nat) (x : α) (h : xs[i]? = some x) :
    pyIndex xs (i : Int) = .ok x := by
  have h0 : ¬ ((i : Int) < 0) := Int.not_lt.2 (Int.natCast_nonneg i)
  simp only [pyIndex, h0, if_false, Int.toNat_natCast, h]

theorem pyIndex_neg {α : Type} (xs : List α) (k : Nat) (hk : k < xs.length) :
    pyIndex xs (-((k : Int) + 1)) = pyIndex xs ((xs.length - 1 - k : Nat) : Int) := by
  have h0 : -((k : Int) + 1) < 0 := by omega
  have h1 : ¬ (((xs.length - 1 - k : Nat) : Int) < 0) := Int.not_lt.2 (Int.natCast_nonneg _)
  have e : -((k : Int) + 1) + (xs.length : Int) = ((xs.length - 1 - k : Nat) : Int) := by omega
  simp only [pyIndex, h0, h1, if_true, if_false, e]

theorem cmrPairs_length (a b : Nat) : (cmrPairs a b).length = a * b :=
  (flatMap_range_length (List.range a) b Prod.mk).trans (by rw [List.length_range])

/-- the `enumerate` dictionary is row-major: `k * b + l ↦ (k, l)` -/
theorem cmrPairs_getElem? (a b k l : Nat) (hk : k < a) (hl : l < b) : (cmrPairs a b)[k * b + l]? = some (k, l) := by
  have := flatMap_range_getElem? (List.range a) b Prod.mk k l (by simpa using hk) hl
  simpa [cmrPairs] using this

/-- `FakeMRIBlobsDataset`: every "file" is readable and has `nz` slices -/
theorem readable_all_some {φ : Type} (names : List φ) (nz : Nat) :
    readable (names.map fun f => (f, some nz)) = names.map fun f => (f, nz) := by
  induction names with
  | nil => rfl
  | cons x xs ih => simp only [readable] at ih ⊢; simp [ih]

theorem readable_all_some_fst {φ : Type} (names : List φ) (nz : Nat) :
    (readable (names.map fun f => (f, some nz))).map (·.1) = names := by
  rw [readable_all_some, List.map_map]
  exact List.map_id' _

/-- `SheppLoganDataset[idx]` for `-nz ≤ idx < 0`: the rendered slice and the seed position are `nz + idx`; the reported
`slice_no` is `idx` as given or `idx % nz = nz + idx` -/
theorem sheppIndexWith_neg (asGiven : Bool) (nz : Nat) (idx : Int) (h0 : idx < 0) (h1 : -(nz : Int) ≤ idx) :
    sheppIndexWith asGiven nz idx =
      .ok ((idx + nz).toNat, (idx + nz).toNat, if asGiven then idx else idx + nz) := by
  unfold sheppIndexWith pyIndex
  have hm : Int.fmod idx (nz : Int) = idx + nz := by
    rw [Int.fmod_eq_emod_of_nonneg _ (by omega), ← Int.add_emod_right]
    exact Int.emod_eq_of_lt (by omega) (by omega)
  have hl : (idx + (nz : Int)).toNat < nz := by omega
  have h3 : ¬ (idx + (nz : Int) < 0) := by omega
  simp [h0, h3, hm, hl]

theorem volsFrom_const_getElem? {φ : Type} (names : List φ) (nz c k : Nat) (hk : k < names.length) :
    (volsFrom none c (names.map fun f => (f, nz)))[k]? = some (names[k], c + k * nz, c + k * nz + nz) := by
  have e : (((names.map fun f => (f, nz)).take k).map fun x => (sliceList none x.2).length).sum = k * nz := by
    rw [← List.map_take, List.map_map]
    simp only [Function.comp_def, sliceList, List.length_range]
    rw [sum_map_const, List.length_take, Nat.min_eq_left (Nat.le_of_lt hk)]
  rw [volsFrom_getElem? none c _ k (by simpa using hk), e]
  simp [sliceList]

theorem dataOf_none_const {φ : Type} (names : List φ) (nz : Nat) :
    dataOf none (names.map fun f => (f, nz)) = names.flatMap fun f => (List.range nz).map fun s => (f, s) := by
  simp [dataOf, sliceList, List.flatMap_map]

end DirectVerif.Dataset
