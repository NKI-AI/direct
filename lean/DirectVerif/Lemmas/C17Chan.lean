import DirectVerif.Model.ShapesChan
/-!
Helper lemmas for the channel programs of C17 (`Model/ShapesChan.lean`): a small Hoare-style calculus `CRun` for the
register machine and the channel contracts of the denoisers for **all** widths and depths.
-/
namespace DirectVerif.C17L
open DirectVerif.Shapes

theorem runC_append (p q : List COp) (st : CState) :
    runC (p ++ q) st = match runC p st with
      | .ok s1 => runC q s1
      | .error e => .error e := by
  induction p generalizing st with
  | nil => rfl
  | cons op ops ih =>
    simp only [List.cons_append, runC]
    cases cstep op st with
    | ok s1 => exact ih s1
    | error e => rfl

/-- `p` takes a running tensor of `a` channels and register file `ra` to `b` channels and register file `rb`, whatever
has been emitted before -/
def CRun (p : List COp) (a : Nat) (ra : List Nat) (b : Nat) (rb : List Nat) : Prop :=
  ∀ tr, ∃ tr', runC p ⟨a, ra, tr⟩ = .ok ⟨b, rb, tr'⟩

namespace CRun

theorem nil {a : Nat} {r : List Nat} : CRun [] a r a r := fun tr => ⟨tr, rfl⟩

theorem append {p q : List COp} {a b c : Nat} {ra rb rc : List Nat} (h1 : CRun p a ra b rb) (h2 : CRun q b rb c rc) :
    CRun (p ++ q) a ra c rc := by
  intro tr
  obtain ⟨t1, e1⟩ := h1 tr
  obtain ⟨t2, e2⟩ := h2 t1
  exact ⟨t2, by rw [runC_append, e1]; exact e2⟩

theorem cons {op : COp} {q : List COp} {a b c : Nat} {ra rb rc : List Nat} (h1 : CRun [op] a ra b rb)
    (h2 : CRun q b rb c rc) : CRun (op :: q) a ra c rc := append (p := [op]) h1 h2

theorem cast_in {p : List COp} {a a' b : Nat} {ra rb : List Nat} (h : a = a') (H : CRun p a' ra b rb) : CRun p a ra b rb :=
  h ▸ H

theorem cast_out {p : List COp} {a b b' : Nat} {ra rb : List Nat} (h : b' = b) (H : CRun p a ra b' rb) : CRun p a ra b rb :=
  h ▸ H

theorem conv {a b : Nat} {r : List Nat} : CRun [.conv a b] a r b r := fun tr => ⟨tr, by simp [runC, cstep]⟩
theorem conv' {a a' b : Nat} {r : List Nat} (h : a' = a) : CRun [.conv a b] a' r b r := h ▸ conv
theorem bnorm {a : Nat} {r : List Nat} : CRun [.bnorm a] a r a r := fun tr => ⟨tr, by simp [runC, cstep]⟩
theorem dwt {a : Nat} {r : List Nat} : CRun [.dwt] a r (4 * a) r := fun tr => ⟨tr, by simp [runC, cstep]⟩
theorem iwt {a k : Nat} {r : List Nat} : CRun [.iwt k] a r (a / (k * k)) r := fun tr => ⟨tr, by simp [runC, cstep]⟩
theorem shuffle {a k : Nat} {r : List Nat} (hk : k ≠ 0) (hd : a % (k * k) = 0) : CRun [.shuffle k] a r (a / (k * k)) r :=
  fun tr => ⟨tr, by simp [runC, cstep, hk, hd]⟩
theorem save {a : Nat} {r : List Nat} : CRun [.save] a r a (a :: r) := fun tr => ⟨tr, by simp [runC, cstep]⟩
theorem emit {a : Nat} {r : List Nat} : CRun [.emit] a r a r := fun tr => ⟨tr ++ [a], by simp [runC, cstep]⟩
theorem load {a c d : Nat} {r : List Nat} (h : r[d]? = some c) : CRun [.load d] a r c r :=
  fun tr => ⟨tr, by simp [runC, cstep, h]⟩
theorem drop {a d : Nat} {r : List Nat} (h : d < r.length) : CRun [.drop d] a r a (r.eraseIdx d) :=
  fun tr => ⟨tr, by simp [runC, cstep, h]⟩
theorem cat {a : Nat} {ds cs r : List Nat} (h : lookups r ds = some cs) : CRun [.cat ds] a r (a + cs.sum) r :=
  fun tr => ⟨tr, by simp [runC, cstep, h]⟩
theorem add {a d : Nat} {r : List Nat} (h : r[d]? = some a) : CRun [.add d] a r a r :=
  fun tr => ⟨tr, by simp [runC, cstep, h]⟩

/-- `torch.cat([running, top])`, the remembered tensor is not needed again -/
theorem cat0 {a c : Nat} {r : List Nat} : CRun [.cat [0], .drop 0] a (c :: r) (a + c) r := by
  refine cons (cast_out (by simp) (cat (cs := [c]) (by simp [lookups]))) (cons (drop (by simp)) nil)
/-- `running + top`, the remembered tensor is not needed again -/
theorem add0 {a : Nat} {r : List Nat} : CRun [.add 0, .drop 0] a (a :: r) a r :=
  cons (add (by simp)) (cons (drop (by simp)) nil)
theorem add1 {a x : Nat} {r : List Nat} : CRun [.add 1, .drop 1] a (x :: a :: r) a (x :: r) :=
  cons (add (by simp)) (cons (drop (by simp)) nil)

theorem bnC {bn : Bool} {a : Nat} {r : List Nat} : CRun (Shapes.bnC bn a) a r a r := by
  cases bn
  · exact nil
  · exact bnorm

end CRun

open CRun

theorem convBlockC_ok (cin c : Nat) (r : List Nat) : CRun (convBlockC cin c) cin r c r := cons conv (cons conv nil)

/-- one level of the U-Net around the levels below it: `c` filters, the transposed convolution halves the `2c` channels coming
up, the concatenation with the remembered skip doubles them again; `fin` ends the last hooked block -/
theorem unetLevelC_ok {inner fin : List COp} {cin c cout : Nat} {r : List Nat} (hin : CRun inner c (c :: r) (2 * c) (c :: r))
    (hfin : CRun fin c r cout r) :
    CRun (convBlockC cin c ++ [.save, .emit] ++ inner ++ [.conv (2 * c) c, .emit, .cat [0], .drop 0] ++ convBlockC (2 * c) c ++ fin)
      cin r cout r :=
  append (append (append (append (append (convBlockC_ok cin c r) (cons save (cons emit nil))) hin)
    (cons conv (cons emit (cast_out (by omega) cat0)))) (convBlockC_ok (2 * c) c r)) hfin

theorem unetLvC_ok (L : Nat) : ∀ (cin c : Nat) (r : List Nat), CRun (unetLvC cin c L) cin r c r := by
  induction L with
  | zero => intro cin c r; exact append (convBlockC_ok cin c r) emit
  | succ L ih => intro cin c r; exact unetLevelC_ok (ih c (2 * c) (c :: r)) emit

theorem unetC_ok (L cin cout F : Nat) (r : List Nat) :
    CRun (unetC cin cout F L) cin r (if L = 0 then F else cout) r := by
  cases L with
  | zero => exact unetLvC_ok 0 cin F r
  | succ L => exact unetLevelC_ok (unetLvC_ok L F (2 * F) (F :: r)) (cons conv (cons emit nil))

theorem unetC_ok_pos {L : Nat} (hL : 1 ≤ L) (cin cout F : Nat) (r : List Nat) : CRun (unetC cin cout F L) cin r cout r := by
  have h := unetC_ok L cin cout F r
  rwa [if_neg (by omega)] at h

theorem mdConvC_ok (keep : Bool) (cin c : Nat) (r : List Nat) (hc : c % 2 = 0) :
    CRun (mdConvC keep cin c) cin (cin :: r) c (if keep then cin :: r else r) := by
  unfold mdConvC
  cases keep
  · exact append (append (cons conv (cons save (cons (load (c := cin) (by simp)) nil))) (cons (drop (d := 1) (by simp)) nil))
      (cons conv (cast_out (by omega) cat0))
  · exact append (append (cons conv (cons save (cons (load (c := cin) (by simp)) nil))) nil)
      (cons conv (cast_out (by omega) (cat0 (c := c / 2) (r := cin :: r))))

theorem mdBlockC_ok (keep : Bool) (cin c : Nat) (r : List Nat) (hc : c % 2 = 0) :
    CRun (mdBlockC keep cin c) cin (cin :: r) c (if keep then cin :: r else r) :=
  append (append (mdConvC_ok keep cin c r hc) save) (mdConvC_ok false c c _ hc)

/-- one level of the multi-domain U-Net (input remembered in register 0) around the levels below it; `r'` is the register
file below this level's own results -/
theorem mdLevelC_ok {inner fin : List COp} {keep : Bool} {cin c cout : Nat} {r r' rout : List Nat} (hc : c % 2 = 0)
    (hr : r' = if keep then cin :: r else r) (hin : CRun inner c (c :: r') (2 * c) (2 * c :: c :: r'))
    (hfin : CRun fin c r' cout rout) :
    CRun (mdBlockC keep cin c ++ [.save, .emit] ++ inner ++ mdConvC false (2 * c) c ++ [.emit, .cat [0], .drop 0, .save] ++
      mdBlockC false (2 * c) c ++ fin) cin (cin :: r) cout rout := by
  subst hr
  exact append (append (append (append (append (append (mdBlockC_ok keep cin c r hc) (cons save (cons emit nil))) hin)
    (mdConvC_ok false (2 * c) c _ hc)) (cons emit (append (p := [.cat [0], .drop 0]) (cast_out (by omega) cat0) save)))
    (mdBlockC_ok false (2 * c) c _ hc)) hfin

theorem mdLvC_ok (L : Nat) : ∀ (keep : Bool) (cin c : Nat) (r : List Nat), c % 2 = 0 →
    CRun (mdLvC keep cin c L) cin (cin :: r) c (c :: (if keep then cin :: r else r)) := by
  induction L with
  | zero => intro keep cin c r hc; exact append (mdBlockC_ok keep cin c r hc) (cons save (cons emit nil))
  | succ L ih =>
    intro keep cin c r hc
    exact mdLevelC_ok hc rfl (ih true c (2 * c) _ (by omega)) (cons save (cons emit nil))

/-- for every even `num_filters` and all `in_channels`, `out_channels`, depths: the forward runs, ends with `out_channels`
and leaves the register file as it found it -/
theorem mdUnetC_ok (L cin cout F : Nat) (r : List Nat) (hF : F % 2 = 0) : CRun (mdUnetC cin cout F L) cin r cout r := by
  have h := mdLevelC_ok (keep := false) (cin := cin) (r := r) (r' := r) hF rfl (mdLvC_ok (L - 1) true F (2 * F) r (by omega))
    (cons (conv (b := cout)) (cons emit nil))
  simpa only [mdUnetC, List.append_assoc] using append (p := [.save]) save h

/-- three convolutions `a → w → w → c`, each but the last followed by the optional batch norm -/
theorem convBnC_ok (bn : Bool) (a w c : Nat) (r : List Nat) :
    CRun ([.conv a w] ++ Shapes.bnC bn w ++ [.conv w w] ++ Shapes.bnC bn w ++ [.conv w c]) a r c r :=
  ((((cons conv nil).append bnC).append (cons conv nil)).append bnC).append (cons conv nil)

theorem mwDownC_ok (bn : Bool) (cin w : Nat) (r : List Nat) : CRun (mwDownC bn false cin w) cin r w r :=
  ((convBnC_ok bn cin w w r).append nil).append bnC

theorem mwDownC_save_ok (bn : Bool) (cin w : Nat) (r : List Nat) : CRun (mwDownC bn true cin w) cin r w (w :: r) :=
  ((convBnC_ok bn cin w w r).append (cons save nil)).append bnC

theorem mwUpC_ok (bn : Bool) (w cout : Nat) (r : List Nat) : CRun (mwUpC bn w cout) w r cout r :=
  (convBnC_ok bn w w cout r).append bnC

theorem iwt_add_ok (w : Nat) (r : List Nat) : CRun [.emit, .iwt 2, .emit, .add 0, .drop 0] (4 * w) (w :: r) w r := by
  refine cons emit (cons (cast_out ?_ iwt) (cons emit add0))
  omega

theorem mwBelowC_ok (bn : Bool) (k : Nat) : ∀ (w : Nat) (r : List Nat), CRun (mwBelowC bn w k) w (w :: r) w r := by
  induction k with
  | zero =>
    intro w r
    exact append (append (append (append (cons dwt (cons emit nil)) (mwDownC_ok bn _ _ _)) emit) (mwUpC_ok bn _ _ _)) (iwt_add_ok w r)
  | succ k ih =>
    intro w r
    exact append (append (append (append (append (cons dwt (cons emit nil)) (mwDownC_save_ok bn _ _ _)) emit) (ih (2 * w) (w :: r)))
      (mwUpC_ok bn _ _ _)) (iwt_add_ok w r)

theorem mwcnnC_ok (bn : Bool) (cin F S : Nat) (r : List Nat) : CRun (mwcnnC bn cin F S) cin r cin r :=
  match S with
  | 0 => nil
  | 1 => append (append (append (mwDownC_ok bn cin F r) emit) (mwUpC_ok bn F cin r)) emit
  | S + 2 => append (append (append (append (mwDownC_save_ok bn cin F r) emit) (mwBelowC_ok bn S F r)) (mwUpC_ok bn F cin r)) emit

theorem resBlocksC_ok (h : Nat) (bn : Bool) (m : Nat) : ∀ r : List Nat, CRun (resBlocksC h bn (m + 1)) h (h :: r) h r := by
  induction m with
  | zero => intro r; exact append (cons conv (cons conv add0)) bnC
  | succ m ih => intro r; exact append (append (cons conv (cons conv (cons save add1))) bnC) (ih r)

theorem resnetC_ok (cin cout h : Nat) (bn : Bool) (nb : Nat) (r : List Nat) : CRun (resnetC cin cout h bn nb) cin r cout r := by
  unfold resnetC
  refine append (append ?_ (resBlocksC_ok h bn nb (h :: r))) (cons emit (append (p := [.add 0, .drop 0]) add0 (cons conv (cons conv (cons emit nil)))))
  exact cons save (cons conv (cons save (cons emit (cons (load (c := cin) (by simp)) (cons (drop (by simp)) (cons conv (cons save (cons emit nil))))))))

theorem bnEmit_ok (bn : Bool) (o : Nat) (r : List Nat) : CRun (if bn then [COp.bnorm o, COp.emit] else []) o r o r := by
  cases bn
  · exact nil
  · exact cons bnorm emit

/-- `n_convs = m + 1`: the last convolution goes to `cout`, the others to `h` and are followed by the activation's hook -/
theorem convNetC_ok (bn : Bool) : ∀ (m cin cout h : Nat) (r : List Nat), CRun (convNetC cin cout h bn (m + 1)) cin r cout r
  | 0, _, cout, _, r => (((cons conv emit).append (bnEmit_ok bn cout r)).append nil).append nil
  | m + 1, _, cout, h, r => (((cons conv emit).append (bnEmit_ok bn h r)).append emit).append (convNetC_ok bn m h cout h r)

theorem shuffle2 {a : Nat} {r : List Nat} : CRun [.shuffle 2] (4 * a) r a r := by
  refine cast_out ?_ (shuffle (by decide) ?_) <;> omega

theorem emitIf_ok (e : Bool) (a : Nat) (r : List Nat) : CRun (if e then [COp.emit] else []) a r a r := by
  cases e
  · exact nil
  · exact emit

/-- `em` (hooks, or nothing) changes neither channels nor registers -/
theorem dubBodyC_ok (c : Nat) (em : List COp) (hem : ∀ a r, CRun em a r a r) (r : List Nat) :
    CRun (dubBodyC c em) c (c :: r) c (c :: r) := by
  unfold dubBodyC
  exact (cons conv (cons conv (cons save nil))) |>.append (hem _ _) |>.append (cons (add (by simp)) nil)
    |>.append (cons conv (cons save nil)) |>.append (hem _ _)
    |>.append (cons conv (cons save nil)) |>.append (hem _ _) |>.append add1
    |>.append (cons conv (cons save nil)) |>.append (hem _ _)
    |>.append (cons conv nil) |>.append (hem _ _) |>.append add0
    |>.append (cons conv (cons (cast_in (by omega) (shuffle2 (a := 2 * c))) nil)) |>.append (hem _ _) |>.append cat0
    |>.append (cons (conv' (by omega)) (cons save nil)) |>.append (hem _ _)
    |>.append (cons conv nil) |>.append (hem _ _) |>.append add0
    |>.append (cons conv (cons (shuffle2 (a := c)) nil)) |>.append (hem _ _) |>.append cat0
    |>.append (cons (conv' (by omega)) (cons save nil)) |>.append (hem _ _)
    |>.append (cons conv (cons conv nil)) |>.append (hem _ _) |>.append add0
    |>.append conv

theorem dubC_ok (c : Nat) (e : Bool) (r : List Nat) : CRun (dubC c e) c r c r :=
  (((cons save nil).append (dubBodyC_ok c _ (emitIf_ok e) r)).append (emitIf_ok e _ _)).append add0

theorem dubInC_ok (c : Nat) (first : Bool) (r : List Nat) :
    CRun (dubInC c first) c (c :: r) c (if first then c :: r else c :: c :: r) := by
  have hb := (dubBodyC_ok c [] (fun _ _ => nil) r).append (cons save (cons (add (d := 1) (by simp)) nil))
  cases first
  · exact (hb.append nil).append emit
  · exact (hb.append (cons (drop (by simp)) nil)).append emit

theorem dubsC_ok (c : Nat) (n : Nat) : ∀ r : List Nat, CRun (dubsC c (n + 1)) c (c :: r) c (List.replicate (n + 1) c ++ r) := by
  induction n with
  | zero => intro r; exact append (p := []) nil (dubInC_ok c true r)
  | succ n ih =>
    intro r
    rw [List.replicate_succ (n := n + 1)]
    exact append (ih r) (dubInC_ok c false _)

theorem reconConvsC_ok (c nc : Nat) (r : List Nat) : CRun (reconConvsC c nc) c r c r := by
  induction nc with
  | zero => exact nil
  | succ n ih => exact cons conv ih

theorem getElem?_replicate_append {c d m : Nat} (r : List Nat) (h : d < m) : (List.replicate m c ++ r)[d]? = some c := by
  rw [List.getElem?_append_left (by simpa using h)]
  simp [h]

theorem eraseIdx_replicate_append (c : Nat) (r : List Nat) :
    ∀ m, (List.replicate (m + 1) c ++ r).eraseIdx m = List.replicate m c ++ r
  | 0 => rfl
  | m + 1 => by rw [List.replicate_succ, List.cons_append, List.eraseIdx_cons_succ, eraseIdx_replicate_append c r m]; rfl

theorem dropLast (a c m : Nat) (r : List Nat) : CRun [.drop m] a (List.replicate (m + 1) c ++ r) a (List.replicate m c ++ r) := by
  have h := drop (a := a) (d := m) (r := List.replicate (m + 1) c ++ r) (by simp; omega)
  rwa [eraseIdx_replicate_append] at h

/-- `running + oldest remembered`, which is then forgotten -/
theorem addDropLast (c m : Nat) (r : List Nat) :
    CRun [.add m, .drop m] c (List.replicate (m + 1) c ++ r) c (List.replicate m c ++ r) :=
  cons (add (getElem?_replicate_append r (Nat.lt_succ_self m))) (dropLast c c m r)

theorem reconsC_ok (c nc nd : Nat) (hnd : 1 ≤ nd) (r : List Nat) (m : Nat) :
    CRun (reconsC c nc nd m) c (List.replicate nd c ++ r) c (List.replicate nd c ++ r) := by
  induction m with
  | zero => exact nil
  | succ m ih =>
    rw [reconsC]
    refine append (append (append ih (cons (load (c := c) (getElem?_replicate_append r (by omega))) nil)) (reconConvsC_ok c nc _))
      (cons save ?_)
    rw [← List.cons_append, ← List.replicate_succ]
    exact append (p := [.add nd, .drop nd]) (addDropLast c nd r) emit

theorem lookups_downTo (c : Nat) (r : List Nat) (m : Nat) :
    ∀ k, k ≤ m → lookups (List.replicate m c ++ r) (downTo k) = some (List.replicate k c)
  | 0, _ => rfl
  | k + 1, h => by
    simp only [downTo, lookups, getElem?_replicate_append r (Nat.lt_of_succ_le h), lookups_downTo c r m k (Nat.le_of_succ_le h),
      List.replicate_succ]

theorem dropsC_ok (c : Nat) (r : List Nat) (a : Nat) : ∀ m : Nat, CRun (dropsC m) a (List.replicate m c ++ r) a r
  | 0 => nil
  | m + 1 => cons (dropLast a c m r) (dropsC_ok c r a m)

/-- the reconstruction blocks and the concatenation: `nd` remembered `c`-channel DUB outputs become one `c·nd`-channel
tensor and the register file is as before the DUBs -/
theorem didnReconC_ok (c nc nd : Nat) (hnd : 1 ≤ nd) (r : List Nat) :
    CRun (didnReconC c nc nd) c (List.replicate nd c ++ r) (c * nd) r := by
  match nd, hnd with
  | 1, _ =>
    rw [didnReconC]
    refine append (reconConvsC_ok c nc _) ?_
    exact cons (add (by simp)) (cons (drop (by simp)) (cons emit (cons (cast_out (by simp) (cat (cs := []) rfl)) nil)))
  | k + 2, _ =>
    rw [didnReconC]
    have seg1 : CRun [.add (k + 1), .drop (k + 1), .emit] c (List.replicate (k + 2) c ++ r) c (List.replicate (k + 1) c ++ r) :=
      append (p := [.add (k + 1), .drop (k + 1)]) (addDropLast c (k + 1) r) emit
    have seg2 : CRun [.cat (downTo (k + 1))] c (List.replicate (k + 1) c ++ r) (c * (k + 2)) (List.replicate (k + 1) c ++ r) := by
      refine cast_out ?_ (cat (lookups_downTo c r (k + 1) (k + 1) (Nat.le_refl _)))
      rw [List.sum_replicate_nat, Nat.mul_comm c (k + 2), Nat.succ_mul (k + 1) c]
      omega
    exact append (append (append (append (append (reconsC_ok c nc (k + 2) (by omega) r (k + 1))
      (cons (load (c := c) (getElem?_replicate_append r (by omega))) nil)) (reconConvsC_ok c nc _)) seg1) seg2) (dropsC_ok c r _ (k + 1))

theorem didnC_ok (cin cout c nd nc : Nat) (skip : Bool) (hnd : 1 ≤ nd) (hskip : skip = true → cin = cout) (r : List Nat) :
    CRun (didnC cin cout c nd nc skip) cin r cout r := by
  obtain ⟨n, rfl⟩ : ∃ n, nd = n + 1 := ⟨nd - 1, by omega⟩
  -- everything between the optional `save` of the input and the optional final sum
  have core : ∀ {p : List COp} {a0 : Nat} {r0 : List Nat} (r' : List Nat), CRun p a0 r0 cin r' →
      CRun (p ++ [.conv cin c, .emit, .conv c c, .save, .emit] ++ dubsC c (n + 1) ++ didnReconC c nc (n + 1) ++ didnTailC cout c (n + 1))
        a0 r0 cout r' := fun r' hp =>
    (((hp.append (cons conv (cons emit (cons conv (cons save (cons emit nil)))))).append (dubsC_ok c n r')).append
      (didnReconC_ok c nc (n + 1) hnd r')).append
      (cons conv (cons emit (cons conv (cons emit (cons conv (cons (cast_in (Nat.mul_comm c 4) shuffle2) (cons emit
        (cons conv (cons emit nil)))))))))
  unfold didnC
  cases skip
  · exact (core r nil).append nil
  · obtain rfl : cin = cout := hskip rfl
    exact (core (cin :: r) (cons save nil)).append add0

end DirectVerif.C17L
