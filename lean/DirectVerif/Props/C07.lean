import DirectVerif.Model.MaskBudget
import DirectVerif.Lemmas.C07
import DirectVerif.Lemmas.C07Equi
import DirectVerif.Model.C07Magic
import DirectVerif.Model.C07Bisect
import DirectVerif.Lemmas.C07Bisect
import DirectVerif.Lemmas.C07Magic
/-!
# C07 — the realised sampling budget matches the requested acceleration

Over `Model/MaskBudget.lean` and `Model/C07Magic.lean`: `N` columns (or `rows·cols` cells), `L` ACS columns, acceleration
`R`, target `N / R`.  Gaussian: within half a sample under the explicit feasibility hypothesis `#ACS + 1/2 ≤ N/R`.
VD-Poisson: within `tol` whenever it returns.  Random: `L + (N − L)·prob = N/R`; "in expectation over seeds" then assumes
numpy's `uniform` is uniform (exact for a finite-uniform model in `Lemmas/C07RandomProps.lean`).  Equispaced:
`|count − N/R| ≤ 2` for `R ≥ 2`, attained.  Magic: exact count and bracket, not judged against `N / R`.

Further property theorems of C07 (namespace `DirectVerif.C07`) are in `Lemmas/C07Bisect`, `C07RandomProps`, `C07State`, `C07Ties`,
`C07Circus`.
-/
namespace DirectVerif.C07
open DirectVerif DirectVerif.MaskBudget

/-- `prob = (num_cols / acceleration - num_low_freqs) / (num_cols - num_low_freqs)` makes the expected count `N / R` -/
theorem random_prob_formula (N R L : ℚ) (hR : R ≠ 0) (hNL : N ≠ L) :
    L + (N - L) * randomProb N R L = N / R := by
  have h : N - L ≠ 0 := sub_ne_zero.mpr hNL
  unfold randomProb
  field_simp
  ring

theorem random_expected_count (N R L : ℚ) (hR : R ≠ 0) (hNL : N ≠ L) :
    expectedCount N L (randomProb N R L) = N / R := random_prob_formula N R L hR hNL

/-- feasible range: `L ≤ N/R ≤ N` -/
theorem random_prob_unit (N R L : ℚ) (hL : L < N) (h1 : L ≤ N / R) (h2 : N / R ≤ N) :
    0 ≤ randomProb N R L ∧ randomProb N R L ≤ 1 := by
  have h : 0 < N - L := sub_pos.mpr hL
  unfold randomProb
  constructor
  · exact div_nonneg (by linarith) h.le
  · rw [div_le_one h]; linarith

theorem random_mask_column (N L : Int) (p : ℚ) (us : List ℚ) (i : Nat) (hi : i < N.toNat) :
    (randomMask N L p us)[i]? = some (inAcs N L i || decide (us.getD i 1 < p)) := by
  unfold randomMask
  simp [hi]

/-- `choose_acceleration`: centre fraction and acceleration **of the same position** -/
theorem choose_pairs (accs cfs : List ℚ) (i : Nat) (c r : ℚ)
    (h : chooseAcceleration false accs cfs i = .ok (c, r)) : cfs[i]? = some c ∧ accs[i]? = some r := by
  unfold chooseAcceleration at h
  simp only [Bool.false_eq_true, if_false] at h
  cases hc : cfs[i]? <;> cases hr : accs[i]? <;> simp_all

theorem choose_uniform_rejects (accs cfs : List ℚ) (i : Nat) :
    chooseAcceleration true accs cfs i = .error "NotImplementedError" := by
  simp [chooseAcceleration]

example : chooseAcceleration false [4, 8] [2 / 25, 1 / 25] 1 = .ok (1 / 25, 8) := by decide +kernel

/-- `k = nonzero_count`: the loop adds `k + 1` cells from `count = 0`, none when `k < 0` -/
theorem gaussian_loop_adds_exactly (k : Int) :
    ∀ (cands : List Int) (count : Int) (mask m' : List Bool),
      gaussLoop k cands count mask = some m' →
        countTrue m' = countTrue mask + (k + 1 - count).toNat ∧ m'.length = mask.length ∧
        ∀ i, mask.getD i false = true → m'.getD i false = true := by
  have done : ∀ (count : Int) (mask : List Bool), ¬ count ≤ k →
      countTrue mask = countTrue mask + (k + 1 - count).toNat ∧ mask.length = mask.length ∧
      ∀ i, mask.getD i false = true → mask.getD i false = true :=
    fun count mask hc => ⟨by omega, rfl, fun _ h => h⟩
  intro cands
  induction cands with
  | nil =>
    intro count mask m' h
    unfold gaussLoop at h
    split_ifs at h with hc
    obtain rfl := Option.some.inj h
    exact done count mask hc
  | cons c cs ih =>
    intro count mask m' h
    unfold gaussLoop at h
    split_ifs at h with hc hin
    ·
      obtain ⟨h0, h1, h2⟩ := hin
      have hlt : c.toNat < mask.length := by omega
      obtain ⟨e1, e2, e3⟩ := ih _ _ _ h
      rw [countTrue_set_new mask c.toNat hlt h2] at e1
      refine ⟨by omega, by simpa using e2, fun i hi => e3 i ?_⟩
      by_cases hic : i = c.toNat
      · subst hic; simp [List.getD_eq_getElem?_getD, hlt]
      · simpa [List.getD_eq_getElem?_getD, List.getElem?_set, Ne.symm hic] using hi
    · exact ih _ _ _ h
    · obtain rfl := Option.some.inj h
      exact done count mask hc

theorem gaussian_feasible_iff (x : ℚ) (acs : Int) : 0 ≤ gaussianRequest x acs ↔ (acs : ℚ) + 1 / 2 ≤ x := by
  unfold gaussianRequest
  rw [← not_lt, rnd_neg_iff, not_lt]
  constructor <;> intro h <;> linarith

/-- **C07 Gaussian budget, feasible case** (`x = N/R` in 1-D, `rows·cols/R` in 2-D): within half a sample; the property
says "within one sample" -/
theorem gaussian_budget (x : ℚ) (mask m' : List Bool) (cands : List Int)
    (hfeas : (countTrue mask : ℚ) + 1 / 2 ≤ x)
    (hrun : gaussLoop (gaussianRequest x (countTrue mask)) cands 0 mask = some m') :
    |(countTrue m' : ℚ) - x| ≤ 1 / 2 := by
  obtain ⟨e, _, _⟩ := gaussian_loop_adds_exactly _ cands 0 mask m' hrun
  have hk : 0 ≤ gaussianRequest x (countTrue mask) := (gaussian_feasible_iff x _).mpr (by exact_mod_cast hfeas)
  have hs := abs_le.mp (rnd_spec (x - (countTrue mask : ℚ) - 1))
  rw [e, Nat.cast_add, toNat_cast (by omega), abs_le]
  unfold gaussianRequest
  push_cast
  constructor <;> linarith [hs.1, hs.2]

/-- **infeasible case**: the request is negative, the mask is exactly the ACS -/
theorem gaussian_budget_infeasible (x : ℚ) (mask : List Bool) (cands : List Int)
    (hinf : x < (countTrue mask : ℚ) + 1 / 2) :
    gaussLoop (gaussianRequest x (countTrue mask)) cands 0 mask = some mask := by
  have hk : gaussianRequest x (countTrue mask) < 0 := by
    apply (rnd_neg_iff _).mpr
    push_cast
    linarith
  cases cands with
  | nil => unfold gaussLoop; rw [if_neg (by omega)]
  | cons c cs => unfold gaussLoop; rw [if_neg (by omega)]

/-- probed on the real code: 128×128, R = 12, centre scale 0.1 (disc of 1513 cells) is infeasible -/
example : gaussianRequest ((128 * 128 : ℚ) / 12) 1513 < 0 := by decide +kernel
/-- 32 columns, R = 4, 3 ACS columns: request 4, adds 5 -/
example : gaussianRequest ((32 : ℚ) / 4) 3 = 4 := by decide +kernel
example : gaussLoop 1 [5, 5, 100, -1, 3, 0, 7] 0 [true, false, false, false, false, false] =
    some [true, false, false, true, false, true] := by decide
/-- `gaussian_budget` instantiated: |4 − 7/2| = 1/2 -/
example : |(countTrue [true, false, true, true, false, true] : ℚ) - 7 / 2| ≤ 1 / 2 :=
  gaussian_budget (7 / 2) [true, false, false, false, false, false] _ [5, 5, 100, -1, 3, 0, 7, 2]
    (by norm_num [countTrue]) (by decide +kernel)
/-- the tie `x − L − 1 = 1/2` attains the bound -/
example : gaussianRequest ((27 : ℚ) / 2) 12 = 0 := by decide +kernel


/-! ### Magic (offset-sampling) line masks

They round the adjusted acceleration to an integer and are **not** judged against `N / R` (`magic_deviates_by_design`);
what they realise is characterised exactly and bracketed. -/

/-- **exact count of a Magic frame**: `#ACS` plus the comb points of the two half-rows outside the ACS block -/
theorem magic_count_formula (N L adj off : Nat) (hL : 1 ≤ L) (hLN : L ≤ N) :
    magicCount N L adj off = magicCountFormula N L adj off := by
  obtain ⟨hneg, hpos, hsum⟩ := magicIn_bounds hL hLN
  rw [magicCount_halves N L adj off hL hLN, countP_prefix_or _ _ _ hneg, countP_prefix_or _ _ _ hpos,
    countP_comb, countP_comb, countP_comb, countP_comb]
  unfold magicCountFormula
  rw [magicPosLen_toNat, magicNegLen_toNat]
  omega

theorem magic_low_bounds (l t : Int) : 1 ≤ magicLow l t ∧ magicLow l t ≤ max t 1 := by
  unfold magicLow; omega

theorem magic_offsets_le (off : Nat) :
    (magicOffPos off).toNat ≤ off + 2 ∧ (magicOffNeg off).toNat ≤ off + 2 ∧ 1 ≤ (magicOffPos off).toNat := by
  unfold magicOffPos magicOffNeg
  split_ifs <;> omega

/-- **bracket of the Magic budget**: the comb of step `adj` covers the `N − L` non-ACS columns up to one period per
half-row, plus the offset head-room of at most `adj + 1` -/
theorem magic_budget_bounds (N L adj off : Nat) (hL : 1 ≤ L) (hLN : L ≤ N) (hadj : 1 ≤ adj) (hoff : off < adj) :
    adj * magicCount N L adj off ≤ adj * L + (N - L) + 2 * (adj - 1) ∧
    adj * L + (N - L) ≤ adj * magicCount N L adj off + 2 * (adj + 1) := by
  rw [magic_count_formula N L adj off hL hLN]
  unfold magicCountFormula
  rw [magicPosLen_toNat, magicNegLen_toNat]
  obtain ⟨hneg, hpos, hsum⟩ := magicIn_bounds hL hLN
  -- the two windows make up the `N − L` non-ACS columns; each comb starts at most `adj + 1` into its half
  have hw : (N - N / 2 - magicPosIn N L) + (N / 2 - magicNegIn N L) = N - L := by omega
  obtain ⟨o1, o2, _⟩ := magic_offsets_le off
  have m1 : max (adj - 1) ((magicOffPos off).toNat - magicPosIn N L) ≤ adj + 1 := by omega
  have m2 : max (adj - 1) ((magicOffNeg off).toNat - magicNegIn N L) ≤ adj + 1 := by omega
  obtain ⟨p1, p2⟩ := strideCount_window (magicOffPos off).toNat adj (magicPosIn N L) (N - N / 2) hadj hpos
  obtain ⟨n1, n2⟩ := strideCount_window (magicOffNeg off).toNat adj (magicNegIn N L) (N / 2) hadj hneg
  have p3 := p2.trans (Nat.add_le_add_left m1 _)
  have n3 := n2.trans (Nat.add_le_add_left m2 _)
  rw [Nat.mul_add, Nat.mul_add, ← hw]
  generalize N - N / 2 - magicPosIn N L = wp at *
  generalize N / 2 - magicNegIn N L = wn at *
  generalize adj * (strideCount _ adj (N - N / 2) - strideCount _ adj (magicPosIn N L)) = dp at *
  generalize adj * (strideCount _ adj (N / 2) - strideCount _ adj (magicNegIn N L)) = dn at *
  -- now `p1 : dp ≤ wp + (adj − 1)`, `p3 : wp ≤ dp + (adj + 1)`, and `n1`, `n3` likewise for the negative half
  constructor
  · have := Nat.add_le_add p1 n1
    omega
  · have := Nat.add_le_add p3 n3
    omega

/-- the same over ℚ -/
theorem magic_budget_abs (N L adj off : Nat) (hL : 1 ≤ L) (hLN : L ≤ N) (hadj : 1 ≤ adj) (hoff : off < adj) :
    |(magicCount N L adj off : ℚ) - ((L : ℚ) + ((N : ℚ) - L) / adj)| ≤ 2 + 2 / (adj : ℚ) := by
  obtain ⟨h1, h2⟩ := magic_budget_bounds N L adj off hL hLN hadj hoff
  have ha : (0 : ℚ) < (adj : ℚ) := by exact_mod_cast hadj
  have e1 := (Nat.cast_le (α := ℚ)).mpr h1
  have e2 := (Nat.cast_le (α := ℚ)).mpr h2
  push_cast [Nat.cast_sub hLN, Nat.cast_sub hadj] at e1 e2
  have e : (magicCount N L adj off : ℚ) - ((L : ℚ) + ((N : ℚ) - L) / adj) =
      ((adj : ℚ) * magicCount N L adj off - (adj * L + (N - L))) / adj := by field_simp
  have e' : 2 + 2 / (adj : ℚ) = (2 * adj + 2) / adj := by field_simp
  rw [e, e', abs_div, abs_of_pos ha, div_le_div_iff_of_pos_right ha, abs_le]
  constructor <;> linarith

/-- `adjusted_acceleration = 0`: `rng.randint(0, high=0)` raises -/
theorem magic_frame_rejects (N lRaw : Int) (R : ℚ) (off : Int) (h : (magicParams N lRaw R).2.2 ≤ 0) :
    magicFrame N lRaw R off = .error "ValueError" := by
  unfold magicFrame
  simp only [h, if_true]

/-- the count of a produced frame in the call's own `(target, num_low_freqs, adjusted_acceleration)` -/
theorem magic_frame_count (N lRaw : Int) (R : ℚ) (off : Int) (m : List Bool) (hN : 1 ≤ N)
    (hcap : (magicParams N lRaw R).2.1 ≤ N) (h : magicFrame N lRaw R off = .ok m) :
    countTrue m = magicCountFormula N.toNat (magicParams N lRaw R).2.1.toNat (magicParams N lRaw R).2.2.toNat off.toNat := by
  dsimp only [magicFrame] at h
  split_ifs at h with hadj
  simp only [Except.ok.injEq] at h
  subst h
  have hL : 1 ≤ (magicParams N lRaw R).2.1 := (magic_low_bounds lRaw (magicTarget N R)).1
  exact magic_count_formula _ _ _ _ (by omega) (by omega)

theorem magic_target_le (N : Int) (R : ℚ) (hN : 0 ≤ N) (hR : 1 ≤ R) : magicTarget N R ≤ N := by
  unfold magicTarget
  have hq : (N : ℚ) / R ≤ N := div_le_self (by exact_mod_cast hN) hR
  by_contra h
  have := le_of_le_rnd (q := (N : ℚ) / R) (t := N + 1) (by omega)
  push_cast at this
  linarith

/-- **Magic deviates from `N / R` by design** (inherited from fastMRI): 400 columns, `R = 4`, 32 ACS columns → target 100,
`adjusted_acceleration = round(400 / 68) = 6`, offset 0 realises 93 columns -/
theorem magic_deviates_by_design :
    magicParams 400 32 4 = (100, 32, 6) ∧ magicFrame 400 32 4 0 = .ok (magicMask 400 32 6 0) ∧
    magicCount 400 32 6 0 = 93 := by
  have hp : magicParams 400 32 4 = (100, 32, 6) := by decide +kernel
  refine ⟨hp, ?_, ?_⟩
  · simp only [magicFrame, hp]; rfl
  · -- the closed form is evaluated, not the 400-column mask
    rw [magic_count_formula 400 32 6 0 (by decide) (by decide)]; decide +kernel

example : magicCountFormula 400 32 6 0 = 93 := by decide +kernel
/-- non-vacuity of `magic_budget_bounds`, tight on the upper side: `N = 12`, `L = 2`, `adj = 5`, offset 0 → columns 7
and 3, `5·4 = 5·2 + 10` -/
example : magicCount 12 2 5 0 = 4 := by decide +kernel

/-- **C07 VD-Poisson**: whenever `poisson` returns, on any sequence of kernel results, `|R_actual − R| < tol` -/
theorem bisection_post (R tol : ℚ) :
    ∀ (ps : List Probe) (n : Nat) (a : ℚ) (m : Nat), bisect R tol ps n = .returned a m → |a - R| < tol := by
  intro ps
  induction ps with
  | nil => intro n a m h; simp [bisect] at h
  | cons p ps ih =>
    intro n a m h
    unfold bisect at h
    split_ifs at h with h1 h2
    · simp only [Outcome.returned.injEq] at h
      rw [← h.1, ← absQ_eq]; exact h1
    · exact ih _ _ _ h

/-- … also for the mask the caller gets, if no statement between the last tolerance test and `return mask` modifies
`mask` (`Bridge.C07.poisson_post_ok`) -/
theorem bisection_post_returned (R tol : ℚ) (ps : List Probe) (post : List PostStmt)
    (h : ∀ s ∈ post, s.modifiesMask = false) (a : ℚ) (n : Nat)
    (hr : poisson R tol ps post = .returned a n) : |a - R| < tol := by
  unfold poisson at hr
  cases hb : bisect R tol ps 0 with
  | returned a' n' =>
    rw [hb] at hr
    simp only [Outcome.returned.injEq] at hr
    rw [← hr.1, applyPost_id post h]
    exact bisection_post R tol ps 0 a' n' hb
  | raised n' => rw [hb] at hr; simp at hr
  | running n' => rw [hb] at hr; simp at hr

/-- a mask-modifying statement after the test breaks it: the test saw 4.1, the caller gets 4.6 -/
theorem post_modification_violates :
    poisson 4 (1 / 5) [⟨41 / 10, false⟩] [⟨true, fun a => a + 1 / 2⟩] = .returned (23 / 5) 1 ∧
    ¬ |(23 / 5 : ℚ) - 4| < 1 / 5 := by
  refine ⟨by decide +kernel, by norm_num⟩

example : poisson 4 (1 / 5) [⟨41 / 10, false⟩] (postOfTable [("raise_if", false)] id) = .returned (41 / 10) 1 := by
  decide +kernel

theorem bisection_raises (R tol : ℚ) :
    ∀ (ps : List Probe) (n m : Nat), bisect R tol ps n = .raised m →
      ∃ p ∈ ps, p.stalled = true ∧ ¬ |p.accel - R| < tol := by
  intro ps
  induction ps with
  | nil => intro n m h; simp [bisect] at h
  | cons p ps ih =>
    intro n m h
    unfold bisect at h
    split_ifs at h with h1 h2
    · exact ⟨p, List.mem_cons_self, h2, by rw [← absQ_eq]; exact h1⟩
    · obtain ⟨p', hp', h'⟩ := ih _ _ h
      exact ⟨p', List.mem_cons_of_mem _ hp', h'⟩

/-- in terms of the sampled fraction `cells / count` -/
theorem bisection_fraction_bounds (cells count R tol : ℚ) (hc : 0 < count) (htol : tol < R)
    (h : |cells / count - R| < tol) : cells / (R + tol) < count ∧ count < cells / (R - tol) := by
  rw [abs_lt] at h
  have h1 : cells / count < R + tol := by linarith [h.2]
  have h2 : R - tol < cells / count := by linarith [h.1]
  have hp : 0 < R + tol := by linarith
  have hm : 0 < R - tol := by linarith
  constructor
  · rw [div_lt_iff₀ hp]
    rw [div_lt_iff₀ hc] at h1
    linarith
  · rw [lt_div_iff₀ hm]
    rw [lt_div_iff₀ hc] at h2
    linarith

example : bisect 4 (1 / 10) [⟨5, false⟩, ⟨3, false⟩, ⟨81 / 20, false⟩] 0 = .returned (81 / 20) 3 := by decide +kernel
example : bisect 4 (1 / 10) [⟨5, false⟩, ⟨3, true⟩] 0 = .raised 2 := by decide +kernel


/-- `adjusted_accel` spreads the non-ACS budget over the non-ACS columns -/
theorem equispaced_algebra (N R L : ℚ) (hR : R ≠ 0) (hNL : N ≠ L) (hLR : L * R ≠ N) :
    (N - L) / adjAccel N R L = N / R - L := by
  have h1 : L - N ≠ 0 := sub_ne_zero.mpr (Ne.symm hNL)
  have h2 : L * R - N ≠ 0 := sub_ne_zero.mpr hLR
  unfold adjAccel
  field_simp
  ring

theorem adjAccel_ge (N R L : ℚ) (hL : 0 ≤ L) (hR : 1 ≤ R) (hLR : L * R < N) : R ≤ adjAccel N R L := by
  have hden : 0 < N - L * R := sub_pos.mpr hLR
  have e : adjAccel N R L = (R * (N - L)) / (N - L * R) := by
    unfold adjAccel
    rw [show R * (L - N) = -(R * (N - L)) by ring, show L * R - N = -(N - L * R) by ring, neg_div_neg_eq]
  rw [e, le_div_iff₀ hden]
  -- `R·(N − L) − R·(N − L·R) = R·L·(R − 1) ≥ 0`
  have hgap : R * (N - L) - R * (N - L * R) = R * L * (R - 1) := by ring
  have hnn : 0 ≤ R * L * (R - 1) := mul_nonneg (mul_nonneg (by linarith) hL) (by linarith)
  linarith

/-- `np.arange(offset, N − 1, a)` -/
theorem equispaced_grid_size (N : Int) (a : ℚ) (off : Int) (ha : 0 < a) (hoff : (off : ℚ) ≤ (N : ℚ) - 1) :
    (equiPositions N a off).length = arangeLen off (N - 1) a ∧
    ((N : ℚ) - 1 - off) / a ≤ ((equiPositions N a off).length : ℚ) ∧
    ((equiPositions N a off).length : ℚ) < ((N : ℚ) - 1 - off) / a + 1 := by
  rw [positions_length]
  exact ⟨rfl, arangeLen_bounds _ _ _ ha hoff⟩

theorem equispaced_positions (N : Int) (a : ℚ) (off : Int) (ha : 1 < a) :
    (equiPositions N a off).Pairwise (· < ·) ∧ ∀ p ∈ equiPositions N a off, off ≤ p ∧ p ≤ N - 1 :=
  ⟨positions_strict N a off ha, positions_range N a off (by linarith)⟩

theorem equispaced_count (N L : Int) (R : ℚ) (off : Int) (hL0 : 0 ≤ L) (hLN : L ≤ N)
    (ha : 1 < adjAccel N R L) (hoff : 0 ≤ off) :
    equiCount N L R off = L.toNat + ((equiPositions N (adjAccel N R L) off).filter fun p => !inAcs N L p).length :=
  equi_count_decomp N L _ off hL0 hLN ha hoff

theorem equispaced_feasible (N L : Int) (R : ℚ) (hL0 : 0 ≤ L) (hR : 1 < R) (hfeas : (L : ℚ) * R < N) :
    L ≤ N ∧ R ≤ adjAccel N R L ∧ (L : ℚ) + ((N : ℚ) - L) / adjAccel N R L = (N : ℚ) / R := by
  have hLq : (0 : ℚ) ≤ (L : ℚ) := by exact_mod_cast hL0
  have hLNq : (L : ℚ) < N := by nlinarith
  refine ⟨by exact_mod_cast hLNq.le, adjAccel_ge (N : ℚ) R L hLq hR.le hfeas, ?_⟩
  rw [equispaced_algebra (N : ℚ) R L (by linarith) hLNq.ne' hfeas.ne]
  ring

/-- **C07 equispaced budget** (the property's "within two columns"): `R ≥ 2`, feasible pair `L·R < N`, every offset the
generator can draw; 2 is attained (N = 60, R = 3, L = 4, offset 3: count 18).  Upper side `equi_count_bounds`, lower side
`equi_count_lower` (`Lemmas/C07Equi.lean`). -/
theorem equispaced_budget (N L : Int) (R : ℚ) (off : Int) (hL0 : 0 ≤ L) (hR : 2 ≤ R)
    (hfeas : (L : ℚ) * R < N) (hoff : 0 ≤ off) (hoffb : off < offsetBound (adjAccel N R L)) :
    |(equiCount N L R off : ℚ) - (N : ℚ) / R| ≤ 2 := by
  obtain ⟨hLN, hage, halg⟩ := equispaced_feasible N L R hL0 (by linarith) hfeas
  obtain ⟨_, hup⟩ := equi_count_bounds N L (adjAccel N R L) off hL0 hLN (by linarith) hoff
  have hlo := equi_count_lower N L (adjAccel N R L) off hL0 hLN (by linarith) hoff hoffb
  rw [equiCount, abs_le]
  constructor <;> linarith

example : (equiCount 60 4 3 3 : ℚ) - (60 : ℚ) / 3 = -2 := by
  have : equiCount 60 4 3 3 = 18 := by decide +kernel
  rw [this]; norm_num

/-
For `1 < R < 2` (outside the property's range 2…12) the adjusted acceleration may be below 2, which the centring argument
of `equi_count_lower` needs; there the lower side holds up to the slack `1/(2a)`.
-/

theorem equispaced_budget_partial (N L : Int) (R : ℚ) (off : Int) (hL0 : 0 ≤ L) (hR : 1 < R)
    (hfeas : (L : ℚ) * R < N) (hoff : 0 ≤ off) (hoffb : off < offsetBound (adjAccel N R L)) :
    (N : ℚ) / R - 2 - 1 / (2 * adjAccel N R L) ≤ (equiCount N L R off : ℚ) ∧
    (equiCount N L R off : ℚ) < (N : ℚ) / R + 2 := by
  obtain ⟨hLN, hage, halg⟩ := equispaced_feasible N L R hL0 hR hfeas
  have ha0 : 0 < adjAccel N R L := by linarith
  obtain ⟨hlo, hup⟩ := equi_count_bounds N L (adjAccel N R L) off hL0 hLN (by linarith) hoff
  -- `off + 1 ≤ round(a) ≤ a + 1/2`
  have hoff1 := le_of_le_rnd (q := adjAccel N R L) (t := off + 1) (by unfold offsetBound at hoffb; omega)
  have hfrac : (1 + (off : ℚ)) / adjAccel N R L ≤ 1 + 1 / (2 * adjAccel N R L) := by
    rw [div_le_iff₀ ha0, add_mul, div_mul_eq_mul_div, mul_div_mul_right _ _ ha0.ne']
    push_cast at hoff1
    linarith
  rw [equiCount]
  constructor <;> linarith

theorem equispaced_budget_abs_partial (N L : Int) (R : ℚ) (off : Int) (hL0 : 0 ≤ L) (hR : 2 ≤ R)
    (hfeas : (L : ℚ) * R < N) (hoff : 0 ≤ off) (hoffb : off < offsetBound (adjAccel N R L)) :
    |(equiCount N L R off : ℚ) - (N : ℚ) / R| ≤ 9 / 4 :=
  (equispaced_budget N L R off hL0 hR hfeas hoff hoffb).trans (by norm_num)

/-- the probe of the source comment: 32 columns, R = 4, 3 ACS columns, offset 2 → exactly 8 -/
example : equiCount 32 3 4 2 = 8 ∧ equiPositions 32 (adjAccel 32 4 3) 2 = [2, 8, 14, 19, 25] := by decide +kernel
/-- non-vacuity of `equispaced_budget_partial` -/
example : (0 : Int) ≤ 3 ∧ (1 : ℚ) < 4 ∧ ((3 : Int) : ℚ) * 4 < (32 : Int) ∧ (2 : Int) < offsetBound (adjAccel 32 4 3) := by
  refine ⟨by decide, by norm_num, by norm_num, by decide +kernel⟩

end DirectVerif.C07
