import DirectVerif.Model.C04Poisson
/-!
The loop invariant `Inv` of `while num_actives > 0` in the `_poisson.pyx` model (`Model/C04Poisson.lean`) and its
preservation.  Consequence (`run_inv`, `kernel_spec`): the only memory fault the kernel can commit is the write
`pxs[num_actives]` with the lists full; every other `Halt` is a stop of the harness (draw or trig table exhausted or
out of step) or the fuel.
-/
namespace DirectVerif.C04Poisson
open DirectVerif

theorem pow2_pos (k : Nat) : 0 < Dy.pow2 k := by
  unfold Dy.pow2
  rw [Nat.one_shiftLeft]
  exact_mod_cast Nat.two_pow_pos k

/-- `0 ≤ q < n` as C compares them  ⟹  `0 ≤ int(q) < n` -/
theorem trunc_toNat_lt (x : Dy) (n : Nat) (h0 : x.nonneg = true) (h1 : x.ltNat n = true) :
    (Dy.trunc x).toNat < n := by
  unfold Dy.nonneg at h0
  unfold Dy.ltNat at h1
  unfold Dy.trunc
  have hm : 0 ≤ x.m := by simpa using h0
  by_cases he : 0 ≤ x.e
  · simp only [he, if_true, decide_eq_true_eq] at h1 ⊢
    have hp := pow2_pos x.e.toNat
    have : 0 ≤ x.m * Dy.pow2 x.e.toNat := Int.mul_nonneg hm (Int.le_of_lt hp)
    omega
  · simp only [he, if_false, decide_eq_true_eq] at h1 ⊢
    have hp := pow2_pos (-x.e).toNat
    rw [Int.tdiv_eq_ediv_of_nonneg hm]
    have h2 : x.m / Dy.pow2 (-x.e).toNat < (n : Int) := Int.ediv_lt_of_lt_mul hp h1
    have h3 : 0 ≤ x.m / Dy.pow2 (-x.e).toNat := Int.ediv_nonneg hm (Int.le_of_lt hp)
    omega

/-- the grid test is made on the floats `qx, qy`, the store goes to `int(qx), int(qy)` -/
theorem attempt_cell_in_grid (env : Env) (px py r1 : Nat) (c s : Dy)
    (h : (attempt env px py r1 c s).inGrid = true) :
    (attempt env px py r1 c s).cx < env.nx ∧ (attempt env px py r1 c s).cy < env.ny := by
  unfold attempt at h ⊢
  simp only at h ⊢
  split at h
  · rename_i hg
    simp only [hg, if_true]
    unfold inGridTest at hg
    simp only [Bool.and_eq_true] at hg
    exact ⟨trunc_toNat_lt _ _ hg.1.1.1 hg.1.1.2, trunc_toNat_lt _ _ hg.1.2 hg.2⟩
  · simp at h

theorem attempts_spec (env : Env) (mask : Array Bool) (px py : Nat) (k pos att : Nat) (o : Option (Nat × Nat))
    (pos' att' : Nat) (h : attempts env mask px py k pos att = .ok (o, pos', att')) :
    att ≤ att' ∧ att' ≤ att + k ∧ pos' = pos + 2 * (att' - att) ∧
    (∀ cx cy, o = some (cx, cy) → cx < env.nx ∧ cy < env.ny) ∧ (o = none → att' = att + k) := by
  fun_induction attempts env mask px py k pos att with
  | case1 => cases h; exact ⟨Nat.le_refl _, Nat.le_refl _, by omega, fun _ _ hc => (by cases hc), fun _ => rfl⟩
  | case2 => cases h
  | case3 k pos att r1 r2 t c s _ _ _ _ a hok =>
    cases h
    refine ⟨by omega, by omega, by omega, fun cx cy hc => ?_, fun hn => (by cases hn)⟩
    cases hc
    exact attempt_cell_in_grid env px py r1 c s (Bool.and_eq_true_iff.mp hok).1
  | case4 k pos att r1 r2 t c s _ _ _ _ a _ ih =>
    obtain ⟨a1, a2, a3, a4, a5⟩ := ih h
    exact ⟨by omega, by omega, by omega, a4, fun hn => (by have := a5 hn; omega)⟩
  | case5 => cases h

/-- only harness errors -/
theorem attempts_error (env : Env) (mask : Array Bool) (px py : Nat) (k pos att : Nat) (h : Halt)
    (e : attempts env mask px py k pos att = .error h) : h = .outOfDraws ∨ h = .desync := by
  fun_induction attempts env mask px py k pos att with
  | case1 => cases e
  | case2 => cases e; exact Or.inr rfl
  | case3 => cases e
  | case4 k pos att r1 r2 t c s _ _ _ _ a _ ih => exact ih e
  | case5 => cases e; exact Or.inl rfl

/-- Holds before and after every outer iteration.  `actives`: the list starts with the one initial point, which `init`
does not mark in the mask.  `sampled`: an acceptance marks a cell unless it was marked already (`stale`).  `draws`:
two `rand()` calls in `init`, one per iteration for the choice of `i`, two per attempt. -/
structure Inv (env : Env) (st : St) : Prop where
  maskSize : st.mask.size = env.nx * env.ny
  actsGrid : ∀ j (h : j < st.acts.size), st.acts[j].1 < env.nx ∧ st.acts[j].2 < env.ny
  actives : st.acts.size + st.removals = st.accepts + 1
  sampled : st.mask.count true + st.stale = st.accepts
  iters : st.iters = st.accepts + st.removals
  maxLe : st.acts.size ≤ st.maxna
  maxCap : st.maxna ≤ max 1 (env.nx * env.ny)
  draws : st.pos = 2 + st.iters + 2 * st.att
  attLe : st.att ≤ st.iters * env.maxAttempts

theorem count_setIfInBounds_true (mask : Array Bool) (k : Nat) (h : k < mask.size) :
    (mask.setIfInBounds k true).count true + (if mask.getD k false then 1 else 0) = mask.count true + 1 := by
  rw [Array.setIfInBounds_def]
  simp only [h, dite_true]
  rw [Array.count_set h]
  have hle := Array.boole_getElem_le_count (xs := mask) (a := true) h
  have hg : mask.getD k false = mask[k] := by simp [Array.getD, h]
  rw [hg]
  cases hb : mask[k]
  · simp
  · simp only [hb, beq_self_eq_true, if_true] at hle ⊢
    omega

theorem init_spec (env : Env) :
    (∀ st, init env = .ok st → Inv env st ∧ st.iters = 0) ∧
    (∀ h, init env = .error h → h = .outOfDraws ∨ h = .badIndex) := by
  unfold init
  split
  · dsimp only
    split
    · exact ⟨fun _ e => (by cases e), fun h e => (by cases e; exact Or.inr rfl)⟩
    · rename_i hin
      refine ⟨fun st e => ?_, fun h e => (by cases e)⟩
      cases e
      -- one active point (on the grid: the test just passed), an all-`false` mask, every counter at its start
      refine ⟨{ maskSize := by simp, actsGrid := ?_, actives := rfl, sampled := by simp [Array.count_replicate],
                iters := rfl, maxLe := Nat.le_refl _, maxCap := Nat.le_max_left _ _, draws := rfl,
                attLe := Nat.zero_le _ }, rfl⟩
      intro j hj
      have : j = 0 := by simp at hj; omega
      subst this
      exact Decidable.not_not.mp hin
  · exact ⟨fun _ e => (by cases e), fun h e => (by cases e; exact Or.inl rfl)⟩

theorem bookkeep_error (env : Env) (st : St) (i : Nat) (o : Option (Nat × Nat)) (pos att : Nat) (h : Halt)
    (ho : ∀ cx cy, o = some (cx, cy) → cx < env.nx ∧ cy < env.ny)
    (e : bookkeep env st i o pos att = .error h) : h = .overrun ∧ env.nx * env.ny ≤ st.acts.size := by
  unfold bookkeep at e
  split at e
  · rename_i cx cy
    split at e
    · rename_i hfull
      simp only [Except.error.injEq] at e
      exact ⟨e.symm, hfull⟩
    · split at e
      · rename_i hng; exact absurd (ho cx cy rfl) hng
      · cases e
  · cases e

/-- `hpos`, `hatt`: the two counting clauses of `Inv` for this iteration -/
theorem bookkeep_ok (env : Env) (st st' : St) (i : Nat) (o : Option (Nat × Nat)) (pos att : Nat)
    (hinv : Inv env st) (hi : i < st.acts.size)
    (ho : ∀ cx cy, o = some (cx, cy) → cx < env.nx ∧ cy < env.ny)
    (hpos : pos = 2 + (st.iters + 1) + 2 * att) (hatt : att ≤ (st.iters + 1) * env.maxAttempts)
    (h : bookkeep env st i o pos att = .ok st') : Inv env st' ∧ st'.iters = st.iters + 1 := by
  unfold bookkeep at h
  split at h
  · rename_i cx cy
    split at h
    · cases h
    · rename_i hcap
      split at h
      · cases h
      · simp only [Except.ok.injEq] at h
        subst h
        -- an accepted candidate: its cell is marked and the point appended to the active list
        refine ⟨{ maskSize := ?maskSize, actsGrid := ?actsGrid, actives := ?actives, sampled := ?sampled,
                  iters := ?iters, maxLe := ?maxLe, maxCap := ?maxCap, draws := hpos, attLe := hatt }, rfl⟩
        case maskSize => dsimp only; rw [Array.size_setIfInBounds]; exact hinv.maskSize
        case actsGrid =>
          intro j hj
          dsimp only at hj ⊢
          rw [Array.size_push] at hj
          rw [Array.getElem_push]
          split
          · exact hinv.actsGrid j _
          · exact ho cx cy rfl
        case actives => dsimp only; rw [Array.size_push]; have := hinv.actives; omega
        case sampled =>
          -- a new cell adds to the sampled cells, an already sampled one to `stale`
          obtain ⟨hx, hy⟩ := ho cx cy rfl
          have hk : cx * env.ny + cy < st.mask.size := by
            rw [hinv.maskSize]
            calc cx * env.ny + cy < (cx + 1) * env.ny := by rw [Nat.succ_mul]; omega
              _ ≤ env.nx * env.ny := Nat.mul_le_mul_right _ hx
          have := count_setIfInBounds_true st.mask (cx * env.ny + cy) hk
          have := hinv.sampled
          dsimp only; omega
        case iters => dsimp only; have := hinv.iters; omega
        case maxLe => dsimp only; rw [Array.size_push]; omega
        case maxCap => dsimp only; have := hinv.maxCap; omega
  · simp only [Except.ok.injEq] at h
    subst h
    -- all attempts failed: active point `i` is overwritten by the last one and the list shortened
    refine ⟨{ maskSize := hinv.maskSize, actsGrid := ?actsGrid, actives := ?actives, sampled := hinv.sampled,
              iters := ?iters, maxLe := ?maxLe, maxCap := hinv.maxCap, draws := hpos, attLe := hatt }, rfl⟩
    case actsGrid =>
      intro j hj
      dsimp only at hj ⊢
      rw [Array.size_pop, Array.size_setIfInBounds] at hj
      rw [Array.getElem_pop, Array.getElem_setIfInBounds (by omega)]
      split
      · rw [Array.getD_eq_getD_getElem?, Array.getElem?_eq_getElem (by omega), Option.getD_some]
        exact hinv.actsGrid _ _
      · exact hinv.actsGrid j (by omega)
    case actives => dsimp only; rw [Array.size_pop, Array.size_setIfInBounds]; have := hinv.actives; omega
    case iters => dsimp only; have := hinv.iters; omega
    case maxLe => dsimp only; rw [Array.size_pop, Array.size_setIfInBounds]; have := hinv.maxLe; omega

/-- an outer iteration is a harness stop, or `bookkeep` applied to what the attempt loop returned for a live active
point (on the grid by `Inv`) -/
theorem step_cases (env : Env) (st : St) (hinv : Inv env st) :
    (∃ h, step env st = .error h ∧ (h = .outOfDraws ∨ h = .badIndex ∨ h = .desync)) ∨
    ∃ i o pos att, step env st = bookkeep env st i o pos att ∧ i < st.acts.size ∧
      (∀ cx cy, o = some (cx, cy) → cx < env.nx ∧ cy < env.ny) ∧
      pos = 2 + (st.iters + 1) + 2 * att ∧ att ≤ (st.iters + 1) * env.maxAttempts := by
  unfold step
  split
  · exact Or.inl ⟨_, rfl, Or.inl rfl⟩
  · rename_i r _
    dsimp only
    split
    · exact Or.inl ⟨_, rfl, Or.inr (Or.inl rfl)⟩
    · rename_i hi
      have hi' : randint r st.acts.size < st.acts.size := by omega
      rw [Array.getD_eq_getD_getElem?, Array.getElem?_eq_getElem hi', Option.getD_some]
      split
      · rename_i hng; exact absurd (hinv.actsGrid _ hi') hng
      · split
        · rename_i h heq
          rcases attempts_error _ _ _ _ _ _ _ h heq with e | e
          · exact Or.inl ⟨_, rfl, Or.inl e⟩
          · exact Or.inl ⟨_, rfl, Or.inr (Or.inr e)⟩
        · rename_i o pos att heq
          obtain ⟨a1, a2, a3, a4, _⟩ := attempts_spec env st.mask _ _ _ _ _ o pos att heq
          have h1 := hinv.draws
          have h2 := hinv.attLe
          exact Or.inr ⟨_, o, pos, att, rfl, hi', a4, by omega, by rw [Nat.succ_mul]; omega⟩

/-- however a run stops, `Inv` holds where it stops; never an access outside the `nx × ny` arrays -/
theorem run_inv (env : Env) (fuel : Nat) (st : St) (hinv : Inv env st) :
    Inv env (run env fuel st).st ∧
    ((run env fuel st).halt = none → (run env fuel st).st.acts.size = 0) ∧
    ∀ h, (run env fuel st).halt = some h →
      h = .outOfDraws ∨ h = .badIndex ∨ h = .desync ∨
      (h = .overrun ∧ env.nx * env.ny ≤ (run env fuel st).st.acts.size) ∨
      (h = .outOfFuel ∧ (run env fuel st).st.iters = st.iters + fuel) := by
  fun_induction run env fuel st with
  | case1 st =>
    refine ⟨hinv, fun h => ?_, fun h e => ?_⟩
    · split at h
      · assumption
      · cases h
    · split at e
      · cases e
      · cases e; exact Or.inr (Or.inr (Or.inr (Or.inr ⟨rfl, rfl⟩)))
  | case2 fuel st h0 => exact ⟨hinv, fun _ => h0, fun h e => (by cases e)⟩
  | case3 fuel st _ h heq =>
    refine ⟨hinv, fun e => (by cases e), fun h' e => ?_⟩
    cases e
    rcases step_cases env st hinv with ⟨h', e', hh⟩ | ⟨i, o, pos, att, e', _, ho, _, _⟩
    · rw [heq, Except.error.injEq] at e'
      subst e'
      exact hh.imp_right fun r => r.imp_right Or.inl
    · rw [heq] at e'
      exact Or.inr (Or.inr (Or.inr (Or.inl (bookkeep_error env st i o pos att h ho e'.symm))))
  | case4 fuel st _ st' heq ih =>
    rcases step_cases env st hinv with ⟨h', e', _⟩ | ⟨i, o, pos, att, e', hi, ho, hpos, hatt⟩
    · rw [heq] at e'; cases e'
    · rw [heq] at e'
      obtain ⟨i1, i2⟩ := bookkeep_ok env st st' i o pos att hinv hi ho hpos hatt e'.symm
      obtain ⟨r1, r2, r3⟩ := ih i1
      refine ⟨r1, r2, fun h e => ?_⟩
      exact (r3 h e).imp_right fun r => r.imp_right fun r => r.imp_right fun r => r.imp_right fun r => ⟨r.1, by omega⟩

theorem kernel_spec (env : Env) (fuel : Nat) :
    (∀ st0, init env = .ok st0 → Inv env (kernel env fuel).st) ∧
    ((kernel env fuel).halt = none → (kernel env fuel).st.acts.size = 0) ∧
    ∀ h, (kernel env fuel).halt = some h →
      h = .outOfDraws ∨ h = .badIndex ∨ h = .desync ∨
      (h = .overrun ∧ env.nx * env.ny ≤ (kernel env fuel).st.acts.size) ∨
      (h = .outOfFuel ∧ (kernel env fuel).st.iters = fuel) := by
  unfold kernel
  cases h0 : init env with
  | error h =>
    refine ⟨fun _ e => (by cases e), fun e => (by cases e), fun h' e => ?_⟩
    cases e
    exact ((init_spec env).2 h h0).imp_right Or.inl
  | ok st0 =>
    obtain ⟨hinv, hiters⟩ := (init_spec env).1 st0 h0
    obtain ⟨r1, r2, r3⟩ := run_inv env fuel st0 hinv
    rw [hiters, Nat.zero_add] at r3
    exact ⟨fun _ _ => r1, r2, r3⟩

end DirectVerif.C04Poisson
