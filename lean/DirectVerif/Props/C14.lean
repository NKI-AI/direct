import DirectVerif.Lemmas.C14Plumbing
import DirectVerif.Lemmas.C14Orders
import DirectVerif.Lemmas.C10Crop
import Mathlib.Data.List.Perm.Basic
/-!
# C14 — volume reconstruction returns each volume once with its slices in order

All statements are about `Model/Recon.lean` and `Model/C14Loop.lean` (`reconstruct`, `reconstructL`, `processSlice`,
`predict`, `windowOrders`), the definitions the driver executes against the real `reconstruct_volumes` / `predict` /
`_process_output`; the loop invariant is in `Lemmas/C14Recon.lean`.
-/
namespace DirectVerif.C14
open DirectVerif DirectVerif.Sampler DirectVerif.Recon


/-- **Specification of the loop.**  The loader delivers, volume after volume (pairwise distinct filenames, sizes as
registered in the sampler), each volume's processed slices cut into *any* non-empty consecutive pieces.  Nothing is
dropped, duplicated or attributed to another volume, and the generator ends without an exception. -/
theorem reconstruct_spec {β} (sizeOf : Nat → Option Nat) (zero : β) (vs : List (Nat × List (List β)))
    (hv : ∀ v ∈ vs, v.2 ≠ [] ∧ (∀ p ∈ v.2, p ≠ []) ∧ sizeOf v.1 = some v.2.flatten.length)
    (hd : vs.Pairwise fun a b => a.1 ≠ b.1) :
    reconstruct sizeOf zero RState.init (vs.flatMap fun v => volBatches v.1 v.2) =
      (vs.map fun v => (v.2.flatten, v.1), none) := by
  have hL := reconstructL_volumes_spec sizeOf zero ()
    (vs.map fun v => (v.1, v.2.map fun p => (p.map (·, (0 : Int)), ()))) RState.init []
    (by
      intro w hw
      obtain ⟨v, hvm, rfl⟩ := List.mem_map.mp hw
      obtain ⟨h1, h2, h3⟩ := hv v hvm
      refine ⟨fun e => h1 (List.map_eq_nil_iff.mp e), fun q hq e => ?_, by rw [piecesOuts_plain]; exact h3⟩
      obtain ⟨p, hp, rfl⟩ := List.mem_map.mp hq
      exact h2 p hp (List.map_eq_nil_iff.mp e))
    (List.pairwise_map.mpr hd) (fun _ _ => Or.inl ⟨rfl, rfl, rfl⟩)
  obtain ⟨e1, e2⟩ := reconstructL_erase sizeOf zero _ (⟨RState.init, []⟩ : LState β Unit)
  rw [hL] at e1 e2
  have hb : (vs.flatMap fun v => volBatches v.1 v.2) =
      ((vs.map fun v => (v.1, v.2.map fun p => (p.map (·, (0 : Int)), ()))).flatMap
        fun v => volBatchesL v.1 v.2).map LBatch.erase := by
    rw [List.flatMap_map, List.map_flatMap, List.flatMap_def, List.flatMap_def]
    congr 1
    apply List.map_congr_left
    intro v _
    exact volBatches_eq_erase v.1 v.2
  rw [hb]
  apply Prod.ext
  · rw [← e1, yieldsFrom_volumes, List.map_map]
    apply List.map_congr_left
    intro v _
    exact congrArg (·, v.1) (piecesOuts_plain v.2)
  · exact e2.symm

theorem reconstruct_count {β} (sizeOf : Nat → Option Nat) (zero : β) (vs : List (Nat × List (List β)))
    (hv : ∀ v ∈ vs, v.2 ≠ [] ∧ (∀ p ∈ v.2, p ≠ []) ∧ sizeOf v.1 = some v.2.flatten.length)
    (hd : vs.Pairwise fun a b => a.1 ≠ b.1) :
    (reconstruct sizeOf zero RState.init (vs.flatMap fun v => volBatches v.1 v.2)).1.length = vs.length := by
  rw [reconstruct_spec sizeOf zero vs hv hd]; simp

/-- **Independence of the batch size.** -/
theorem reconstruct_independent_of_batch_size {β} (sizeOf : Nat → Option Nat) (zero : β)
    (vols : List (Nat × List β)) (hv : ∀ v ∈ vols, v.2 ≠ [] ∧ sizeOf v.1 = some v.2.length)
    (hd : vols.Pairwise fun a b => a.1 ≠ b.1) (bs : Nat) (hbs : 0 < bs) :
    reconstruct sizeOf zero RState.init (vols.flatMap fun v => volBatches v.1 (chunksOf bs v.2)) =
      (vols.map fun v => (v.2, v.1), none) := by
  have h := reconstruct_spec sizeOf zero (vols.map fun v => (v.1, chunksOf bs v.2))
    (by
      intro w hw
      rw [List.mem_map] at hw
      obtain ⟨v, hv', rfl⟩ := hw
      obtain ⟨h1, h2⟩ := hv v hv'
      exact ⟨chunksOf_ne_nil bs hbs _ h1, chunksOf_piece_ne_nil bs hbs _, by
        simp only [chunksOf_flatten bs hbs]; exact h2⟩)
    (by rw [List.pairwise_map]; exact hd)
  rw [List.flatMap_map, List.map_map] at h
  rw [h]
  exact congrArg (·, none) (List.map_congr_left fun v _ => congrArg (·, v.1) (chunksOf_flatten bs hbs v.2))


theorem process_output_eq_map {α σ} (mul : α → σ → α) (res : Option (Nat × Nat)) (fwd : Nat → Img α)
    (scale : Nat → σ) (idxs : List Nat) :
    processOutput mul res (idxs.map fwd) (idxs.map scale) =
      (idxs.map fun i => processSlice mul res (fwd i) (scale i)).mapM id := by
  rw [processOutput, zipWith_map_map]

theorem centerCropOk_nat {n s : Nat} (hs : 0 < s) (h : s ≤ n) : Crop.centerCropOk n s = true := by
  rw [Crop.centerCropOk, Bool.and_eq_true, decide_eq_true_eq, decide_eq_true_eq]
  exact ⟨Int.natCast_pos.mpr hs, Int.ofNat_le.mpr h⟩

theorem processSlice_header_ok {α σ} (mul : α → σ → α) (h w : Nat) (img : Img α) (s : σ) (hh : 0 < h)
    (hH : h ≤ img.length) (hw : 0 < w) (hW : w ≤ (img.headD []).length) :
    processSlice mul (some (h, w)) img s =
      some ((Crop.centerCrop h (img.map fun row => row.map (mul · s))).map (Crop.centerCrop w)) := by
  have e : ((img.map fun row => row.map (mul · s)).headD []).length = (img.headD []).length := by
    cases img with
    | nil => rfl
    | cons r rs => exact List.length_map _
  simp only [processSlice, cropImg, List.length_map, e, centerCropOk_nat hh hH, centerCropOk_nat hw hW,
    Bool.and_self, if_true]

/-- **Pointwise**: pixel `(i, j)` of the processed slice is pixel `(i + ⌊(H-h)/2⌋, j + ⌊(W-w)/2⌋)` of the
model output multiplied by that slice's scaling factor. -/
theorem process_output_pointwise {α σ} (mul : α → σ → α) (h w : Nat) (img out : Img α) (s : σ)
    (hout : processSlice mul (some (h, w)) img s = some out) (i j : Nat) (hi : i < h) (hj : j < w)
    (hH : h ≤ img.length) (hW : ∀ row ∈ img, row.length = (img.headD []).length)
    (hw : w ≤ (img.headD []).length) :
    (out[i]?.bind (·[j]?)) =
      ((img[i + (img.length - h) / 2]?.bind (·[j + ((img.headD []).length - w) / 2]?)).map (mul · s)) := by
  rw [processSlice_header_ok mul h w img s (Nat.zero_lt_of_lt hi) hH (Nat.zero_lt_of_lt hj) hw,
    Option.some.injEq] at hout
  subst hout
  rw [List.getElem?_map, C10.centerCrop_getElem?, if_pos hi, List.length_map, List.getElem?_map]
  cases hrow : img[i + (img.length - h) / 2]? with
  | none => rfl
  | some row =>
    have hlen := hW row (List.mem_of_getElem? hrow)
    rw [Option.map_some, Option.bind_some, Option.map_some, Option.bind_some,
      C10.centerCrop_getElem?, if_pos hj, List.length_map, List.getElem?_map, hlen]

theorem process_output_no_crop {α σ} (mul : α → σ → α) (img : Img α) (s : σ) :
    processSlice mul none img s = some (img.map fun row => row.map (mul · s)) := rfl

theorem process_output_complex_no_crop {α σ} (mul : α → σ → α) (modulus : α → α → α) (img : Img (α × α))
    (s : σ) :
    processSliceC mul modulus none img s =
      some (img.map fun row => row.map fun p => modulus (mul p.1 s) (mul p.2 s)) := rfl

/-! ## `predict`: sampler → loader → assembly loop -/

theorem loaderBatches_vols {β} (fname : Nat → Nat) (out : Nat → β) (bs : Nat)
    (vols : List Vol) (hf : ∀ v ∈ vols, ∀ i ∈ v.indices, fname i = v.id) :
    loaderBatches fname out (vols.flatMap fun v => chunksOf bs v.indices) =
      (vols.map fun v => (v.id, (chunksOf bs v.indices).map fun p => p.map out)).flatMap
        fun v => volBatches v.1 v.2 := by
  rw [loaderBatches, List.flatMap_map, List.map_flatMap, List.flatMap_def, List.flatMap_def]
  congr 1
  apply List.map_congr_left
  intro v hv
  rw [volBatches, List.map_map]
  apply List.map_congr_left
  intro p hp
  have e : p.map fname = List.replicate p.length v.id :=
    List.eq_replicate_iff.mpr ⟨List.length_map _, fun x hx => by
      obtain ⟨i, hi, rfl⟩ := List.mem_map.mp hx
      exact hf v hv i (chunksOf_piece_subset bs _ p hp i hi)⟩
  rw [e, Function.comp, List.length_map]

/-- **End to end**: rank `rank` yields exactly its volumes (C13: `rankVols`), each once, in order, slice `k` =
processed output of the volume's `k`-th dataset item; no exception.  The right-hand side does not mention `bs`. -/
theorem predict_spec {β} (layout : List Nat) (hl : ∀ n ∈ layout, 0 < n) (world rank bs : Nat)
    (hbs : 0 < bs) (out : Nat → β) (zero : β) :
    predict layout world rank bs out zero =
      ((rankVols layout world rank 0).map fun v => (v.indices.map out, v.id), none) := by
  have hpos := rankVols_pos layout world rank 0 hl
  have hpw := rankVols_pairwise layout world rank
  have hflat : ∀ v : Vol, ((chunksOf bs v.indices).map fun p => p.map out).flatten = v.indices.map out :=
    fun v => by rw [← List.map_flatten, chunksOf_flatten bs hbs]
  unfold predict
  dsimp only
  rw [bvs_iterate_eq _ bs hbs hpos, loaderBatches_vols _ out bs, reconstruct_spec, List.map_map]
  · exact congrArg (·, none) (List.map_congr_left fun v _ => congrArg (·, v.id) (hflat v))
  · intro w hw
    obtain ⟨v, hv, rfl⟩ := List.mem_map.mp hw
    have hne : v.indices ≠ [] := List.ne_nil_of_length_pos (by
      rw [Vol.indices, List.length_range']; exact Nat.sub_pos_of_lt (hpos v hv))
    refine ⟨fun e => chunksOf_ne_nil bs hbs _ hne (List.map_eq_nil_iff.mp e), fun p hp e => ?_, ?_⟩
    · obtain ⟨q, hq, rfl⟩ := List.mem_map.mp hp
      exact chunksOf_piece_ne_nil bs hbs _ q hq (List.map_eq_nil_iff.mp e)
    · rw [hflat, lookupSize_of_mem _ hpw v hv, List.length_map, Vol.indices, List.length_range', Vol.size]
  · exact List.pairwise_map.mpr (hpw.imp fun h => Nat.ne_of_lt h.1)
  · exact fun v hv i hi => fnameOfIndex_of_mem _ (volsFrom_pairwise 0 0 layout) v
      (mem_of_mem_rankVols layout world rank 0 v hv) i hi

/-- **Across ranks**: every volume of the dataset exactly once, in dataset order, whatever world size and batch size. -/
theorem predict_all_ranks {β} (layout : List Nat) (hl : ∀ n ∈ layout, 0 < n) (world : Nat)
    (hw : 0 < world) (bs : Nat) (hbs : 0 < bs) (out : Nat → β) (zero : β) :
    (List.range world).flatMap (fun r => (predict layout world r bs out zero).1) =
      (volumes layout).map fun v => (v.indices.map out, v.id) := by
  simp only [predict_spec layout hl world _ bs hbs out zero]
  exact rank_volumes_map layout world hw _

-- hypotheses are satisfiable / the model computes what one expects
example : predict [2, 3, 1] 2 0 2 (fun i => 10 * i) 0 = ([([0, 10], 0), ([20, 30, 40], 1)], none) := by decide +kernel
example : predict [2, 3, 1] 2 1 4 (fun i => 10 * i) 0 = ([([50], 2)], none) := by decide +kernel
example : predict [2] 3 2 4 (fun i => 10 * i) 0 = ([], none) := by decide +kernel
example : ∀ n ∈ [2, 3, 1], 0 < n := by decide +kernel

/-- the loop relies on the sampler: a batch mixing two volumes (what the `BatchVolumeSampler` of the
pinned tree produced in its second pass, `C13.bvs_pinned_second_pass_violates`) raises
`ValueError` before anything is yielded -/
theorem reconstruct_mixed_batch_raises :
    reconstruct (lookupSize (volumes [2, 3])) 0 RState.init
      (loaderBatches (fnameOfIndex (volumes [2, 3])) (fun i => (10 * i : Nat)) [[0, 1, 2, 3], [4]]) =
      ([], some RErr.valueError) := by decide +kernel

/-! ## `Engine.predict` with its plumbing, the data loader, `write_output_to_h5` -/

/-- `predict` always asks `build_batch_sampler` for the `"sequential"` sampler, which exists -/
theorem predict_uses_sequential_sampler :
    buildBatchSampler (some "sequential") false = .ok .batchVolumeOverSequential := by
  simp [buildBatchSampler]

theorem build_batch_sampler_rejects (t : Option String) (l : Bool) (h1 : t ≠ some "random")
    (h2 : t ≠ some "sequential") : buildBatchSampler t l = .error .valueError := by
  simp [buildBatchSampler, h1, h2]

/-- **`Engine.predict`, end to end, with the processing inside the loop**, for every in-order loader (`num_workers`,
`prefetch_factor` are not visible to the result).  `hout`: the items of a volume share one `reconstruction_size` header
from which `_compute_resolution(crop, …)` obtains a resolution that `center_crop` accepts for every slice; `out i` is
the processed slice, possibly of a different spatial shape per volume. -/
theorem predict_full_spec {α σ} (mul : α → σ → α) (layout : List Nat) (hl : ∀ n ∈ layout, 0 < n)
    (world rank bs : Nat) (hbs : 0 < bs) (key : CropKey) (fwd : Nat → Img α) (scale : Nat → σ)
    (recon : Nat → List Nat) (deliver : Loader) (hd : InOrder deliver) (out : Nat → Img α)
    (hout : ∀ v ∈ rankVols layout world rank 0, ∃ res,
      computeResolution key (recon v.start) = .ok res ∧
      ∀ i ∈ v.indices, recon i = recon v.start ∧ processSlice mul res (fwd i) (scale i) = some (out i)) :
    predictFull mul layout world rank bs key fwd scale recon deliver =
      ((rankVols layout world rank 0).map fun v => (v.indices.map out, v.id), none) := by
  rw [← predict_spec layout hl world rank bs hbs out []]
  unfold predictFull predict
  simp only [predict_uses_sequential_sampler, hd _]
  have hpos := rankVols_pos layout world rank 0 hl
  rw [bvs_iterate_eq _ bs hbs hpos, ← reconstructP_ok]
  congr 1
  unfold loaderBatches
  rw [List.map_map]
  apply List.map_congr_left
  intro p hp
  rw [List.mem_flatMap] at hp
  obtain ⟨v, hv, hpv⟩ := hp
  obtain ⟨res, hres, hall⟩ := hout v hv
  have hne := chunksOf_piece_ne_nil bs hbs _ p hpv
  have hsub := chunksOf_piece_subset bs _ p hpv
  simp only [Function.comp]
  rw [processBatch_piece mul key fwd scale recon out p hne (recon v.start) res hres
    (fun i hi => (hall i (hsub i hi)).1) (fun i hi => (hall i (hsub i hi)).2)]

-- per-volume shapes and header-driven crops: volume 0 is 2x3 cropped to 1x3, volume 1 is 3x2 cropped to 1x2
example :
    predictFull (fun (x : Int) (s : Int) => x * s) [1, 2] 1 0 2 .header
      (fun i => if i = 0 then [[1, 2, 3], [4, 5, 6]] else [[10 * i, 1], [2, 3], [4, 5]])
      (fun i => (i : Int) + 1) (fun i => if i = 0 then [1, 3, 1] else [1, 2, 1]) id =
    ([([[[1, 2, 3]]], 0), ([[[4, 6]], [[6, 9]]], 1)], none) := by decide +kernel

/-- the loop trusts the loader's order: if a loader delivered a volume's batches out of order, the
volume would be yielded with its slices permuted and **no exception** (slice numbers are never read) -/
theorem loader_reorder_misorders_slices :
    reconstruct (lookupSize (volumes [4])) 0 RState.init
      (loaderBatches (fnameOfIndex (volumes [4])) (fun i => (10 * i : Nat)) [[2, 3], [0, 1]]) =
      ([([20, 30, 0, 10], 0)], none) := by decide +kernel

/-- an unsupported `crop` value raises `ValueError` on the first batch; `"header"` needs a 3-entry size -/
theorem compute_resolution_cases (r : List Nat) :
    computeResolution .none r = .ok none ∧ computeResolution .other r = .error .valueError ∧
      computeResolution .header [5, 7, 1] = .ok (some (5, 7)) ∧
      computeResolution .header [5, 7] = .error .indexError := by
  refine ⟨rfl, rfl, by simp [computeResolution], by simp [computeResolution]⟩

/-- **h5 round trip**: with pairwise distinct basenames the file of every tuple holds, under the output key, that
volume's (channel-0) slices — whatever was in the directory before. -/
theorem write_roundtrip {γ δ} (base : Nat → Nat) (chan0 : δ → γ) (key : String) (d : Dir γ)
    (output : List (δ × Nat)) (hd : output.Pairwise fun a b => base a.2 ≠ base b.2) (o : δ × Nat)
    (ho : o ∈ output) :
    readFile (writeOutput base chan0 key d output) (base o.2) = some (key, chan0 o.1) := by
  induction output generalizing d with
  | nil => cases ho
  | cons a os ih =>
    rw [List.pairwise_cons] at hd
    rw [writeOutput_cons]
    rcases List.mem_cons.mp ho with e | e
    · rw [e, writeOutput_read_untouched base chan0 key os _ _ (fun o' ho' => (hd.1 o' ho').symm),
        readFile_writeFile_same]
    · exact ih _ hd.2 e

theorem write_leaves_others {γ δ} (base : Nat → Nat) (chan0 : δ → γ) (key : String) (d : Dir γ)
    (output : List (δ × Nat)) (m : Nat) (h : ∀ o ∈ output, base o.2 ≠ m) :
    readFile (writeOutput base chan0 key d output) m = readFile d m :=
  writeOutput_read_untouched base chan0 key output d m h

/-- Files are named by the **basename** only: two volumes whose paths differ only in the directory
collide and the later one silently replaces the earlier one (outside C14's statement, which is about
the tuples yielded; recorded as a note). -/
theorem write_collision_last_wins :
    readFile (writeOutput (fun f => f % 10) id "reconstruction" [] [([1, 2], 3), ([7, 8, 9], 13)]) 3 =
      some ("reconstruction", [7, 8, 9]) := by decide +kernel

/-- **All ranks write into one directory**: with distinct basenames every volume ends up in its own file. -/
theorem predict_write_all_ranks {β} (layout : List Nat) (hl : ∀ n ∈ layout, 0 < n) (world : Nat)
    (hw : 0 < world) (bs : Nat) (hbs : 0 < bs) (out : Nat → β) (zero : β) (base : Nat → Nat)
    (hb : ∀ a b, base a = base b → a = b) (key : String) (v : Vol) (hv : v ∈ volumes layout) :
    readFile (writeOutput base id key []
        ((List.range world).flatMap fun r => (predict layout world r bs out zero).1)) (base v.id) =
      some (key, v.indices.map out) := by
  rw [predict_all_ranks layout hl world hw bs hbs out zero]
  have hpw : ((volumes layout).map fun v => (v.indices.map out, v.id)).Pairwise
      fun a b => base a.2 ≠ base b.2 := by
    rw [List.pairwise_map]
    exact (volsFrom_pairwise 0 0 layout).imp (fun h e => by have := hb _ _ e; omega)
  exact write_roundtrip base id key [] _ hpw (v.indices.map out, v.id)
    (List.mem_map.mpr ⟨v, hv, rfl⟩)

/-! ## what the loop reads, which delivery orders it tolerates, the loss list -/

/-- **`slice_no` is never read**: the `k`-th slice of a volume is the `k`-th slice *delivered* for it, whatever the
items report as `slice_no` (file coordinates after a `slice_data` filter, gaps, a permutation, a constant). -/
theorem reconstruct_ignores_slice_no {β ℓ} (sizeOf : Nat → Option Nat) (zero : β)
    (g : LBatch β ℓ → List Int) (bs : List (LBatch β ℓ)) :
    reconstructL sizeOf zero LState.init (bs.map fun b => { b with sliceNos := g b }) =
      reconstructL sizeOf zero LState.init bs :=
  reconstructL_sliceNos_irrelevant sizeOf zero g bs LState.init

theorem reconstructL_volumes {β ℓ} (sizeOf : Nat → Option Nat) (zero : β) (bs : List (LBatch β ℓ)) :
    ((reconstructL sizeOf zero LState.init bs).1.map fun y => (y.1, y.2.2)) =
        (reconstruct sizeOf zero RState.init (bs.map LBatch.erase)).1 ∧
      (reconstructL sizeOf zero LState.init bs).2 =
        (reconstruct sizeOf zero RState.init (bs.map LBatch.erase)).2 :=
  reconstructL_erase sizeOf zero bs LState.init

/-- **Specification of the loop with `slice_no` and `loss_dict_list`**: as `reconstruct_spec`, and the loss list of
the `k`-th yield holds the loss dicts of the **first batch** of volumes `0 … k` (`loss_list_of_kth_yield`). -/
theorem reconstructL_spec {β ℓ} (sizeOf : Nat → Option Nat) (zero : β) (d : ℓ)
    (vs : List (Nat × List (List (β × Int) × ℓ)))
    (hv : ∀ v ∈ vs, v.2 ≠ [] ∧ (∀ p ∈ v.2, p.1 ≠ []) ∧ sizeOf v.1 = some (piecesOuts v.2).length)
    (hd : vs.Pairwise fun a b => a.1 ≠ b.1) :
    reconstructL sizeOf zero LState.init (vs.flatMap fun v => volBatchesL v.1 v.2) =
      (yieldsFrom [] vs d, none) :=
  reconstructL_volumes_spec sizeOf zero d vs RState.init [] hv hd (fun _ _ => Or.inl ⟨rfl, rfl, rfl⟩)

/-- a running list over the whole loader, **not** the losses of that volume's batches (outside C14's statement, which
is about the volumes; recorded as a note) -/
theorem loss_list_of_kth_yield {β ℓ} (d : ℓ) (vs : List (Nat × List (List (β × Int) × ℓ))) (k : Nat)
    (hk : k < vs.length) :
    ((yieldsFrom [] vs d)[k]?).map (·.2.1) =
      some ((vs.take (k + 1)).map fun v => (v.2.head?.map (·.2)).getD d) := by
  rw [yieldsFrom_losses d vs [] k hk, List.nil_append]

/-- witness: volume 1 (two batches with losses 30 and 40) is yielded with the list `[10, 30]` — the loss
of volume 0's batch is in it, the loss 40 of its own second batch is not -/
theorem loss_list_not_per_volume :
    reconstructL (ℓ := Nat) (fun f => if f = 0 then some 1 else some 2) (0 : Nat) LState.init
        [⟨[0], [0], [5], 10⟩, ⟨[1], [0], [6], 30⟩, ⟨[1], [1], [7], 40⟩] =
      ([([5], [10], 0), ([6, 7], [10, 30], 1)], none) := by decide +kernel

/-- **Tolerated reorderings**: volumes in another order (`hvol`) and, inside a volume, its batches in another order
(`hpieces`), but every volume's batches *contiguously*.  Every volume is still yielded once, without an exception, with
its pieces **in the delivered order** — right iff they concatenate to the volume, in particular for every reordering of
whole volumes. -/
theorem reconstruct_reordered {β} (sizeOf : Nat → Option Nat) (zero : β) (vs vs' : List (Nat × List (List β)))
    (hv : ∀ v ∈ vs, v.2 ≠ [] ∧ (∀ p ∈ v.2, p ≠ []) ∧ sizeOf v.1 = some v.2.flatten.length)
    (hd : vs.Pairwise fun a b => a.1 ≠ b.1)
    (hvol : (vs'.map (·.1)).Perm (vs.map (·.1)))
    (hpieces : ∀ v' ∈ vs', ∃ v ∈ vs, v.1 = v'.1 ∧ v'.2.Perm v.2) :
    reconstruct sizeOf zero RState.init (vs'.flatMap fun v => volBatches v.1 v.2) =
      (vs'.map fun v => (v.2.flatten, v.1), none) := by
  apply reconstruct_spec
  · intro v' hv'
    obtain ⟨v, hvm, hid, hp⟩ := hpieces v' hv'
    obtain ⟨h1, h2, h3⟩ := hv v hvm
    refine ⟨?_, ?_, ?_⟩
    · intro e
      rw [e] at hp
      exact h1 (List.Perm.eq_nil hp.symm)
    · intro p hpm
      exact h2 p (hp.mem_iff.mp hpm)
    · rw [← hid, h3, hp.flatten.length_eq]
  · have h1 : (vs.map (·.1)).Pairwise (· ≠ ·) := by rw [List.pairwise_map]; exact hd
    have h2 := (hvol.pairwise_iff (R := fun (a b : Nat) => a ≠ b) (fun h => h.symm)).mpr h1
    rw [List.pairwise_map] at h2
    exact h2

theorem reconstruct_any_volume_order {β} (sizeOf : Nat → Option Nat) (zero : β)
    (vs vs' : List (Nat × List (List β)))
    (hv : ∀ v ∈ vs, v.2 ≠ [] ∧ (∀ p ∈ v.2, p ≠ []) ∧ sizeOf v.1 = some v.2.flatten.length)
    (hd : vs.Pairwise fun a b => a.1 ≠ b.1) (hp : vs'.Perm vs) :
    (reconstruct sizeOf zero RState.init (vs'.flatMap fun v => volBatches v.1 v.2)).1.Perm
        (reconstruct sizeOf zero RState.init (vs.flatMap fun v => volBatches v.1 v.2)).1 ∧
      (reconstruct sizeOf zero RState.init (vs'.flatMap fun v => volBatches v.1 v.2)).2 = none := by
  rw [reconstruct_spec sizeOf zero vs hv hd,
    reconstruct_reordered sizeOf zero vs vs' hv hd (hp.map _)
      (fun v' hv' => ⟨v', hp.mem_iff.mp hv', rfl, List.Perm.refl _⟩)]
  exact ⟨hp.map _, rfl⟩

/-- **Not tolerated (1): batches of one volume out of order.**  With two batches in flight a loader that hands over
whichever is ready can swap the two batches of a volume; it is then yielded as `q ++ p`, silently. -/
theorem window_two_can_misorder {β} (k : Nat) (hk : 2 ≤ k) (sizeOf : Nat → Option Nat) (zero : β) (f : Nat)
    (p q : List β) (hp : p ≠ []) (hq : q ≠ []) (hs : sizeOf f = some (q.length + p.length)) :
    ∃ ys ∈ windowOrders k (volBatches f [p, q]),
      reconstruct sizeOf zero RState.init ys = ([(q ++ p, f)], none) := by
  refine ⟨volBatches f [q, p], windowOrders_swap k hk _ _, ?_⟩
  -- the swapped delivery is the well-formed stream of the one volume `f` cut into the pieces `q`, `p`
  have hflat : [q, p].flatten = q ++ p := by rw [List.flatten_cons, List.flatten_singleton]
  have h := reconstruct_spec sizeOf zero [(f, [q, p])]
    (fun v hv => by
      rw [List.mem_singleton.mp hv]
      refine ⟨List.cons_ne_nil _ _, fun x hx => ?_, by rw [hflat, List.length_append]; exact hs⟩
      rcases List.mem_cons.mp hx with e | e
      · rw [e]; exact hq
      · rw [List.mem_singleton.mp e]; exact hp)
    (List.pairwise_singleton _ _)
  rw [List.flatMap_singleton, List.map_singleton, hflat] at h
  exact h

/-- **Not tolerated (2): interleaved volumes.**  A batch of another file makes the loop forget the volume it was
assembling. -/
theorem filename_change_discards_partial_volume {β} (sizeOf : Nat → Option Nat) (zero : β)
    (s1 s2 : RState β) (g1 g2 f : Nat) (h1 : s1.last = some g1) (h1' : g1 ≠ f) (h2 : s2.last = some g2)
    (h2' : g2 ≠ f) (b : RBatch β) (hb : filenameOf b.fnames = some f) :
    rstep sizeOf zero s1 b = rstep sizeOf zero s2 b := by
  unfold rstep
  simp [hb, h1, h1', h2, h2']

/-- witness: two 4-slice volumes delivered alternately in batches of 2 — nothing is yielded and no
exception is raised (both volumes are silently lost) -/
theorem interleaved_volumes_are_lost :
    reconstruct (lookupSize (volumes [4, 4])) 0 RState.init
      (loaderBatches (fnameOfIndex (volumes [4, 4])) (fun i => (10 * i : Nat)) [[0, 1], [4, 5], [2, 3], [6, 7]]) =
      ([], none) := by decide +kernel

theorem reconstruct_single_batches {β} (sizeOf : Nat → Option Nat) (zero : β) (vols : List (Nat × List β))
    (hv : ∀ v ∈ vols, v.2 ≠ [] ∧ sizeOf v.1 = some v.2.length) (hd : vols.Pairwise fun a b => a.1 ≠ b.1) :
    reconstruct sizeOf zero RState.init (vols.map fun v => (⟨List.replicate v.2.length v.1, v.2⟩ : RBatch β)) =
      (vols.map fun v => (v.2, v.1), none) := by
  have h := reconstruct_spec sizeOf zero (vols.map fun v => (v.1, [v.2]))
    (fun w hw => by
      obtain ⟨v, hvm, rfl⟩ := List.mem_map.mp hw
      exact ⟨List.cons_ne_nil _ _, fun x hx => by rw [List.mem_singleton.mp hx]; exact (hv v hvm).1,
        by rw [List.flatten_singleton]; exact (hv v hvm).2⟩)
    (List.pairwise_map.mpr hd)
  have e1 : (vols.flatMap fun v => volBatches v.1 [v.2]) =
      vols.map fun v => (⟨List.replicate v.2.length v.1, v.2⟩ : RBatch β) := List.map_eq_flatMap.symm
  have e2 : (vols.map fun v => ([v.2].flatten, v.1)) = vols.map fun v => (v.2, v.1) :=
    List.map_congr_left fun v _ => by rw [List.flatten_singleton]
  rw [List.flatMap_map, List.map_map] at h
  rw [← e1, ← e2]
  exact h

/-- **Tolerated for every window**: when every volume fits into one batch, every delivery order of a loader with any
number `k` of batches in flight yields every volume once, correctly assembled (only the order follows the delivery). -/
theorem single_batch_volumes_any_order {β} (sizeOf : Nat → Option Nat) (zero : β) (vols : List (Nat × List β))
    (hv : ∀ v ∈ vols, v.2 ≠ [] ∧ sizeOf v.1 = some v.2.length)
    (hd : vols.Pairwise fun a b => a.1 ≠ b.1) (k : Nat) (hk : 0 < k) (ys : List (RBatch β))
    (hy : ys ∈ windowOrders k (vols.map fun v => (⟨List.replicate v.2.length v.1, v.2⟩ : RBatch β))) :
    (reconstruct sizeOf zero RState.init ys).1.Perm (vols.map fun v => (v.2, v.1)) ∧
      (reconstruct sizeOf zero RState.init ys).2 = none := by
  -- the delivered batches are the one-batch volumes of a permutation `vols'` of `vols`
  have hperm := windowOrders_perm k hk _ ys hy
  -- a permutation of a mapped list is the map of a permutation (`List.eq_map_comp_perm`)
  have hcomp : Relation.Comp (fun (a : List (RBatch β)) (b : List (Nat × List β)) =>
      a = b.map fun v => (⟨List.replicate v.2.length v.1, v.2⟩ : RBatch β)) List.Perm ys vols := by
    rw [List.eq_map_comp_perm]
    exact hperm
  obtain ⟨vols', rfl, hp⟩ := hcomp
  rw [reconstruct_single_batches sizeOf zero vols' (fun v hv' => hv v (hp.mem_iff.mp hv'))
    ((hp.pairwise_iff (R := fun a b => a.1 ≠ b.1) (fun h => h.symm)).mpr hd)]
  exact ⟨hp.map _, rfl⟩

/-- **`Engine.predict` with a loader that keeps one batch in flight** (and torch's default
`in_order=True` for any number of workers): `predict_full_spec` applies. -/
theorem predict_full_spec_window_one {α σ} (mul : α → σ → α) (layout : List Nat) (hl : ∀ n ∈ layout, 0 < n)
    (world rank bs : Nat) (hbs : 0 < bs) (key : CropKey) (fwd : Nat → Img α) (scale : Nat → σ)
    (recon : Nat → List Nat) (deliver : Loader) (hd : ∀ b, deliver b ∈ windowOrders 1 b) (out : Nat → Img α)
    (hout : ∀ v ∈ rankVols layout world rank 0, ∃ res,
      computeResolution key (recon v.start) = .ok res ∧
      ∀ i ∈ v.indices, recon i = recon v.start ∧ processSlice mul res (fwd i) (scale i) = some (out i)) :
    predictFull mul layout world rank bs key fwd scale recon deliver =
      ((rankVols layout world rank 0).map fun v => (v.indices.map out, v.id), none) :=
  predict_full_spec mul layout hl world rank bs hbs key fwd scale recon deliver
    (fun b => List.mem_singleton.mp (windowOrders_one b ▸ hd b)) out hout

/-! ### the hypotheses of `predict_full_spec` discharged for the two supported `crop` values -/

/-- `crop=None` (or `""`): **unconditional** — model outputs of any (per-item) shapes, any scaling factors and
headers; slice `k` = model output of the volume's `k`-th item times that item's scaling factor. -/
theorem predict_full_no_crop {α σ} (mul : α → σ → α) (layout : List Nat) (hl : ∀ n ∈ layout, 0 < n)
    (world rank bs : Nat) (hbs : 0 < bs) (fwd : Nat → Img α) (scale : Nat → σ) (recon : Nat → List Nat)
    (deliver : Loader) (hd : InOrder deliver) :
    predictFull mul layout world rank bs .none fwd scale recon deliver =
      ((rankVols layout world rank 0).map fun v =>
        (v.indices.map fun i => (fwd i).map fun row => row.map (mul · (scale i)), v.id), none) := by
  have h0 : predictFull mul layout world rank bs .none fwd scale recon deliver =
      predictFull mul layout world rank bs .none fwd scale (fun _ => []) deliver := rfl
  rw [h0]
  exact predict_full_spec mul layout hl world rank bs hbs .none fwd scale (fun _ => []) deliver hd
    (fun i => (fwd i).map fun row => row.map (mul · (scale i)))
    (fun v _ => ⟨none, rfl, fun i _ => ⟨rfl, rfl⟩⟩)

/-- **Across ranks, with the processing inside**, for `crop=None`. -/
theorem predict_full_all_ranks_no_crop {α σ} (mul : α → σ → α) (layout : List Nat) (hl : ∀ n ∈ layout, 0 < n)
    (world : Nat) (hw : 0 < world) (bs : Nat) (hbs : 0 < bs) (fwd : Nat → Img α) (scale : Nat → σ)
    (recon : Nat → List Nat) (deliver : Loader) (hd : InOrder deliver) :
    (List.range world).flatMap
        (fun r => (predictFull mul layout world r bs .none fwd scale recon deliver).1) =
      (volumes layout).map fun v =>
        (v.indices.map fun i => (fwd i).map fun row => row.map (mul · (scale i)), v.id) := by
  simp only [predict_full_no_crop mul layout hl world _ bs hbs fwd scale recon deliver hd]
  exact rank_volumes_map layout world hw _

/-- `crop="header"`: every volume carries **its own** header `reconstruction_size = (x, y, z)` (the same for all its
items) with `0 < x ≤ height`, `0 < y ≤ width`; slice `k` = the centre `x × y` window (C10) of the scaled model output —
volumes with different image shapes and headers in one loader included. -/
theorem predict_full_header {α σ} (mul : α → σ → α) (layout : List Nat) (hl : ∀ n ∈ layout, 0 < n)
    (world rank bs : Nat) (hbs : 0 < bs) (fwd : Nat → Img α) (scale : Nat → σ) (recon : Nat → List Nat)
    (deliver : Loader) (hd : InOrder deliver)
    (hhdr : ∀ v ∈ rankVols layout world rank 0, ∃ x y z, 0 < x ∧ 0 < y ∧
      ∀ i ∈ v.indices, recon i = [x, y, z] ∧ x ≤ (fwd i).length ∧ y ≤ ((fwd i).headD []).length) :
    predictFull mul layout world rank bs .header fwd scale recon deliver =
      ((rankVols layout world rank 0).map fun v =>
        (v.indices.map fun i =>
          (Crop.centerCrop ((recon i).getD 0 0) ((fwd i).map fun row => row.map (mul · (scale i)))).map
            (Crop.centerCrop ((recon i).getD 1 0)), v.id), none) := by
  apply predict_full_spec mul layout hl world rank bs hbs .header fwd scale recon deliver hd
  intro v hv
  obtain ⟨x, y, z, hx, hy, hall⟩ := hhdr v hv
  have hpos := rankVols_pos layout world rank 0 hl v hv
  have hstart : v.start ∈ v.indices := by
    rw [Vol.indices, List.mem_range'_1]; omega
  refine ⟨some (x, y), ?_, ?_⟩
  · rw [(hall v.start hstart).1]; simp [computeResolution]
  · intro i hi
    obtain ⟨h1, h2, h3⟩ := hall i hi
    refine ⟨by rw [h1, (hall v.start hstart).1], ?_⟩
    rw [processSlice_header_ok mul x y (fwd i) (scale i) hx h2 hy h3, h1]
    rfl

example : ∃ x y z, 0 < x ∧ 0 < y ∧ ∀ i ∈ ([0, 1] : List Nat),
    (fun _ => [1, 2, 1]) i = [x, y, z] ∧ x ≤ ([[1, 2, 3], [4, 5, 6]] : Img Int).length ∧
      y ≤ (([[1, 2, 3], [4, 5, 6]] : Img Int).headD []).length := ⟨1, 2, 1, by decide⟩

-- hypotheses are satisfiable / the definitions compute what one expects
example : windowOrders 2 [1, 2, 3] = [[1, 2, 3], [1, 3, 2], [2, 1, 3], [2, 3, 1]] := by decide +kernel
-- a slow first batch may arrive arbitrarily late, a batch at most `k - 1` positions early
example : [2, 3, 4, 1] ∈ windowOrders 2 [1, 2, 3, 4] ∧ [3, 1, 2, 4] ∉ windowOrders 2 [1, 2, 3, 4] := by decide +kernel
example : windowOrders 1 [1, 2, 3] = [[1, 2, 3]] := by decide +kernel
example : reconstructL (ℓ := Nat) (fun _ => some 2) (0 : Nat) LState.init
    ((volBatchesL 7 [([(5, 3), (6, 9)], 11)])) = ([([5, 6], [11], 7)], none) := by decide +kernel
example : stateWritesOk expectedStateWrites = true := by decide +kernel

/-! ## the 3-D branch of `evaluate`: `volume.transpose(1, 2).reshape(sc * z, c, x, y)`

`evalReshape` merges the slice and the frame axis: row `j` of the tensor handed to the metrics is frame `j % z` of slice
`j / z`, and `j ↦ (j / z, j % z)` enumerates the (slice, frame) pairs in lexicographic order, each once, for every `sc`
and `z`, empty volumes and `z = 0` included. -/

theorem evalSrc_mul_add (z s t : Nat) (ht : t < z) : evalSrc z (s * z + t) = (s, t) := by
  rw [evalSrc, Nat.mul_comm, Nat.mul_add_div (Nat.zero_lt_of_lt ht), Nat.div_eq_of_lt ht, Nat.mul_add_mod,
    Nat.mod_eq_of_lt ht, Nat.add_zero]

theorem eval3d_index_enum (sc z : Nat) :
    (List.range (sc * z)).map (evalSrc z) =
      (List.range sc).flatMap fun s => (List.range z).map fun t => (s, t) := by
  induction sc with
  | zero => rw [Nat.zero_mul]; rfl
  | succ n ih =>
    rw [Nat.succ_mul, List.range_add, List.map_append, ih, List.range_succ, List.flatMap_append,
      List.flatMap_singleton, List.map_map]
    congr 1
    exact List.map_congr_left fun t ht => evalSrc_mul_add z n t (List.mem_range.mp ht)

theorem eval3d_index_bij (sc z : Nat) :
    (∀ j, j < sc * z → (evalSrc z j).1 < sc ∧ (evalSrc z j).2 < z ∧ (evalSrc z j).1 * z + (evalSrc z j).2 = j) ∧
    (∀ s t, s < sc → t < z → s * z + t < sc * z ∧ evalSrc z (s * z + t) = (s, t)) ∧
    (∀ j j', j < j' → j' < sc * z →
      (evalSrc z j).1 < (evalSrc z j').1 ∨ ((evalSrc z j).1 = (evalSrc z j').1 ∧ (evalSrc z j).2 < (evalSrc z j').2)) := by
  have hz : ∀ j, j < sc * z → 0 < z := fun j hj =>
    Nat.pos_of_ne_zero fun h => by rw [h, Nat.mul_zero] at hj; exact Nat.not_lt_zero j hj
  refine ⟨fun j hj => ?_, fun s t hs ht => ⟨?_, evalSrc_mul_add z s t ht⟩, fun j j' hlt hj' => ?_⟩
  · exact ⟨(Nat.div_lt_iff_lt_mul (hz j hj)).mpr hj, Nat.mod_lt _ (hz j hj), Nat.div_add_mod' j z⟩
  · exact Nat.lt_of_lt_of_le (Nat.add_lt_add_left ht _)
      (Nat.le_trans (Nat.le_of_eq (Nat.succ_mul s z).symm) (Nat.mul_le_mul_right z hs))
  · -- equal quotients: the remainders are ordered like `j`, `j'`
    have h1 := Nat.div_add_mod' j z
    have h2 := Nat.div_add_mod' j' z
    rcases Nat.lt_or_eq_of_le (Nat.div_le_div_right (c := z) (Nat.le_of_lt hlt)) with h | h
    · exact Or.inl h
    · refine Or.inr ⟨h, ?_⟩
      show j % z < j' % z
      rw [h] at h1
      omega

theorem eval3d_rows_spec {β} (z : Nat) (vol : List (List (List β))) :
    evalReshape z vol =
      (List.range (vol.length * z)).map fun j => (vol.getD (evalSrc z j).1 []).filterMap (·[(evalSrc z j).2]?) := by
  have hvol : vol = (List.range vol.length).map fun s => vol.getD s [] := (range_map_getD vol).symm
  have h : evalReshape z vol =
      ((List.range vol.length).flatMap fun s => (List.range z).map fun t => (s, t)).map
        fun p => (vol.getD p.1 []).filterMap (·[p.2]?) := by
    conv_lhs => rw [hvol]
    simp only [evalReshape, transpose12, List.map_map, List.flatMap_def, Function.comp_def]
    rw [List.map_flatten, List.map_map]
    simp only [Function.comp_def, List.map_map]
  rw [h, ← eval3d_index_enum, List.map_map]
  rfl

theorem filterMap_get {β} (t : Nat) (s : List (List β)) (h : ∀ r ∈ s, t < r.length) (ch : Nat) :
    (s.filterMap (·[t]?))[ch]? = s[ch]?.bind (·[t]?) := by
  induction s generalizing ch with
  | nil => rfl
  | cons r rest ih =>
    have hr : t < r.length := h r List.mem_cons_self
    rw [List.filterMap_cons, List.getElem?_eq_getElem hr]
    cases ch with
    | zero => rw [List.getElem?_cons_zero, List.getElem?_cons_zero, Option.bind_some, List.getElem?_eq_getElem hr]
    | succ k =>
      rw [List.getElem?_cons_succ, List.getElem?_cons_succ]
      exact ih (fun r' hr' => h r' (List.mem_cons_of_mem _ hr')) k

theorem eval3d_entry {β} (z : Nat) (vol : List (List (List β)))
    (hshape : ∀ s ∈ vol, ∀ r ∈ s, r.length = z) (j ch : Nat) (hj : j < vol.length * z) :
    (evalReshape z vol)[j]?.bind (·[ch]?) = (vol[j / z]?.bind (·[ch]?)).bind (·[j % z]?) := by
  have hz : 0 < z := Nat.pos_of_ne_zero fun h => by rw [h, Nat.mul_zero] at hj; exact Nat.not_lt_zero j hj
  have hs : j / z < vol.length := (Nat.div_lt_iff_lt_mul hz).mpr hj
  rw [eval3d_rows_spec, List.getElem?_map, List.getElem?_range hj]
  simp only [Option.map_some, Option.bind_some, evalSrc]
  have hget : vol.getD (j / z) [] = vol[j / z] := by simp [List.getD, hs]
  rw [hget, filterMap_get]
  · simp [hs]
  · intro r hr
    rw [hshape _ (List.getElem_mem hs) r hr]; exact Nat.mod_lt _ hz

theorem eval3d_length {β} (z : Nat) (vol : List (List (List β))) : (evalReshape z vol).length = vol.length * z := by
  rw [eval3d_rows_spec]; simp

example : evalReshape 3 [[[1, 2, 3], [4, 5, 6]], [[7, 8, 9], [10, 11, 12]]] =
    [[1, 4], [2, 5], [3, 6], [7, 10], [8, 11], [9, 12]] := by decide +kernel
example : evalReshape 2 [[[1, 2]], [], [[5, 6]]] = [[1], [2], [], [], [5], [6]] := by decide +kernel

end DirectVerif.C14
