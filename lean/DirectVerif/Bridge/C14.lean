import DirectVerif.Gen.C14
import DirectVerif.Model.Recon
import DirectVerif.Model.C14Loop
import DirectVerif.Lemmas.Basic
/-!
# Bridge C14 — what the translator reads in `reconstruct_volumes` / `_process_output` equals the model

The window written is `[slice_counter, slice_counter + n)`, the counter advances by `n`, a volume is yielded when the
counter equals `volume_size`; the filename guard is `len(set(filenames)) != 1`; the statements touching the assembly
state occur in the order `Recon.rstep` implements.  The fact tables (`*_facts_eq`) are compared as literals: any
change of the statements they canonicalise breaks the `rfl`.
-/
-- the `simp only` sets below also list rules for spellings the translator may emit but does not emit today
set_option linter.unusedSimpArgs false
namespace DirectVerif.Bridge.C14
open DirectVerif DirectVerif.Recon DirectVerif.Gen.C14

theorem recon_write_lo_eq (sc n vs : Int) : recon_write_lo sc n vs = sc := rfl
theorem recon_write_hi_eq (sc n vs : Int) : recon_write_hi sc n vs = sc + n := rfl
theorem recon_counter_next_eq (sc n vs : Int) : recon_counter_next sc n vs = sc + n := rfl

theorem recon_yield_cond_eq (sc n vs : Nat) :
    recon_yield_cond sc n vs = decide (sc = vs) := by
  simp only [recon_yield_cond] <;>
    (rw [Bool.eq_iff_iff]
     simp only [Bool.or_eq_true, Bool.and_eq_true, beq_iff_eq, decide_eq_true_eq] <;> omega)

theorem write_window_eq {β} (cur outs : List β) (sc : Nat) (out : List β)
    (h : writeSlice cur sc outs = some out) (hfit : sc + outs.length ≤ cur.length) :
    out = cur.take (recon_write_lo sc outs.length cur.length).toNat ++ outs ++
      cur.drop (recon_write_hi sc outs.length cur.length).toNat := by
  unfold writeSlice at h
  have e1 : min sc cur.length = sc := by omega
  have e2 : min (sc + outs.length) cur.length = sc + outs.length := by omega
  simp only [e1, e2, show sc + outs.length - sc = outs.length by omega, if_true, Option.some.injEq] at h
  rw [← h, recon_write_lo_eq, recon_write_hi_eq]
  congr 2 <;> omega

theorem filename_guard_eq (fn : List Nat) (f : Nat) (h : filenameOf fn = some f) :
    filename_guard (fn.eraseDups.length : Nat) = false := by
  -- all elements equal `f` and the list is non-empty, so exactly one distinct filename
  cases fn with
  | nil => simp [filenameOf] at h
  | cons a rest =>
    simp only [filenameOf] at h
    split at h
    · rename_i hall
      have hall' : ∀ x ∈ rest, x = a := by
        intro x hx
        have := List.all_eq_true.mp hall x hx
        simpa using this
      have : (a :: rest).eraseDups = [a] := by
        rw [List.eraseDups_cons]
        have : rest.filter (fun b => !b == a) = [] := by
          rw [List.filter_eq_nil_iff]
          intro x hx
          simp [hall' x hx]
        rw [this]; simp [List.eraseDups]
      simp [this, filename_guard]
    · simp at h

theorem recon_loop_stages_eq : recon_loop_stages = expectedLoopStages := rfl
theorem process_stages_eq : process_stages = expectedProcessStages := rfl


/-- `Engine.predict`: sequential batch sampler without a volume limit → `build_loader` (batch sampler handed to
`DataLoader` unchanged) → the list of what `reconstruct_volumes(…, add_target=False, crop=crop)` yields -/
theorem predict_facts_eq : predict_facts = expectedPredictFacts := rfl
theorem loader_facts_eq : loader_facts = expectedLoaderFacts := rfl
/-- `"random"` → concat sampler, `"sequential"` → `BatchVolumeSampler(DistributedSequentialSampler(…))`, else `ValueError` -/
theorem sampler_dispatch_eq : sampler_dispatch = expectedSamplerDispatch := rfl
theorem resolution_facts_eq : resolution_facts = expectedResolutionFacts := rfl
theorem writer_facts_eq : writer_facts = expectedWriterFacts := rfl


/-- the loop body reads `filename`, `scaling_factor`, `target`, `reconstruction_size` and hands the batch to
`_do_iteration` — **not `slice_no`** (`C14.reconstruct_ignores_slice_no`) -/
theorem recon_loop_reads_eq : recon_loop_reads = expectedLoopReads := rfl
/-- `curr_target` is reset, allocated and written like `curr_volume`; `loss_dict_list` is created before the loop,
appended at allocation only and never cleared (`Recon.rstepL`) -/
theorem recon_target_facts_eq : recon_target_facts = expectedTargetFacts := rfl
/-- nothing on the reconstruction path keeps state outside locals, except `predict` setting `self.ndim` /
`self.checkpointer` before the loop -/
theorem recon_state_writes_ok : stateWritesOk recon_state_writes = true := by decide +kernel
theorem recon_state_writes_eq : recon_state_writes = expectedStateWrites := rfl
/-- callers: `evaluate` (through it `validation_loop`, same sampler and loader as `predict`) and
`direct/inference.py`; there is no other call site -/
theorem recon_caller_facts_eq : recon_caller_facts = expectedCallerFacts := rfl


theorem eval3d_rows_eq (d0 d1 d2 d3 d4 : Int) : eval3d_rows d0 d1 d2 d3 d4 = d0 * d2 := by
  unfold eval3d_rows
  -- the source may spell the product `sc * z` or `z * sc`
  first | rfl | exact Int.mul_comm _ _

theorem eval3d_rows_length {β} (z : Nat) (vol : List (List (List β))) (c x y : Nat) :
    ((evalReshape z vol).length : Int) = eval3d_rows vol.length c z x y := by
  have hrow : vol.map (List.length ∘ transpose12 z) = vol.map fun _ => z :=
    List.map_congr_left fun s _ => by rw [Function.comp, transpose12, List.length_map, List.length_range]
  rw [eval3d_rows_eq, evalReshape, List.length_flatten, List.map_map, hrow, sum_map_const, Int.natCast_mul]

theorem eval3d_facts_eq : eval3d_facts = expectedEval3dFacts := rfl

end DirectVerif.Bridge.C14
