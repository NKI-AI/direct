import DirectVerif.Lemmas.C08Static
/-!
# C08 — symbolic execution of the core of the pipeline

`ApplyMask → ComputeScalingFactor → Normalize → ComputeImage` run on an arbitrary store: masked k-space, normalised
k-space, scaling factor and target as explicit expressions, for any scalar operations and externals.
-/
set_option linter.unusedSimpArgs false
namespace DirectVerif.Pipeline
variable {K : Type} (S : Ops K) (X : Ext K) (m : Meta)

theorem exec_append (p q : List Instr) (s : Store K) :
    exec S X m (p ++ q) s = match exec S X m p s with
      | .ok s' => exec S X m q s'
      | .error e => .error e := by
  induction p generalizing s with
  | nil => rfl
  | cons i is ih =>
    simp only [List.cons_append, exec]
    cases execInstr S X m i s with
    | error e => rfl
    | ok s1 => exact ih s1

/-- `ComputeScalingFactor(normalize_key, percentile)` on tensor `v` -/
def sfVal (pct : Bool) (v : Val K) : Val K :=
  evalOp S X m (if pct then .kthModulus else .maxModulus) [v]

/-- `ComputeImage(type)` as a function of the k-space and the sensitivity map of the sample -/
def reconVal (r : Recon) (k smap : Val K) : Val K :=
  let img := evalOp S X m (.lin .bwd) [k]
  match r with
  | .ifft => img
  | .complex => evalOp S X m .sumCoils [img]
  | .complexMod => evalOp S X m .modulus [evalOp S X m .sumCoils [img]]
  | .rss => evalOp S X m .rss [img]
  | .sense => evalOp S X m .senseCombine [smap, img]
  | .senseMod => evalOp S X m .modulus [evalOp S X m .senseCombine [smap, img]]

@[simp] theorem Store.set_same (s : Store K) (k : Key) (v : Option (Val K)) : (s.set k v) k = v := by
  simp [Store.set]

theorem Store.set_apply (s : Store K) (k k' : Key) (v : Option (Val K)) :
    (s.set k v) k' = if k' = k then v else s k' := rfl

theorem Store.set_ne (s : Store K) (k k' : Key) (v : Option (Val K)) (h : k' ≠ k) : (s.set k v) k' = s k' := by
  simp [Store.set, h]

/-- the SENSE types fail on a store without a sensitivity map, so `getD Val.empty` is never reached for them -/
theorem computeImage_exec (r : Recon) (s s' : Store K) (k : Val K) (hk : s .kspace = some k)
    (h : exec S X m (compile (.computeImage .kspace .target r)) s = .ok s') :
    s' .target = some (reconVal S X m r k ((s .sensitivityMap).getD Val.empty))
    ∧ ∀ k', k' ≠ .target → k' ≠ .t1 → s' k' = s k' := by
  cases r
  case sense | senseMod =>
    cases hsm : s .sensitivityMap with
    | none => simp [compile, exec, execInstr, getAll, hk, Store.set, hsm] at h
    | some sm =>
      simp [compile, exec, execInstr, getAll, hk, Store.set, hsm] at h
      subst h
      refine ⟨by simp [reconVal, Store.set_apply], fun k' h1 h2 => by simp [Store.set_apply, h1, h2]⟩
  all_goals
    simp [compile, exec, execInstr, getAll, hk, Store.set] at h
    subst h
    refine ⟨by simp [reconVal, Store.set_apply], fun k' h1 h2 => by simp [Store.set_apply, h1, h2]⟩

theorem core_exec (nk : Key) (pct : Bool) (s s' : Store K) (k mk : Val K)
    (hk : s .kspace = some k) (hm : s .samplingMask = some mk)
    (hnk : nk = .kspace ∨ nk = .maskedKspace)
    (h : exec S X m (program [.applyMask .samplingMask .kspace .maskedKspace,
                              .computeScalingFactor (.key nk) pct .scalingFactor,
                              .normalize .scalingFactor [.kspace, .maskedKspace]]) s = .ok s') :
    ∃ sf, s' .scalingFactor = some sf
      ∧ s' .kspace = some (evalOp S X m .safeDiv [sf, k])
      ∧ s' .maskedKspace = some (evalOp S X m .safeDiv [sf, evalOp S X m .applyMask [mk, k]])
      ∧ (∀ k', k' ≠ .kspace → k' ≠ .maskedKspace → k' ≠ .scalingFactor → s' k' = s k') := by
  -- whichever tensor the scaling factor `sf` is read from, the run is these four updates of the store
  obtain ⟨sf, rfl⟩ : ∃ sf, s' = (((s.set .maskedKspace (some (evalOp S X m .applyMask [mk, k]))).set .scalingFactor
      (some sf)).set .kspace (some (evalOp S X m .safeDiv [sf, k]))).set .maskedKspace
        (some (evalOp S X m .safeDiv [sf, evalOp S X m .applyMask [mk, k]])) := by
    rcases hnk with rfl | rfl <;> cases pct <;>
    · simp [program, compile, exec, execInstr, getAll, hk, hm, Store.set] at h
      exact ⟨_, h.symm⟩
  exact ⟨sf, rfl, rfl, rfl, fun k' h1 h2 h3 => by simp [Store.set_apply, h1, h2, h3]⟩

theorem ssl_split_exec (ty : Split) (ka : Bool) (seed : Option (List SeedField)) (s s' : Store K) (mkn mk : Val K)
    (hmk : s .maskedKspace = some mkn) (hm : s .samplingMask = some mk)
    (h : exec S X m (program [.maskSplitter ty ka seed .maskedKspace, .deleteKeys [.acsMask],
                              .renameKeys [.inputMaskedKspace, .targetMaskedKspace] [.inputKspace, .kspace],
                              .deleteKeys [.maskedKspace, .samplingMask]]) s = .ok s') :
    ∃ im tm, s' .inputSamplingMask = some im ∧ s' .targetSamplingMask = some tm
      ∧ s' .inputKspace = some (evalOp S X m .applyMask [im, mkn])
      ∧ s' .kspace = some (evalOp S X m .applyMask [tm, mkn])
      ∧ s' .maskedKspace = none ∧ s' .samplingMask = none
      ∧ s' .scalingFactor = s .scalingFactor ∧ s' .sensitivityMap = s .sensitivityMap := by
  cases ka
  · simp [program, compile, exec, execInstr, getAll, hmk, hm, Store.set, Key.prefixed] at h
    subst h
    exact ⟨_, _, by simp [Store.set_apply]; rfl, by simp [Store.set_apply]; rfl, by simp [Store.set_apply],
      by simp [Store.set_apply], by simp [Store.set_apply], by simp [Store.set_apply], by simp [Store.set_apply],
      by simp [Store.set_apply]⟩
  · cases ha : s .acsMask with
    | none => simp [program, compile, exec, execInstr, getAll, hmk, hm, Store.set, Key.prefixed, ha] at h
    | some a =>
      simp [program, compile, exec, execInstr, getAll, hmk, hm, Store.set, Key.prefixed, ha] at h
      subst h
      exact ⟨_, _, by simp [Store.set_apply]; rfl, by simp [Store.set_apply]; rfl, by simp [Store.set_apply],
        by simp [Store.set_apply], by simp [Store.set_apply], by simp [Store.set_apply], by simp [Store.set_apply],
        by simp [Store.set_apply]⟩

def headStages (c : Config) : List Stage :=
  (sizeStages c ++ sampleStages c) ++ (coreStages c ++ [.computeImage .kspace .target c.recon])

theorem core_state (c : Config) (hv : c.valid = true) (x : Val K) (s2 : Store K)
    (h : exec S X m (program (headStages c)) (fun k => if k = .kspace then some x else none) = .ok s2) :
    ∃ kfull mask sf, s2 .samplingMask = some mask ∧ s2 .scalingFactor = some sf
      ∧ s2 .kspace = some (evalOp S X m .safeDiv [sf, kfull])
      ∧ s2 .maskedKspace = some (evalOp S X m .safeDiv [sf, evalOp S X m .applyMask [mask, kfull]])
      ∧ s2 .target = some (reconVal S X m c.recon (evalOp S X m .safeDiv [sf, kfull])
                            ((s2 .sensitivityMap).getD Val.empty)) := by
  have hsk : ∃ nk, c.scalingKey = .key nk ∧ (nk = .kspace ∨ nk = .maskedKspace) := by
    simp only [Config.valid, Bool.and_eq_true, Bool.or_eq_true, beq_iff_eq] at hv
    rcases hv.1.1.1.2 with h | h
    · exact ⟨_, h, Or.inr rfl⟩
    · exact ⟨_, h, Or.inl rfl⟩
  obtain ⟨nk, hnk, hnk'⟩ := hsk
  rw [headStages, program_append, exec_append] at h
  cases h0 : exec S X m (program (sizeStages c ++ sampleStages c)) (fun k => if k = .kspace then some x else none) with
  | error e => simp [h0] at h
  | ok s0 =>
    simp only [h0] at h
    rw [program_append, exec_append] at h
    cases h1 : exec S X m (program (coreStages c)) s0 with
    | error e => simp [h1] at h
    | ok s1 =>
      simp only [h1] at h
      cases hk : s0 .kspace with
      | none => simp [coreStages, program, compile, exec, execInstr, hk] at h1
      | some kfull =>
        cases hm : s0 .samplingMask with
        | none => simp [coreStages, program, compile, exec, execInstr, hk, hm] at h1
        | some mask =>
          simp only [coreStages, hnk] at h1
          obtain ⟨sf, a1, a2, a3, a4⟩ := core_exec S X m nk c.percentile s0 s1 kfull mask hk hm hnk' h1
          have h' : exec S X m (compile (.computeImage .kspace .target c.recon)) s1 = .ok s2 := by
            simpa [program] using h
          obtain ⟨b1, b2⟩ := computeImage_exec S X m c.recon s1 s2 _ a2 h'
          refine ⟨kfull, mask, sf, ?_, ?_, ?_, ?_, ?_⟩
          · rw [b2 _ (by decide) (by decide), a4 _ (by decide) (by decide) (by decide), hm]
          · rw [b2 _ (by decide) (by decide), a1]
          · rw [b2 _ (by decide) (by decide), a2]
          · rw [b2 _ (by decide) (by decide), a3]
          · rw [b1, b2 .sensitivityMap (by decide) (by decide)]

theorem run_split (c : Config) (x : Val K) :
    run S X m (build c) x =
      match exec S X m (program (headStages c)) (fun k => if k = .kspace then some x else none) with
      | .ok s2 => exec S X m (program (tailStages c)) s2
      | .error e => .error e := by
  unfold run
  have : build c = headStages c ++ tailStages c := by simp only [build_split, headStages, List.append_assoc]
  rw [this, program_append, exec_append]

/-- `kfull`: the pre-processed, fully sampled k-space that reached `ApplyMask` -/
theorem sup_final (c : Config) (hv : c.valid = true) (hssl : c.ssl = false) (x : Val K) (out : Store K)
    (h : run S X m (build c) x = .ok out) :
    ∃ kfull mask sf, out .samplingMask = some mask ∧ out .scalingFactor = some sf
      ∧ out .maskedKspace = some (evalOp S X m .safeDiv [sf, evalOp S X m .applyMask [mask, kfull]])
      ∧ out .target = some (reconVal S X m c.recon (evalOp S X m .safeDiv [sf, kfull])
                              ((out .sensitivityMap).getD Val.empty))
      ∧ (out .kspace = some (evalOp S X m .safeDiv [sf, kfull]) ∨ (c.deleteKspace = true ∧ out .kspace = none)) := by
  rw [run_split] at h
  cases h2 : exec S X m (program (headStages c)) (fun k => if k = .kspace then some x else none) with
  | error e => simp [h2] at h
  | ok s2 =>
    obtain ⟨kfull, mask, sf, a1, a2, a3, a4, a5⟩ := core_state S X m c hv x s2 h2
    simp only [h2, tailStages, hssl] at h
    cases hdk : c.deleteKspace
    · simp [hdk, opt, program, compile, exec] at h
      subst h
      exact ⟨kfull, mask, sf, a1, a2, a4, a5, Or.inl a3⟩
    · simp [hdk, opt, program, compile, exec, execInstr] at h
      subst h
      refine ⟨kfull, mask, sf, ?_, ?_, ?_, ?_, Or.inr ⟨rfl, by simp [Store.set_apply]⟩⟩
      · simpa [Store.set_apply] using a1
      · simpa [Store.set_apply] using a2
      · simpa [Store.set_apply] using a4
      · simpa [Store.set_apply] using a5

theorem ssl_final (c : Config) (hv : c.valid = true) (hssl : c.ssl = true) (x : Val K) (out : Store K)
    (h : run S X m (build c) x = .ok out) :
    ∃ kfull mask sf im tm, out .scalingFactor = some sf
      ∧ out .inputSamplingMask = some im ∧ out .targetSamplingMask = some tm
      ∧ out .inputKspace = some (evalOp S X m .applyMask
            [im, evalOp S X m .safeDiv [sf, evalOp S X m .applyMask [mask, kfull]]])
      ∧ out .kspace = some (evalOp S X m .applyMask
            [tm, evalOp S X m .safeDiv [sf, evalOp S X m .applyMask [mask, kfull]]])
      ∧ out .target = some (reconVal S X m c.recon
            (evalOp S X m .applyMask [tm, evalOp S X m .safeDiv [sf, evalOp S X m .applyMask [mask, kfull]]])
            ((out .sensitivityMap).getD Val.empty)) := by
  rw [run_split] at h
  cases h2 : exec S X m (program (headStages c)) (fun k => if k = .kspace then some x else none) with
  | error e => simp [h2] at h
  | ok s2 =>
    obtain ⟨kfull, mask, sf, a1, a2, a3, a4, a5⟩ := core_state S X m c hv x s2 h2
    simp only [h2, tailStages, hssl] at h
    have h' : exec S X m (program (sslTail c ++ [.computeImage .kspace .target c.recon])) s2 = .ok out := by
      simpa [opt, program, compile, exec] using h
    rw [program_append, exec_append] at h'
    cases h3 : exec S X m (program (sslTail c)) s2 with
    | error e => simp [h3] at h'
    | ok s3 =>
      simp only [h3] at h'
      obtain ⟨im, tm, b1, b2, b3, b4, _, _, b7, b8⟩ :=
        ssl_split_exec S X m c.split c.splitKeepAcs _ s2 s3 _ mask a4 a1 (by simpa [sslTail] using h3)
      have h'' : exec S X m (compile (.computeImage .kspace .target c.recon)) s3 = .ok out := by
        simpa [program] using h'
      obtain ⟨d1, d2⟩ := computeImage_exec S X m c.recon s3 out _ b4 h''
      refine ⟨kfull, mask, sf, im, tm, ?_, ?_, ?_, ?_, ?_, ?_⟩
      · rw [d2 _ (by decide) (by decide), b7, a2]
      · rw [d2 _ (by decide) (by decide), b1]
      · rw [d2 _ (by decide) (by decide), b2]
      · rw [d2 _ (by decide) (by decide), b3]
      · rw [d2 _ (by decide) (by decide), b4]
      · rw [d1, d2 .sensitivityMap (by decide) (by decide)]

end DirectVerif.Pipeline
