import DirectVerif.Model.Rng
/-!
Two facts carry `Props/C05`.  `call_ok`: under an admissible table the general semantics `interp` collapses to the
well-scoped reading `runIn` (reads only the seeded private stream; writes only libc / entropy).  `runIn_seeded`: with a
seed and a body that seeds libc before it draws from it, the output depends on neither.  The ACS branch also needs
`runIn_bind`.
-/
namespace DirectVerif.Rng
variable {σ Seed Req Val Out : Type}

theorem getD_of_all {α : Type} {l : List α} {p : α → Bool} (h : l.all p = true) {i : Nat} (hi : i < l.length)
    (d : α) : p (l.getD i d) = true := by
  rw [List.getD_eq_getElem?_getD, List.getElem?_eq_getElem hi]
  exact List.all_eq_true.mp h _ (List.getElem_mem hi)

theorem lookup_ok {t : Table} (ht : tableOk t = true) {i : Nat} (hi : i < t.length) :
    (lookup t i).ok = true := getD_of_all ht hi _

theorem ok_cases {s : Site} (h : s.ok = true) :
    s.inScope = true ∧ (s.src = .priv ∨ s.src = .fresh) := by
  simpa only [Site.ok, Bool.and_eq_true, Bool.or_eq_true, beq_iff_eq] using h

/-- **collapse** of `interp` to `runIn` -/
theorem interp_ok (t : Table) (O : Ops σ Seed Req Val) (seed : Option Seed) (ht : tableOk t = true)
    (prog : Prog Req Val Out) (hp : SitesIn t.length prog) : ∀ (cur outer : σ) (st : State σ Val),
      interp t O seed prog cur outer st =
        ((runIn t O seed prog cur st.ent st.libc).out, outer,
          { st with ent := (runIn t O seed prog cur st.ent st.libc).ent,
                    libc := (runIn t O seed prog cur st.ent st.libc).libc }) := by
  induction hp with
  | ret o => intro cur outer st; rfl
  | @draw site r k hs _ ih =>
    intro cur outer st
    obtain ⟨h2, h1 | h1⟩ := ok_cases (lookup_ok ht hs)
    · simp only [interp, runIn, h1, h2, if_true, ih]
    · simp only [interp, runIn, h1, h2, effSeed, reduceCtorEq, if_false, ih]
  | @reseed site k hs _ ih =>
    intro cur outer st
    obtain ⟨h2, h1 | h1⟩ := ok_cases (lookup_ok ht hs)
    · simp only [interp, runIn, h1, h2, effSeed, if_true, ih]
    · simp only [interp, runIn, h1, effSeed, reduceCtorEq, if_false, ih]
  | srand _ ih => intro cur outer st; exact ih cur outer _
  | crand _ ih => intro cur outer st; exact ih _ cur outer _

theorem setPriv_self (st : State σ Val) (i : Nat) : st.setPriv i (st.priv i) = st := by
  obtain ⟨p, a, b, c, d, e⟩ := st
  simp only [State.setPriv, State.mk.injEq, and_true]
  funext j
  by_cases h : j = i <;> simp [h]

theorem call_ok (t : Table) (O : Ops σ Seed Req Val) (seed : Option Seed) (ht : tableOk t = true)
    (prog : Prog Req Val Out) (hp : SitesIn t.length prog) (i : Nat) (st : State σ Val) :
    call t O prog seed i st =
      ((runIn t O seed prog (O.seedTo (effSeedE O seed st.ent).1) (effSeedE O seed st.ent).2 st.libc).out,
        { st with ent := (runIn t O seed prog (O.seedTo (effSeedE O seed st.ent).1) (effSeedE O seed st.ent).2 st.libc).ent,
                  libc := (runIn t O seed prog (O.seedTo (effSeedE O seed st.ent).1) (effSeedE O seed st.ent).2 st.libc).libc }) := by
  unfold call
  simp only [interp_ok t O seed ht prog hp]
  exact congrArg (Prod.mk _) (setPriv_self _ i)

/-- the last disjunct: libc afterwards is untouched in both runs, or in the same state in both -/
theorem runIn_seeded (t : Table) (O : Ops σ Seed Req Val) (s : Seed) (prog : Prog Req Val Out) (b : Bool)
    (h : LibcOk b prog) : ∀ (cur : σ) (e e' : Nat) (l l' : σ),
      (b = true → l = l') →
      (runIn t O (some s) prog cur e l).out = (runIn t O (some s) prog cur e' l').out ∧
      (runIn t O (some s) prog cur e l).cur = (runIn t O (some s) prog cur e' l').cur ∧
      (runIn t O (some s) prog cur e l).trace = (runIn t O (some s) prog cur e' l').trace ∧
      (runIn t O (some s) prog cur e l).ent = e ∧
      (((runIn t O (some s) prog cur e l).libc = l ∧ (runIn t O (some s) prog cur e' l').libc = l') ∨
        (runIn t O (some s) prog cur e l).libc = (runIn t O (some s) prog cur e' l').libc) := by
  induction h with
  | ret o => intro cur e e' l l' _; exact ⟨rfl, rfl, rfl, rfl, Or.inl ⟨rfl, rfl⟩⟩
  | @draw b site r k _ ih =>
    intro cur e e' l l' hl
    unfold runIn
    split
    · obtain ⟨h1, h2, h3, h4, h5⟩ := ih (O.draw cur r).1 (O.draw cur r).2 e e' l l' hl
      exact ⟨h1, h2, congrArg ((site, r) :: ·) h3, h4, h5⟩
    · obtain ⟨h1, h2, h3, h4, h5⟩ := ih (O.draw (O.seedTo s) r).1 cur e e' l l' hl
      exact ⟨h1, h2, congrArg ((site, r) :: ·) h3, h4, h5⟩
  | @reseed b site k _ ih =>
    intro cur e e' l l' hl
    unfold runIn
    split
    · exact ih _ e e' l l' hl
    · exact ih _ e e' l l' hl
  | @srand b v k _ ih =>
    -- from here on both runs have libc in the same state: it no longer matters where it was
    intro cur e e' l l' _
    obtain ⟨h1, h2, h3, h4, h5⟩ := ih cur e e' (O.srandTo v) (O.srandTo v) (fun _ => rfl)
    exact ⟨h1, h2, h3, h4, Or.inr (h5.elim (fun h => h.1.trans h.2.symm) id)⟩
  | @crand r k _ ih =>
    intro cur e e' l l' hl
    cases hl rfl
    obtain ⟨h1, h2, h3, h4, h5⟩ := ih (O.draw l r).1 cur e e' (O.draw l r).2 (O.draw l r).2 (fun _ => rfl)
    exact ⟨h1, h2, h3, h4, Or.inr (h5.elim (fun h => h.1.trans h.2.symm) id)⟩

theorem runIn_noLibc (t : Table) (O : Ops σ Seed Req Val) (seed : Option Seed) (prog : Prog Req Val Out)
    (h : NoLibc prog) : ∀ (cur : σ) (e : Nat) (l : σ), (runIn t O seed prog cur e l).libc = l := by
  induction h with
  | ret o => intro cur e l; rfl
  | @draw site r k _ ih =>
    intro cur e l
    unfold runIn
    split
    · exact ih _ _ _ _
    · exact ih _ _ _ _
  | @reseed site k _ ih =>
    intro cur e l
    unfold runIn
    split
    · exact ih _ _ _
    · exact ih _ _ _

theorem NoLibc.libcOk {prog : Prog Req Val Out} (h : NoLibc prog) (b : Bool) : LibcOk b prog := by
  induction h with
  | ret o => exact .ret o
  | draw _ ih => exact .draw ih
  | reseed _ ih => exact .reseed ih

theorem LibcOk.mono {prog : Prog Req Val Out} {b : Bool} (h : LibcOk b prog) : LibcOk true prog := by
  induction h with
  | ret o => exact .ret o
  | draw _ ih => exact .draw ih
  | reseed _ ih => exact .reseed ih
  | srand hk _ => exact .srand hk
  | crand hk _ => exact .crand hk

theorem sitesIn_bind {X : Type} {n : Nat} {p : Prog Req Val X} {f : X → Prog Req Val Out}
    (hp : SitesIn n p) (hf : ∀ x, SitesIn n (f x)) : SitesIn n (p.bind f) := by
  induction hp with
  | ret o => exact hf o
  | draw hs _ ih => exact .draw hs ih
  | reseed hs _ ih => exact .reseed hs ih
  | srand _ ih => exact .srand ih
  | crand _ ih => exact .crand ih

theorem libcOk_bind {X : Type} {b : Bool} {p : Prog Req Val X} {f : X → Prog Req Val Out}
    (hp : NoLibc p) (hf : ∀ x, LibcOk b (f x)) : LibcOk b (p.bind f) := by
  induction hp with
  | ret o => exact hf o
  | draw _ ih => exact .draw ih
  | reseed _ ih => exact .reseed ih

theorem runIn_bind {X : Type} (t : Table) (O : Ops σ Seed Req Val) (seed : Option Seed)
    (f : X → Prog Req Val Out) :
    ∀ (p : Prog Req Val X) (cur : σ) (e : Nat) (l : σ),
      runIn t O seed (p.bind f) cur e l =
        { runIn t O seed (f (runIn t O seed p cur e l).out) (runIn t O seed p cur e l).cur
            (runIn t O seed p cur e l).ent (runIn t O seed p cur e l).libc with
          trace := (runIn t O seed p cur e l).trace ++
            (runIn t O seed (f (runIn t O seed p cur e l).out) (runIn t O seed p cur e l).cur
              (runIn t O seed p cur e l).ent (runIn t O seed p cur e l).libc).trace } := by
  intro p
  induction p with
  | ret x => intro cur e l; rfl
  | draw site r k ih =>
    intro cur e l
    by_cases h : (lookup t site).src = .priv
    · simp only [Prog.bind, runIn, h, if_true, ih]; rfl
    · simp only [Prog.bind, runIn, h, if_false, ih]; rfl
  | reseed site k ih =>
    intro cur e l
    by_cases h : (lookup t site).src = .priv
    · simp only [Prog.bind, runIn, h, if_true, ih]
    · simp only [Prog.bind, runIn, h, if_false, ih]
  | srand v k ih => intro cur e l; exact ih cur e _
  | crand r k ih => intro cur e l; exact ih _ cur e _

theorem srandFirst_of_pyxTableOk {tbl : List (String × List String)} (h : pyxTableOk tbl = true)
    {k : String × List String} (hk : k ∈ tbl) : pyxSrandFirst k.2 = true := by
  simp only [pyxTableOk, Bool.and_eq_true, List.all_eq_true] at h
  exact (h.2 k hk).1.1

theorem run_append {G A : Type} (t : Table) (O : Ops σ Seed Req Val) (body : G → A → Prog Req Val Out) :
    ∀ (h : List (Op Seed Req G A)) (st : State σ Val) (ops : List (Op Seed Req G A)),
      run t O body st (h ++ ops) =
        ((run t O body (run t O body st h).1 ops).1,
          (run t O body st h).2 ++ (run t O body (run t O body st h).1 ops).2) := by
  intro h
  induction h with
  | nil => intro st ops; simp [run]
  | cons op h ih => intro st ops; simp only [List.cons_append, run, ih]

end DirectVerif.Rng
