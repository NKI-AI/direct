import DirectVerif.Lemmas.C01DftND
import DirectVerif.Lemmas.C01Validate
/-!
# C01 — the n-D transform as ONE multi-index sum (any number of axes, any axis order, centred or not)

For the backend the driver runs (`Fft.tensorBackend dftF dims`) the plan `fftshift ∘ (i)fftn(norm) ∘ ifftshift` regroups
into one 1-D operator per axis (`fft2_eq_applyAxes`), each a matrix on fibres, so entry `idx` of `fft2` / `ifft2` over
`dims = [d₁, …, d_r]` is `Σ_{j_r} … Σ_{j_1} Π_i W_{n_i}(idx[d_i], j_i) · t[idx with idx[d_i] := j_i]` with
`W_n(k, j) = scale · ω_n^{∓(j-c)(k-c)}`, `c = ⌊n/2⌋` when centred and `0` otherwise (`fft2_nd_sum`).
`Tensor.offset` is the row-major offset the driver uses to place the probe impulse.
-/
namespace DirectVerif.C01Sum
open DirectVerif DirectVerif.Tensor DirectVerif.TensorLift DirectVerif.Shift DirectVerif.Fft DirectVerif.C01Dft
open DirectVerif.C01DftND ZMod
open scoped BigOperators

def InRange (s idx : List Nat) : Prop := List.Forall₂ (fun i n => i < n) idx s

/-- recursive (non-Horner) form of the row-major offset -/
def off : List Nat → List Nat → Nat
  | _ :: s, i :: idx => i * prod s + off s idx
  | _, _ => 0

theorem InRange.length {s idx : List Nat} (h : InRange s idx) : idx.length = s.length := List.Forall₂.length_eq h

/-- `Tensor.offset` (Horner form, what the driver executes) is `Σ_a idx[a] · Π_{b>a} s[b]` -/
theorem offset_eq_off (s idx : List Nat) (h : idx.length = s.length) : Tensor.offset s idx = off s idx := by
  induction s generalizing idx with
  | nil => cases idx <;> rfl
  | cons n s ih =>
    cases idx with
    | nil => simp at h
    | cons i idx =>
      have hl : idx.length = s.length := by simpa using h
      rw [offset_cons n i s idx hl.symm, ih idx hl]
      rfl

theorem off_lt {s idx : List Nat} (h : InRange s idx) : off s idx < prod s := by
  induction h with
  | nil => simp [off, prod_nil]
  | @cons i n idx s hin _ ih =>
    simp only [off, prod_cons]
    calc i * prod s + off s idx < i * prod s + prod s := by omega
      _ = (i + 1) * prod s := by ring
      _ ≤ n * prod s := Nat.mul_le_mul_right _ hin

theorem InRange.set {s idx : List Nat} (h : InRange s idx) (d j : Nat) (hj : j < s.getD d 1) :
    InRange s (idx.set d j) := by
  induction h generalizing d with
  | nil => simp only [List.set_nil]; exact List.Forall₂.nil
  | @cons i n idx s hin hrest ih =>
    cases d with
    | zero => exact List.Forall₂.cons (by simpa using hj) hrest
    | succ d => exact List.Forall₂.cons hin (ih d (by simpa using hj))

theorem InRange.getD_lt {s idx : List Nat} (h : InRange s idx) (d : Nat) (hd : d < s.length) :
    idx.getD d 0 < s.getD d 1 := by
  induction h generalizing d with
  | nil => simp at hd
  | @cons i n idx s hin _ ih =>
    cases d with
    | zero => simpa using hin
    | succ d => simpa using ih d (by simpa using hd)

/-- the *same* outer / inner parts `o`, `i` for every `j` -/
theorem off_split {s idx : List Nat} (h : InRange s idx) (d : Nat) (hd : d < s.length) :
    ∃ o i, o < prod (s.take d) ∧ i < prod (s.drop (d + 1)) ∧
      ∀ j, off s (idx.set d j) = o * s.getD d 1 * prod (s.drop (d + 1)) + j * prod (s.drop (d + 1)) + i := by
  induction h generalizing d with
  | nil => simp at hd
  | @cons i0 n idx s hin hrest ih =>
    cases d with
    | zero =>
      refine ⟨0, off s idx, by simp [prod_nil], by simpa using off_lt hrest, fun j => ?_⟩
      simp [off]
    | succ d =>
      have hd' : d < s.length := by simpa using hd
      obtain ⟨o, i, ho, hi, hj⟩ := ih d hd'
      refine ⟨i0 * prod (s.take d) + o, i, ?_, by simpa using hi, fun j => ?_⟩
      · simp only [List.take_succ_cons, prod_cons]
        calc i0 * prod (s.take d) + o < i0 * prod (s.take d) + prod (s.take d) := by omega
          _ = (i0 + 1) * prod (s.take d) := by ring
          _ ≤ n * prod (s.take d) := Nat.mul_le_mul_right _ hin
      · have hn : s.getD d 1 = s[d] := by
          rw [List.getD_eq_getElem?_getD, List.getElem?_eq_getElem hd']; rfl
        simp only [List.set_cons_succ, off, List.getD_cons_succ, List.drop_succ_cons]
        rw [hj j, prod_split s d hd', hn]
        ring

theorem alongAxis_linear_off {s : List Nat} {t : Tensor ℂ} (ht : WF s t) (d : Nat) (hd : d < s.length)
    (f : List ℂ → List ℂ) (A : Nat → Nat → ℂ) (hf : IsLinear f (s.getD d 1) (s.getD d 1) A)
    (idx : List Nat) (h : InRange s idx) :
    (t.alongAxis d f).data.getD (off s idx) default =
      ∑ j ∈ Finset.range (s.getD d 1), A (idx.getD d 0) j * t.data.getD (off s (idx.set d j)) default := by
  obtain ⟨o, i, ho, hi, hj⟩ := off_split h d hd
  obtain ⟨_, hs⟩ := ht
  subst hs
  have hk := h.getD_lt d hd
  conv_lhs => rw [← set_getD idx d 0, hj]
  rw [alongAxis_eq t d f _ hf.len]
  show (gather _ _ _ _).getD _ default = _
  rw [gather_fibres_getD_linear _ _ _ _ _ f A hf o _ i ho hk hi]
  refine Finset.sum_congr rfl fun j _ => ?_
  rw [hj j]

/-- `nSum W s [d₁, …, d_r] idx g = Σ_{j_r} W d_r (idx[d_r]) j_r · ( … Σ_{j_1} W d_1 (idx[d_1]) j_1 · g (idx with idx[d_i] := j_i))`
when the axes are distinct (applied in list order, like `applyAxes`) -/
noncomputable def nSum (W : Nat → Nat → Nat → ℂ) (s : List Nat) : List Nat → List Nat → (List Nat → ℂ) → ℂ
  | [], idx, g => g idx
  | d :: ds, idx, g =>
    nSum W s ds idx fun idx' => ∑ j ∈ Finset.range (s.getD d 1), W d (idx'.getD d 0) j * g (idx'.set d j)

theorem nSum_congr (W : Nat → Nat → Nat → ℂ) (s dims : List Nat) (idx : List Nat) (h : InRange s idx)
    (g g' : List Nat → ℂ) (hg : ∀ idx', InRange s idx' → g idx' = g' idx') :
    nSum W s dims idx g = nSum W s dims idx g' := by
  induction dims generalizing g g' with
  | nil => exact hg idx h
  | cons d ds ih =>
    simp only [nSum]
    refine ih _ _ fun idx' h' => Finset.sum_congr rfl fun j hj => ?_
    rw [hg _ (h'.set d j (Finset.mem_range.mp hj))]

theorem applyAxes_linear_off (s dims : List Nat) (hr : ∀ d ∈ dims, d < s.length)
    (op : Nat → List ℂ → List ℂ) (W : Nat → Nat → Nat → ℂ)
    (hlin : ∀ d ∈ dims, IsLinear (op d) (s.getD d 1) (s.getD d 1) (W d))
    (t : Tensor ℂ) (ht : WF s t) (idx : List Nat) (h : InRange s idx) :
    (applyAxes (fun d u => u.alongAxis d (op d)) dims t).data.getD (off s idx) default =
      nSum W s dims idx (fun idx' => t.data.getD (off s idx') default) := by
  induction dims generalizing t with
  | nil => rfl
  | cons d ds ih =>
    have hd := List.mem_cons_self (a := d) (l := ds)
    rw [C01.applyAxes_cons,
      ih (fun d' h' => hr d' (List.mem_cons_of_mem _ h')) (fun d' h' => hlin d' (List.mem_cons_of_mem _ h'))
        _ (ht.alongAxis d (hr d hd) _ (hlin d hd).len)]
    simp only [nSum]
    exact nSum_congr W s ds idx h _ _ fun idx' h' => alongAxis_linear_off ht d (hr d hd) _ _ (hlin d hd) idx' h'

/-- `TensorLift.applyAxes_fuse` over `ℂ` -/
theorem applyAxes_fuse (s dims : List Nat) (hnd : dims.Nodup) (hr : ∀ d ∈ dims, d < s.length)
    (p q : Nat → List ℂ → List ℂ)
    (hp : ∀ d ∈ dims, LenUniform (p d) (s.getD d 1) (s.getD d 1))
    (hq : ∀ d ∈ dims, LenUniform (q d) (s.getD d 1) (s.getD d 1))
    (hcomm : ∀ d ∈ dims, ∀ d' ∈ dims, d ≠ d' → ∀ x : Tensor ℂ, WF s x →
      (x.alongAxis d' (p d')).alongAxis d (q d) = (x.alongAxis d (q d)).alongAxis d' (p d'))
    (t : Tensor ℂ) (ht : WF s t) :
    applyAxes (fun d u => u.alongAxis d (q d)) dims (applyAxes (fun d u => u.alongAxis d (p d)) dims t) =
      applyAxes (fun d u => u.alongAxis d (q d ∘ p d)) dims t :=
  TensorLift.applyAxes_fuse s dims hnd hr p q hp hq hcomm t ht

/-- the single 1-D operator per axis that the plan amounts to -/
noncomputable def op1 (centered inverse : Bool) (nm : Norm) : List ℂ → List ℂ :=
  if centered then cfft1 inverse nm else torchFft inverse nm

/-- `scale · ω^{∓(j-c)(k-c)}` with `c = ⌊n/2⌋` (centred) or `c = 0` -/
noncomputable def kernel (centered inverse : Bool) (nm : Norm) (n : Nat) : Nat → Nat → ℂ :=
  if centered then cdftMat inverse nm n else dftMat inverse nm n

theorem op1_isLinear (c inverse : Bool) (nm : Norm) (n : Nat) : IsLinear (op1 c inverse nm) n n (kernel c inverse nm n) := by
  cases c
  · exact torchFft_isLinear inverse nm n
  · exact cfft1_isLinear inverse nm n

theorem lenU_op1 (c inverse : Bool) (nm : Norm) (n : Nat) : LenUniform (op1 c inverse nm) n n := (op1_isLinear c inverse nm n).len

theorem fft2_eq_applyAxes (t : Tensor ℂ) (dims : List Nat) (hnd : dims.Nodup) (hwf : t.data.length = prod t.shape)
    (hr : ∀ d ∈ dims, d < t.shape.length) (cfg : Cfg) (inverse : Bool) :
    (if inverse then ifft2 else fft2) (tensorBackend dftF dims) cfg t =
      applyAxes (fun d u => u.alongAxis d (op1 cfg.centered inverse (normOf cfg))) dims t := by
  have e : (if inverse then ifft2 else fft2) (tensorBackend dftF dims) cfg t =
      runData (tensorBackend dftF dims) cfg (stdPlan inverse .ortho .backward) t := by
    cases inverse <;> rfl
  rw [e, C01.runData_stdPlan_noViews _ rfl rfl]
  cases cfg.centered
  · rfl
  · exact centred_axes t dims hnd hwf hr inverse (normOf cfg)

/-- **C01 — the n-D (optionally centred) DFT as a single multi-index sum**, for every well-formed complex tensor, every
duplicate-free in-range axis list in any order, all 8 flag combinations and both directions. -/
theorem fft2_nd_sum (t : Tensor ℂ) (dims : List Nat) (hnd : dims.Nodup) (hwf : t.data.length = prod t.shape)
    (hr : ∀ d ∈ dims, d < t.shape.length) (cfg : Cfg) (inverse : Bool) (idx : List Nat) (hidx : InRange t.shape idx) :
    ((if inverse then ifft2 else fft2) (tensorBackend dftF dims) cfg t).data.getD (Tensor.offset t.shape idx) default =
      nSum (fun d => kernel cfg.centered inverse (normOf cfg) (t.shape.getD d 1)) t.shape dims idx
        (fun idx' => t.data.getD (Tensor.offset t.shape idx') default) := by
  rw [fft2_eq_applyAxes t dims hnd hwf hr cfg inverse, offset_eq_off _ _ hidx.length,
    applyAxes_linear_off t.shape dims hr (fun _ => op1 cfg.centered inverse (normOf cfg))
      (fun d => kernel cfg.centered inverse (normOf cfg) (t.shape.getD d 1))
      (fun d _ => op1_isLinear _ _ _ _) t ⟨hwf, rfl⟩ idx hidx]
  exact nSum_congr _ _ _ idx hidx _ _ fun idx' h' => by rw [offset_eq_off _ _ h'.length]

/-- `dims = [a, b]`, either order -/
theorem fft2_two_axes_closed (t : Tensor ℂ) (a b : Nat) (hab : a ≠ b) (ha : a < t.shape.length) (hb : b < t.shape.length)
    (hwf : t.data.length = prod t.shape) (cfg : Cfg) (inverse : Bool) (idx : List Nat) (hidx : InRange t.shape idx) :
    ((if inverse then ifft2 else fft2) (tensorBackend dftF [a, b]) cfg t).data.getD (Tensor.offset t.shape idx) default =
      ∑ y ∈ Finset.range (t.shape.getD b 1), kernel cfg.centered inverse (normOf cfg) (t.shape.getD b 1) (idx.getD b 0) y *
        ∑ x ∈ Finset.range (t.shape.getD a 1), kernel cfg.centered inverse (normOf cfg) (t.shape.getD a 1) (idx.getD a 0) x *
          t.data.getD (Tensor.offset t.shape ((idx.set b y).set a x)) default := by
  rw [fft2_nd_sum t [a, b] (by simp [hab]) hwf (by simp [ha, hb]) cfg inverse idx hidx]
  simp only [nSum]
  refine Finset.sum_congr rfl fun y _ => ?_
  rw [getD_set_ne idx b a y 0 hab.symm]

/-- `dims = [a, b, c]`, any order of three distinct axes -/
theorem fft2_three_axes_closed (t : Tensor ℂ) (a b c : Nat) (hab : a ≠ b) (hac : a ≠ c) (hbc : b ≠ c)
    (ha : a < t.shape.length) (hb : b < t.shape.length) (hc : c < t.shape.length)
    (hwf : t.data.length = prod t.shape) (cfg : Cfg) (inverse : Bool) (idx : List Nat) (hidx : InRange t.shape idx) :
    ((if inverse then ifft2 else fft2) (tensorBackend dftF [a, b, c]) cfg t).data.getD (Tensor.offset t.shape idx) default =
      ∑ z ∈ Finset.range (t.shape.getD c 1), kernel cfg.centered inverse (normOf cfg) (t.shape.getD c 1) (idx.getD c 0) z *
        ∑ y ∈ Finset.range (t.shape.getD b 1), kernel cfg.centered inverse (normOf cfg) (t.shape.getD b 1) (idx.getD b 0) y *
          ∑ x ∈ Finset.range (t.shape.getD a 1), kernel cfg.centered inverse (normOf cfg) (t.shape.getD a 1) (idx.getD a 0) x *
            t.data.getD (Tensor.offset t.shape (((idx.set c z).set b y).set a x)) default := by
  rw [fft2_nd_sum t [a, b, c] (by simp [hab, hac, hbc]) hwf (by simp [ha, hb, hc]) cfg inverse idx hidx]
  simp only [nSum]
  refine Finset.sum_congr rfl fun z _ => ?_
  rw [getD_set_ne idx c b z 0 hbc.symm]
  congr 1
  refine Finset.sum_congr rfl fun y _ => ?_
  rw [getD_set_ne _ b a y 0 hab.symm, getD_set_ne idx c a z 0 hac.symm]

/-- the kernels with `Complex.exp` -/
theorem cdftMat_eq_exp (inverse : Bool) (nm : Norm) (m k j : Nat) :
    cdftMat inverse nm (m + 1) k j = scale inverse nm (m + 1) *
      Complex.exp (2 * Real.pi * Complex.I *
        (((if inverse then 1 else -1) * (((j : ℤ) - ((m + 1) / 2 : ℕ)) * ((k : ℤ) - ((m + 1) / 2 : ℕ))) : ℤ) : ℂ) / ((m + 1 : ℕ) : ℂ)) := by
  rw [← ZMod.stdAddChar_coe]
  simp only [cdftMat]
  generalize (m + 1) / 2 = c
  -- both sides are `scale * stdAddChar _`; in either direction the arguments agree once the cast `ℤ → ZMod (m + 1)`
  -- is pushed through the product, the differences and the sign
  cases inverse <;> simp

theorem dftMat_eq_exp (inverse : Bool) (nm : Norm) (m k j : Nat) :
    dftMat inverse nm (m + 1) k j = scale inverse nm (m + 1) *
      Complex.exp (2 * Real.pi * Complex.I * (((if inverse then 1 else -1) * ((j : ℤ) * (k : ℤ)) : ℤ) : ℂ) / ((m + 1 : ℕ) : ℂ)) := by
  rw [← ZMod.stdAddChar_coe]
  cases inverse <;> simp [dftMat]

/-- for every call site that passes `CallSite.ok` and every axis tuple its `dim` can denote -/
theorem callsite_laws (site : CallSite) (h : site.ok = true) (d : List Int) (hd : d ∈ site.dims)
    (t : Tensor ℂ) (hwf : t.data.length = prod t.shape) (hr : ∀ a ∈ d, a.toNat < t.shape.length) (cfg : Cfg) :
    (ifft2 (tensorBackend dftF (d.map Int.toNat)) cfg (fft2 (tensorBackend dftF (d.map Int.toNat)) cfg t) = t ∧
     fft2 (tensorBackend dftF (d.map Int.toNat)) cfg (ifft2 (tensorBackend dftF (d.map Int.toNat)) cfg t) = t) ∧
    ∀ (inverse : Bool) (idx : List Nat), InRange t.shape idx →
      ((if inverse then ifft2 else fft2) (tensorBackend dftF (d.map Int.toNat)) cfg t).data.getD (Tensor.offset t.shape idx) default =
        nSum (fun a => kernel cfg.centered inverse (normOf cfg) (t.shape.getD a 1)) t.shape (d.map Int.toNat) idx
          (fun idx' => t.data.getD (Tensor.offset t.shape idx') default) := by
  have hacc : dimsAcceptable d = true := by
    simp only [CallSite.ok, Bool.and_eq_true, List.all_eq_true] at h
    exact h.1 d hd
  have hnd := C01Validate.dimsAcceptable_nodup d hacc
  have hr' : ∀ a ∈ d.map Int.toNat, a < t.shape.length := by
    intro a ha
    obtain ⟨b, hb, rfl⟩ := List.mem_map.mp ha
    exact hr b hb
  exact ⟨ifft2_fft2_id_tensor_dft t _ hnd hwf hr' cfg,
    fun inverse idx hidx => fft2_nd_sum t _ hnd hwf hr' cfg inverse idx hidx⟩

example : InRange [2, 3, 5] [1, 2, 4] := by
  unfold InRange; repeat (first | exact List.Forall₂.nil | refine List.Forall₂.cons (by decide) ?_)
example : Tensor.offset [2, 3, 5] [1, 2, 4] = 29 := by decide
example : off [2, 3, 5] [1, 2, 4] = 29 := by decide

end DirectVerif.C01Sum
