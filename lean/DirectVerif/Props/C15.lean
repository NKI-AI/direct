import DirectVerif.Lemmas.C15History
import Mathlib.Algebra.Field.Rat
import Mathlib.Tactic.Ring
import Mathlib.Algebra.Order.Ring.Rat
import Mathlib.Algebra.Order.Field.Basic
/-!
# C15 — checkpoints restore the full training state and survive crashes while saving
Statements about `Ckpt.saveOps` / `Ckpt.loadLatest` (`Model/Ckpt.lean`) and the trainer machine `Train.Run.process`
(`Model/Train.lean`), the definitions the driver executes against the real code.  `Bridge/C15.lean` proves `wfSave` of the
table translated from /repo, so `crash_safe_all_wf_tables` is the statement that speaks about the translated code.
Trusted, carried as hypotheses: `decode (flatten (encode c)) = some c` (torch.save / torch.load round trip), `os.replace`
atomic; a file is loadable iff complete only in the `_violates` witnesses (`toyDecode`).  The resume theorems require the
checkpoint at an accumulation-window boundary (always true for `k = 1`); the mid-window case is the finding under C16.
-/
namespace DirectVerif.C15
open DirectVerif DirectVerif.Ckpt DirectVerif.Train

variable {P O G B L Sc : Type}

/-- **Save then load returns what was saved**, from any directory. -/
theorem state_roundtrip {S} (decode : Bytes → Option S) (d : Dir) (it : Nat) (chunks : List Bytes) (s : S)
    (hdec : decode chunks.flatten = some s) :
    loadLatest decode (run d (saveOps it chunks)) = .ok it s :=
  save_then_load_of_wf decode saveTable saveTable_wf d it chunks s hdec

/-- the only thing a snapshot does not restore is the gradient accumulator (`zero` after a resume) -/
theorem snapshot_restores_all_but_grad (zero : G) (s : St P O G Sc) :
    restore zero (snapshot s) = { s with grad := zero } := rfl

/-- **'latest' is the most recent completed save**; no monotonicity of the labels is needed. -/
theorem latest_is_last_complete {S} (decode : Bytes → Option S) (d : Dir)
    (saves : List (Nat × List Bytes × S)) (hdec : ∀ x ∈ saves, decode x.2.1.flatten = some x.2.2)
    (last : Nat × List Bytes × S) (hlast : saves.getLast? = some last) :
    loadLatest decode (runSaves d (saves.map fun x => ((x.1 : Int), x.2.1))) = .ok last.1 last.2.2 := by
  obtain ⟨init, rfl⟩ : ∃ init, saves = init ++ [last] := by
    rcases List.eq_nil_or_concat saves with rfl | ⟨i, l, rfl⟩
    · simp at hlast
    · simp at hlast
      subst hlast
      exact ⟨i, by simp⟩
  simp only [runSaves, List.map_append, List.map_cons, List.map_nil, List.foldl_append, List.foldl_cons,
    List.foldl_nil]
  exact state_roundtrip decode _ last.1 _ _ (hdec last (by simp))

/-- **Crash safety of one save, from any directory**, whatever `load('latest')` gave before — even an error.  Crash
points: every prefix of the operation list, the last write cut anywhere. -/
theorem crash_safe_step {S} (decode : Bytes → Option S) (d : Dir) (it : Nat) (chunks : List Bytes) (s : S)
    (hdec : decode chunks.flatten = some s) (n : Nat) (m : Option Nat) :
    let d' := run d (crashAt (saveOps it chunks) n m)
    loadLatest decode d' = loadLatest decode d ∨ loadLatest decode d' = .ok it s :=
  crash_safe_of_wf decode saveTable saveTable_wf d it chunks s hdec _ (crashAt_crashOf _ n m)

/-- **`crash_safe`**: after any sequence of completed saves, a crash at any point of one more save leaves a directory
from which `load('latest')` returns the previous or the new checkpoint — never an error. -/
theorem crash_safe {S} (decode : Bytes → Option S) (d0 : Dir) (h0 : d0 .last = none)
    (saves : List (Nat × List Bytes × S)) (hdec : ∀ x ∈ saves, decode x.2.1.flatten = some x.2.2)
    (it : Nat) (chunks : List Bytes) (s : S) (hs : decode chunks.flatten = some s)
    (n : Nat) (m : Option Nat) :
    let d := runSaves d0 (saves.map fun x => ((x.1 : Int), x.2.1))
    let d' := run d (crashAt (saveOps it chunks) n m)
    match saves.getLast? with
    | some prev => loadLatest decode d' = .ok prev.1 prev.2.2 ∨ loadLatest decode d' = .ok it s
    | none => loadLatest decode d' = .none ∨ loadLatest decode d' = .ok it s := by
  intro d d'
  have step := crash_safe_step decode d it chunks s hs n m
  cases hl : saves.getLast? with
  | some prev =>
    simp only
    rw [latest_is_last_complete decode d0 saves hdec prev hl] at step
    exact step
  | none =>
    simp only
    have : saves = [] := by simpa using hl
    subst this
    have hd : loadLatest decode d = .none := by
      simp only [d, runSaves, List.map_nil, List.foldl_nil, loadLatest, h0]
    rw [hd] at step
    exact step

/-- **Crash safety for every well-formed save routine**: `wfSave` accepts a table when each final name is only ever the
target of a replace from its completely written and closed temporary and the pointer is replaced after the checkpoint
file; the rest may be interleaved in any order.  `Bridge/C15.lean` discharges `wfSave` for the table translated from /repo. -/
theorem crash_safe_all_wf_tables {S} (decode : Bytes → Option S) (t : List Stmt) (hwf : wfSave t = true)
    (d : Dir) (it : Nat) (chunks : List Bytes) (s : S) (hdec : decode chunks.flatten = some s)
    (n : Nat) (m : Option Nat) :
    let d' := run d (crashAt (opsOf t it chunks) n m)
    loadLatest decode d' = loadLatest decode d ∨ loadLatest decode d' = .ok it s :=
  crash_safe_of_wf decode t hwf d it chunks s hdec _ (crashAt_crashOf _ n m)

theorem save_then_load_all_wf_tables {S} (decode : Bytes → Option S) (t : List Stmt) (hwf : wfSave t = true)
    (d : Dir) (it : Nat) (chunks : List Bytes) (s : S) (hdec : decode chunks.flatten = some s) :
    loadLatest decode (run d (opsOf t it chunks)) = .ok it s :=
  save_then_load_of_wf decode t hwf d it chunks s hdec

/-- the pinned table and the "pointer first" table are rejected -/
theorem wf_tables_structural :
    wfTables.all wfSaveStruct = true ∧ wfSave saveTable = true ∧ wfSave saveTablePinned = false ∧
    wfSave [.openW .modelTmp, .writePayload .modelTmp, .closeF .modelTmp, .openW .lastTmp, .writeLabel .lastTmp,
            .closeF .lastTmp, .replace .lastTmp .last, .replace .modelTmp .model] = false ∧
    -- a harmless reordering: the pointer's temporary is written first
    wfSave [.openW .lastTmp, .writeLabel .lastTmp, .closeF .lastTmp, .openW .modelTmp, .writePayload .modelTmp,
            .closeF .modelTmp, .replace .modelTmp .model, .replace .lastTmp .last] = true := by
  decide +kernel

theorem crash_enumeration_complete (ops p : List FsOp) : CrashOf ops p ↔ ∃ n m, p = crashAt ops n m :=
  ⟨crashOf_crashAt, fun ⟨n, m, e⟩ => e ▸ crashAt_crashOf ops n m⟩

/-- the pinned tree (files written in place) is not crash safe: a crash right after `last_model.txt` was truncated by
the save at 7 makes `load('latest')` raise `ValueError` -/
theorem crash_pinned_violates :
    let d := run Dir.empty (saveOpsPinned 5 (chunk (toyEncode 1 10) [3, 4]))
    loadLatest toyDecode d = .ok 5 1 ∧
    loadLatest toyDecode (run d (crashAt (saveOpsPinned 7 (chunk (toyEncode 2 10) [3, 4])) 6 none))
      = .error .valueError ∧
    -- … and a crash while the checkpoint file itself is being written, after a kill-path re-save of the same label
    loadLatest toyDecode (run d (crashAt (saveOpsPinned 5 (chunk (toyEncode 2 10) [3, 4])) 2 (some 1)))
      = .error .corrupt := by
  decide +kernel

/-- **Clean stop + resume = uninterrupted**: a checkpoint written after iteration `t` (the scheduler already stepped),
loaded by a fresh process that starts at `label + 1`, continues on the states of the uninterrupted run.  (Checkpoint at
a window boundary; automatic for `k = 1`.) -/
theorem resume_equals_uninterrupted (ops : Ops P O G B L Sc) (lrAt : Nat → L) (cfg : Cfg) (batch : Nat → B)
    (init : St P O G Sc) (t n : Nat) (hb : (t + 1) % cfg.k = 0) :
    let U := runRange ops lrAt cfg batch init 0
    runRange ops lrAt cfg batch (restore ops.zero (snapshot (U (t + 1)))) (resumeStart t).toNat n = U (t + 1 + n) := by
  intro U
  rw [resumeStart_toNat]
  exact runRange_resume ops lrAt cfg batch init (t + 1) n (Nat.succ_pos t) hb

theorem resume_equals_uninterrupted_k1 (ops : Ops P O G B L Sc) (lrAt : Nat → L) (cfg : Cfg) (hk : cfg.k = 1)
    (batch : Nat → B) (init : St P O G Sc) (t n : Nat) :
    let U := runRange ops lrAt cfg batch init 0
    runRange ops lrAt cfg batch (restore ops.zero (snapshot (U (t + 1)))) (resumeStart t).toNat n = U (t + 1 + n) :=
  resume_equals_uninterrupted ops lrAt cfg batch init t n (by rw [hk]; exact Nat.mod_one _)

/-- the schedule is a function of `last_epoch`, and `last_epoch = i` in iteration `i` of the resumed run -/
theorem resume_lr_sequence (ops : Ops P O G B L Sc) (lrAt : Nat → L) (cfg : Cfg) (batch : Nat → B)
    (init : St P O G Sc) (h0 : init.epoch = 0) (t n : Nat) (hb : (t + 1) % cfg.k = 0) :
    let U := runRange ops lrAt cfg batch init 0
    lrAt (runRange ops lrAt cfg batch (restore ops.zero (snapshot (U (t + 1)))) (resumeStart t).toNat n).epoch
      = lrAt (t + 1 + n) := by
  intro U
  rw [resume_equals_uninterrupted ops lrAt cfg batch init t n hb, runRange_epoch, h0, Nat.zero_add]

/-- **Kill inside iteration `i ≥ 5` + resume = uninterrupted**: the kill path stores the state reached after iteration
`i − 1` (the interrupted iteration has not touched θ, optimiser or scheduler) under label `i − 1`. -/
theorem kill_resume_equals_uninterrupted (ops : Ops P O G B L Sc) (lrAt : Nat → L) (cfg : Cfg) (batch : Nat → B)
    (init : St P O G Sc) (i n : Nat) (h5 : killGuard (i : Int) = true) (hb : i % cfg.k = 0) :
    let U := runRange ops lrAt cfg batch init 0
    -- what the kill path saves: (label, snapshot of the pre-iteration state)
    let label := killLabel (i : Int)
    let saved := snapshot (U i)
    (resumeStart label).toNat = i ∧
    runRange ops lrAt cfg batch (restore ops.zero saved) (resumeStart label).toNat n = U (i + n) := by
  intro U label saved
  have h5' : (i : Int) ≥ 5 := of_decide_eq_true h5
  have hs : (resumeStart label).toNat = i := by simp only [label, resumeStart, killLabel]; omega
  refine ⟨hs, ?_⟩
  rw [hs]
  exact runRange_resume ops lrAt cfg batch init i n (by omega) hb

/-- **Kill inside an iteration `i < 5`: nothing is saved** (the `iter_idx >= 5` guard). -/
theorem kill_below_guard_saves_nothing (r : Run P O G B L Sc) (i fuel : Nat) (s : St P O G Sc) (d : Dir)
    (hi : i < 5) (ht : i < r.total) :
    r.loop (.killDuring i) (fuel + 1) i s d = (s, d) := by
  rw [Run.loop, if_neg (by omega), if_pos rfl]
  have : killGuard (i : Int) = false := by simp [killGuard]; omega
  simp [this]

/-- the pinned kill path (label `iter_idx` for the pre-iteration state) violates the property: kill in iteration 7 of 9,
the resumed process starts at 8 with `last_epoch = 7` — iteration 7 is skipped and the learning rates are shifted -/
theorem kill_pinned_violates :
    let cfg : Cfg := { k := 1 }
    let lrAt : Nat → Int := fun e => e + 1
    let batch : Nat → Int := fun _ => 1
    let init : St Int Unit Int Unit := ⟨0, (), 0, 0, ()⟩
    let U := runRange Toy.intOps lrAt cfg batch init 0
    let start := (resumeStart (killLabelPinned 7)).toNat
    (runRange Toy.intOps lrAt cfg batch (restore 0 (snapshot (U 7))) start (9 - start)).theta = -36 ∧
    (U 9).theta = -45 ∧
    -- … while the repaired label gives the uninterrupted result
    (runRange Toy.intOps lrAt cfg batch (restore 0 (snapshot (U 7))) (resumeStart (killLabel 7)).toNat 2).theta = -45 := by
  decide +kernel

/-- **Every history of interruptions ends on the uninterrupted trajectory — for every `k ≥ 1`**, provided every
process starts from a 'latest' checkpoint taken at a window boundary (`AlignedHist`; vacuous for `k = 1`).  Any number of
processes run one after the other on the same experiment directory, each resuming from 'latest' and ending by a clean
disappearance after some iteration, a SIGINT inside some iteration (kill path), or a crash at any point *inside a
checkpoint save*.  The induction is carried by `Run.Inv` (`directory_invariant_any_k`). -/
theorem interrupted_history_equals_uninterrupted (r : Run P O G B L Sc) (h : r.Ok) (d0 : Dir)
    (h0 : loadLatest r.decode d0 = .none) (stops : List Stop) (ha : r.AlignedHist stops d0) :
    ∃ d s dfin, r.history stops d0 = some d ∧ r.process .finish d = some (s, dfin) ∧
      s = runRange r.ops r.lrAt r.cfg r.batch r.init 0 r.total := by
  obtain ⟨d, hd, hinv, hal⟩ := r.history_inv h stops d0 (Or.inl h0) ha
  obtain ⟨start, hst, e⟩ := r.process_eq h .finish d hinv hal
  exact ⟨d, _, _, hd, e, r.loop_finish h r.total start d hst (by omega)⟩

theorem interrupted_history_equals_uninterrupted_k1 (r : Run P O G B L Sc) (h : r.Ok) (hk : r.cfg.k = 1) (d0 : Dir)
    (h0 : loadLatest r.decode d0 = .none) (stops : List Stop) :
    ∃ d s dfin, r.history stops d0 = some d ∧ r.process .finish d = some (s, dfin) ∧
      s = runRange r.ops r.lrAt r.cfg r.batch r.init 0 r.total :=
  interrupted_history_equals_uninterrupted r h d0 h0 stops (r.alignedHist_of_k1 hk stops d0)

/-- which stop points are aligned: after a SIGINT inside iteration `j ≥ 5` the next process is aligned iff `j % k = 0` -/
theorem kill_leaves_latest (r : Run P O G B L Sc) (h : r.Ok) (fuel j : Nat) (s : St P O G Sc) (d : Dir)
    (h5 : 5 ≤ j) (ht : j < r.total) :
    loadLatest r.decode (r.loop (.killDuring j) (fuel + 1) j s d).2 = .ok ((j - 1 : Nat) : Int) (snapshot s) ∧
    (resumeStart ((j - 1 : Nat) : Int)).toNat = j :=
  ⟨by rw [Run.loop_succ (e := rfl), if_neg (by omega), if_pos rfl, r.killDir_eq h j s d h5]
      exact save_then_load_of_wf r.decode r.saveTbl h.save d (j - 1) _ _ (h.codec _),
    by unfold resumeStart; omega⟩

/-- **What happens otherwise** (the known finding `resume-mid-window`, exactly): the resumed process starts **with an
empty accumulator**; with `rr = (t + 1) % k` its first optimiser step is taken on `div_(k)` of the sum of only `k − rr`
batch gradients.  Hypothesis `e` is the directory invariant, kept whatever the alignment. -/
theorem misaligned_resume (r : Run P O G B L Sc) (stop : Stop) (d : Dir) (t : Nat)
    (e : loadLatest r.decode d = .ok t (snapshot (r.U (t + 1)))) (rr : Nat) (hr : (t + 1) % r.cfg.k = rr)
    (hrk : rr < r.cfg.k) :
    let s0 : St P O G Sc := { r.U (t + 1) with grad := r.ops.zero }
    r.process stop d = some (r.loop stop r.total (t + 1) s0 d) ∧
    runRange r.ops r.lrAt r.cfg r.batch s0 (t + 1) (r.cfg.k - rr) =
      stepWith r.ops r.lrAt r.cfg s0 (windowSum r.ops r.batch s0.theta (t + 1) (r.cfg.k - rr) r.ops.zero)
        (s0.epoch + (r.cfg.k - rr)) :=
  ⟨r.process_start stop d t e, runRange_first_step r.ops r.lrAt r.cfg r.batch _ (t + 1) rr hr hrk⟩

/-- a process that started aligned keeps the directory invariant whether or not the labels it writes are at window
boundaries -/
theorem directory_invariant_any_k (r : Run P O G B L Sc) (h : r.Ok) (stop : Stop) (fuel it : Nat) (d : Dir)
    (hd : r.Inv d) : r.Inv (r.loop stop fuel it (r.U it) d).2 :=
  r.loop_inv h stop fuel it d hd

theorem Bundle.map_lookup_self (A B : Bundle.Objs) (hk : B.map (·.1) = A.map (·.1)) (hn : (A.map (·.1)).Nodup) :
    B.map (fun kv => (kv.1, (A.lookup kv.1).getD kv.2)) = A := by
  induction A generalizing B with
  | nil => cases B with
    | nil => rfl
    | cons b B => simp at hk
  | cons a A ih =>
    cases B with
    | nil => simp at hk
    | cons b B =>
      simp only [List.map_cons, List.cons.injEq] at hk
      simp only [List.map_cons, List.nodup_cons] at hn
      obtain ⟨k, va⟩ := a
      obtain ⟨kb, vb⟩ := b
      simp only at hk
      obtain ⟨rfl, hk'⟩ := hk
      simp only [List.map_cons, List.lookup_cons_self, Option.getD_some, List.cons.injEq, true_and]
      rw [← ih B hk' hn.2]
      apply List.map_congr_left
      intro kv hkv
      have hne : kv.1 ≠ kb := by
        intro e
        apply hn.1
        rw [← hk', ← e]
        exact List.mem_map.mpr ⟨kv, hkv, rfl⟩
      have : (kv.1 == kb) = false := by simpa using hne
      rw [List.lookup_cons, this, ih B hk' hn.2]

/-- **A full `load` restores every checkpointable object**: saver and loader hold the same keys and every key is a
`HasStateDict` that is not metadata (model, additional `*model`s, optimizer, lr_scheduler, scaler). -/
theorem full_load_restores_every_object (A B : Bundle.Objs) (hk : B.map (·.1) = A.map (·.1))
    (hn : (A.map (·.1)).Nodup) (hs : ∀ kv ∈ A, Bundle.hasStateDict kv.1 = true ∧ Bundle.isMeta kv.1 = false) :
    Bundle.load B (Bundle.save A) .full = .ok A := by
  have hsave : Bundle.save A = A :=
    List.filter_eq_self.mpr fun kv hkv => by simp only [(hs kv hkv).1, Bool.or_true]
  rw [hsave]
  simp only [Bundle.load, Bundle.missing, Bool.false_eq_true, if_false]
  congr 1
  -- every key of the loader is restored: it is held by both sides, stored, and not metadata
  refine Eq.trans (List.map_congr_left fun kv hkv => ?_) (Bundle.map_lookup_self A B hk hn)
  obtain ⟨a, ha, hak⟩ := List.mem_map.mp (hk ▸ List.mem_map.mpr ⟨kv, hkv, rfl⟩ : kv.1 ∈ A.map (·.1))
  have hA : (A.lookup kv.1).isSome = true := List.lookup_isSome_iff.mpr ⟨a, ha, beq_iff_eq.mpr hak.symm⟩
  have hB : (B.lookup kv.1).isSome = true := List.lookup_isSome_iff.mpr ⟨kv, hkv, beq_self_eq_true _⟩
  have hm : Bundle.isMeta kv.1 = false := hak ▸ (hs a ha).2
  by_cases h0 : kv.1 = 0
  · simp only [h0, beq_self_eq_true, Bool.true_or, if_true]
  · simp only [Bundle.restores, hA, hB, hm, bne_iff_ne.mpr h0, Bool.and_self, Bool.not_false, Bool.or_true, if_true]

/-- `load_models_from_file` (`only_models`) -/
theorem only_models_leaves_training_state (B file : Bundle.Objs) (kv : Bundle.Key × Nat) (h : kv ∈ B)
    (hm : Bundle.isModelKey kv.1 = false) :
    ∃ B', Bundle.load B file .onlyModels = .ok B' ∧ kv ∈ B' := by
  refine ⟨_, rfl, ?_⟩
  apply List.mem_map.mpr
  refine ⟨kv, h, ?_⟩
  have h0 : (kv.1 == 0) = false := by
    cases hk : kv.1 with
    | zero => rw [hk] at hm; simp [Bundle.isModelKey] at hm
    | succ n => rfl
  simp [Bundle.restores, hm, h0]

/-- an object that is not a `HasStateDict` (key 7) is silently left out of the checkpoint -/
theorem non_stateful_object_is_not_restored (A B : Bundle.Objs) (mode : Bundle.Mode) (v : Nat) (h : (7, v) ∈ B)
    (B' : Bundle.Objs) (hl : Bundle.load B (Bundle.save A) mode = .ok B') : (7, v) ∈ B' := by
  have hlk : (Bundle.save A).lookup 7 = none := by
    rw [List.lookup_eq_none_iff]
    intro kv hkv
    simp only [Bundle.save, List.mem_filter] at hkv
    have h2 := hkv.2
    by_cases e : kv.1 = 7
    · rw [e] at h2; simp [Bundle.isMeta, Bundle.hasStateDict] at h2
    · simpa using (Ne.symm e)
  unfold Bundle.load at hl
  split at hl
  · cases hl
  · injection hl with hl
    subst hl
    apply List.mem_map.mpr
    refine ⟨(7, v), h, ?_⟩
    simp [Bundle.restores, hlk]

/-- stale temporaries left by an earlier crash are invisible to `load('latest')` … -/
theorem stale_tmp_ignored {S} (decode : Bytes → Option S) (d : Dir) (it : Int) (x y : Option Bytes) :
    loadLatest decode ((d.set (.modelTmp it) x).set .lastTmp y) = loadLatest decode d := by
  apply loadLatest_congr
  · rw [set_other _ _ _ _ (by simp), set_other _ _ _ _ (by simp)]
  · intro j; rw [set_other _ _ _ _ (by simp), set_other _ _ _ _ (by simp)]

/-- … and to the next save (`open(…, "w")` truncates them); re-saving an iteration that already has a checkpoint
replaces it -/
theorem save_over_stale_tmp_and_existing {S} (decode : Bytes → Option S) (t : List Stmt) (hwf : wfSave t = true)
    (d : Dir) (it : Nat) (x y old : Option Bytes) (chunks : List Bytes) (s : S)
    (hdec : decode chunks.flatten = some s) :
    loadLatest decode (run (((d.set (.modelTmp it) x).set .lastTmp y).set (.model it) old) (opsOf t it chunks))
      = .ok it s :=
  save_then_load_of_wf decode t hwf _ it chunks s hdec

/-- **The schedule is a function of `last_epoch` only**, so serialising `last_epoch` suffices. -/
theorem lr_depends_only_on_last_epoch (lrAt : Nat → L) (e m : Nat) :
    Sched.S.steps lrAt (Sched.S.load lrAt e) m = Sched.S.steps lrAt (Sched.S.init lrAt) (e + m) ∧
    Sched.S.steps lrAt (Sched.S.init lrAt) (e + m) = ⟨e + m, lrAt (e + m)⟩ := by
  have key : ∀ n, Sched.S.steps lrAt (Sched.S.init lrAt) n = ⟨n, lrAt n⟩ := by
    intro n
    induction n with
    | zero => rfl
    | succ n ih => simp [Sched.S.steps, ih, Sched.S.step]
  refine ⟨?_, key _⟩
  rw [key]
  induction m with
  | zero => rfl
  | succ m ih => simp [Sched.S.steps, ih, Sched.S.step, Nat.add_assoc]

theorem warmupFactorAt_of_le (m : Sched.Warmup) (wf : Rat) {cur w : Int} (h : w ≤ cur) :
    Sched.warmupFactorAt m cur w wf = some 1 := if_pos h

theorem warmupFactorAt_of_lt (m : Sched.Warmup) (wf : Rat) {cur w : Int} (h : cur < w) :
    Sched.warmupFactorAt m cur w wf = match m with
      | .constant => some wf
      | .linear => some (wf * (1 - (cur : Rat) / w) + (cur : Rat) / w)
      | .unknown => none :=
  if_neg (Int.not_le.mpr h)

/-- WarmupMultiStepLR after the warm-up -/
theorem multistep_after_warmup (c : Sched.MultiStep) (e : Int) (h : c.warmupIters ≤ e) :
    c.lr e = some (c.base * c.gamma ^ (c.milestones.filter (· ≤ e)).length) := by
  rw [Sched.MultiStep.lr, warmupFactorAt_of_le _ _ h, Option.map_some, mul_one]; rfl

/-- the second conjunct is the value of the interpolation formula at `w` — `warmupFactorAt` itself takes the `≥` branch
there (`warmup_boundary`), so the factor is continuous at the end of the warm-up -/
theorem warmup_linear_endpoints (wf : Rat) (w : Int) (hw : 0 < w) :
    Sched.warmupFactorAt .linear 0 w wf = some wf ∧
    (wf * (1 - ((w : Rat) / (w : Rat))) + (w : Rat) / (w : Rat) = 1) := by
  constructor
  · refine (warmupFactorAt_of_lt .linear wf hw).trans ?_
    rw [Int.cast_zero, zero_div, sub_zero, mul_one, add_zero]
  · rw [div_self (Int.cast_ne_zero.mpr (Int.ne_of_gt hw)), sub_self, mul_zero, zero_add]

/-- `bisect_right` is inclusive -/
theorem bisectRight_step (ms : List Int) (e : Int) :
    Sched.bisectRight ms (e + 1) = Sched.bisectRight ms e + ms.count (e + 1) := by
  unfold Sched.bisectRight
  induction ms with
  | nil => rfl
  | cons a r ih =>
    rw [List.filter_cons, List.filter_cons, List.count_cons]
    by_cases h1 : a ≤ e
    · rw [if_pos (decide_eq_true (Int.le_add_one h1)), if_pos (decide_eq_true h1),
        if_neg (by simpa using Int.ne_of_lt (Int.lt_add_one_iff.mpr h1)), List.length_cons, List.length_cons, ih]
      omega
    · by_cases h2 : a = e + 1
      · rw [if_pos (decide_eq_true (Int.le_of_eq h2)), if_neg (by simpa using h1), if_pos (by simpa using h2),
          List.length_cons, ih]
        omega
      · rw [if_neg (by simp; omega), if_neg (by simpa using h1), if_neg (by simpa using h2), ih]; rfl

/-- **the drop happens exactly at the milestone**: a scheduler resumed with `last_epoch = m` (a checkpoint labelled
`m − 1`) already uses the reduced rate, one resumed at `m − 1` does not -/
theorem multistep_drop_at_milestone (c : Sched.MultiStep) (e : Int) (h : c.warmupIters ≤ e) :
    c.lr (e + 1) = (c.lr e).map (· * c.gamma ^ c.milestones.count (e + 1)) := by
  rw [multistep_after_warmup c e h, multistep_after_warmup c (e + 1) (Int.le_add_one h)]
  have := bisectRight_step c.milestones e
  unfold Sched.bisectRight at this
  rw [this, Option.map_some, pow_add, mul_assoc]

/-- **warm-up boundary**; the factor is 1 at `warmup_iterations` even for an unknown method -/
theorem warmup_boundary (m : Sched.Warmup) (wf : Rat) (w : Int) :
    Sched.warmupFactorAt m w w wf = some 1 ∧
    Sched.warmupFactorAt .linear (w - 1) w wf = some (wf * (1 - ((w - 1 : Int) : Rat) / w) + ((w - 1 : Int) : Rat) / w) ∧
    Sched.warmupFactorAt .constant (w - 1) w wf = some wf :=
  ⟨warmupFactorAt_of_le m wf (Int.le_refl w), warmupFactorAt_of_lt .linear wf (Int.sub_one_lt_of_le (Int.le_refl w)),
    warmupFactorAt_of_lt .constant wf (Int.sub_one_lt_of_le (Int.le_refl w))⟩

theorem warmup_linear_monotone (wf : Rat) (w e : Int) (hw : 0 < w) (he : e + 1 < w) (hwf : wf ≤ 1) :
    Sched.warmupFactorAt .linear e w wf = some (wf * (1 - (e : Rat) / w) + (e : Rat) / w) ∧
    Sched.warmupFactorAt .linear (e + 1) w wf = some (wf * (1 - ((e + 1 : Int) : Rat) / w) + ((e + 1 : Int) : Rat) / w) ∧
    wf * (1 - (e : Rat) / w) + (e : Rat) / w ≤ wf * (1 - ((e + 1 : Int) : Rat) / w) + ((e + 1 : Int) : Rat) / w := by
  refine ⟨warmupFactorAt_of_lt .linear wf (Int.lt_trans (Int.lt_add_one_iff.mpr (Int.le_refl e)) he),
    warmupFactorAt_of_lt .linear wf he, ?_⟩
  -- `wf·(1 − x) + x = wf + (1 − wf)·x` is monotone in `x` for `wf ≤ 1`
  have hx : (e : Rat) / w ≤ ((e + 1 : Int) : Rat) / w :=
    div_le_div_of_nonneg_right (Int.cast_le.mpr (Int.le_add_one (Int.le_refl e))) (Int.cast_nonneg (Int.le_of_lt hw))
  have key : ∀ x : Rat, wf * (1 - x) + x = wf + (1 - wf) * x := fun x => by ring
  rw [key, key]
  exact add_le_add_right (mul_le_mul_of_nonneg_left hx (sub_nonneg.mpr hwf)) wf

/-- monotonicity of the (uninterpreted) cosine term is all the model assumes about `cos(π · e / max_iters)` -/
theorem cosine_monotone (cosPi : Int → Int → Rat) (c : Sched.Cosine) (e : Int) (h : c.warmupIters ≤ e)
    (hb : 0 ≤ c.base) (hc : cosPi (e + 1) c.maxIters ≤ cosPi e c.maxIters) :
    c.lr cosPi e = some (c.base * 1 * (1 / 2) * (1 + cosPi e c.maxIters)) ∧
    c.lr cosPi (e + 1) = some (c.base * 1 * (1 / 2) * (1 + cosPi (e + 1) c.maxIters)) ∧
    c.base * 1 * (1 / 2) * (1 + cosPi (e + 1) c.maxIters) ≤ c.base * 1 * (1 / 2) * (1 + cosPi e c.maxIters) := by
  have lr_eq : ∀ e', c.warmupIters ≤ e' → c.lr cosPi e' = some (c.base * 1 * (1 / 2) * (1 + cosPi e' c.maxIters)) :=
    fun e' h' => by rw [Sched.Cosine.lr, warmupFactorAt_of_le _ _ h']; rfl
  exact ⟨lr_eq e h, lr_eq (e + 1) (Int.le_add_one h),
    mul_le_mul_of_nonneg_left (add_le_add_right hc 1) (mul_nonneg (mul_nonneg hb zero_le_one) (div_nonneg zero_le_one zero_le_two))⟩

/-! ## non-vacuity
The codec hypothesis holds for the toy codec; each outcome of `crash_safe` occurs; the hypotheses of
`kill_resume_equals_uninterrupted` hold for a kill in iteration 7. -/

example : (Ckpt.toyDecode (Ckpt.chunk (Ckpt.toyEncode 1 10) [3, 4]).flatten = some 1) := by decide
example : loadLatest toyDecode (run Dir.empty (crashAt (saveOps 5 (chunk (toyEncode 1 10) [3, 4])) 3 (some 2)))
    = .none := by decide
example : loadLatest toyDecode (run (run Dir.empty (saveOps 5 (chunk (toyEncode 1 10) [3, 4])))
    (crashAt (saveOps 7 (chunk (toyEncode 2 10) [3, 4])) 5 none)) = .ok 5 1 := by decide
example : loadLatest toyDecode (run (run Dir.empty (saveOps 5 (chunk (toyEncode 1 10) [3, 4])))
    (crashAt (saveOps 7 (chunk (toyEncode 2 10) [3, 4])) 10 none)) = .ok 7 2 := by decide
example : killGuard (7 : Int) = true ∧ (7 : Nat) % ({ k := 1 } : Cfg).k = 0 := by decide

/-- `Run.Ok` is satisfiable: integer toy, a two-way codec -/
example : ∃ r : Run Int Unit Int Int Int Unit, r.Ok ∧ r.total = 9 :=
  ⟨{ ops := Toy.intOps, lrAt := fun e => (e : Int) + 1, cfg := { k := 2 }, batch := fun _ => 1,
     init := ⟨0, (), 0, 0, ()⟩, total := 9, ckSteps := 2,
     encode := fun c => [[if c.theta < 0 then 1 else 0, c.theta.natAbs], [c.epoch]],
     decode := fun b => match b with
       | [s, a, e] => some ⟨if s = 1 then -(a : Int) else (a : Int), (), e, ()⟩
       | _ => none },
   { table := rfl, label := rfl, init := rfl, save := by decide,
     codec := by
       intro c
       obtain ⟨th, u, e, sc⟩ := c
       by_cases h : th < 0
       · simp [h]; rw [abs_of_neg h]; omega
       · simp [h]; omega },
   rfl⟩

/-- the alignment hypothesis is satisfiable for `k = 2`: a SIGINT inside iteration 6 leaves 'latest' = 5 -/
example :
    let r : Run Int Unit Int Int Int Unit :=
      { ops := Toy.intOps, lrAt := fun e => (e : Int) + 1, cfg := { k := 2 }, batch := fun _ => 1,
        init := ⟨0, (), 0, 0, ()⟩, total := 9, ckSteps := 100,
        encode := fun c => [[if c.theta < 0 then 1 else 0, c.theta.natAbs], [c.epoch]],
        decode := fun b => match b with
          | [s, a, e] => some ⟨if s = 1 then -(a : Int) else (a : Int), (), e, ()⟩
          | _ => none }
    r.AlignedHist [Stop.killDuring 6] Dir.empty := by
  intro r
  have key : loadLatest r.decode (r.loop (.killDuring 6) r.total 0 r.init Dir.empty).2
      = .ok 5 ⟨-12, (), 6, ()⟩ := by decide +kernel
  refine ⟨fun t c h => (by cases h), ?_⟩
  show r.Aligned (r.loop (.killDuring 6) r.total 0 r.init Dir.empty).2
  intro t c h
  obtain ⟨rfl, -⟩ := LoadResult.ok.inj (key.symm.trans h)
  decide +kernel

end DirectVerif.C15
