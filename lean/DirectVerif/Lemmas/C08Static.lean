import DirectVerif.Model.PipelinePrePost
import DirectVerif.Lemmas.C08Parts
/-!
# C08 — the static degree check, shared between the configurations of a builder

A builder is an append of stage groups, each reading one or two flags.  Instead of type-checking every flag
combination on its own, `reach` runs group by group on the *set* of environments reachable so far; a stage list made
of one alternative per group (`Covers`) passes when every reachable environment is final (`degreesOkFrom_of_check`).
Environments are finite tables `Tab`, comparable and with one-step lookup for the kernel; `runT` is `typeProgram` on them.
-/
namespace DirectVerif.Pipeline

/-- a quantifier over a finite type of the model is decided by evaluating the body on the list -/
class Listed (α : Type) where
  all : List α
  mem : ∀ a, a ∈ all

/-- made a local instance by the files that decide such statements -/
@[instance_reducible] def Listed.decForall {α} [Listed α] (p : α → Prop) [DecidablePred p] : Decidable (∀ a, p a) :=
  decidable_of_iff (∀ a ∈ Listed.all, p a) ⟨fun h a => h a (Listed.mem a), fun h a _ => h a⟩

instance : Listed Key :=
  ⟨[.kspace, .maskedKspace, .samplingMask, .acsMask, .padding, .sensitivityMap, .scalingFactor, .target,
    .bodyCoilImage, .inputMaskedKspace, .targetMaskedKspace, .inputSamplingMask, .targetSamplingMask,
    .inputKspace, .t1, .t2, .t3, .t4, .t5], fun a => by cases a <;> decide⟩
instance : Listed ScalingKey :=
  ⟨.none :: .given :: (Listed.all (α := Key)).map .key, fun a => by
    cases a with
    | key k => exact List.mem_cons_of_mem _ (List.mem_cons_of_mem _ (List.mem_map_of_mem (Listed.mem k)))
    | _ => decide⟩
instance : Listed CropArg := ⟨[.none, .tuple, .name], fun a => by cases a <;> decide⟩
instance : Listed SMap := ⟨[.espirit, .rssEstimate, .unit], fun a => by cases a <;> decide⟩
instance : Listed Recon := ⟨[.ifft, .rss, .complex, .complexMod, .sense, .senseMod], fun a => by cases a <;> decide⟩
instance : Listed Split := ⟨[.uniform, .gaussian, .half], fun a => by cases a <;> decide⟩
instance : Listed Sp := ⟨[.raw, .cropped, .rescaled, .padded, .scalar], fun a => by cases a <;> decide⟩

theorem typeProgram_append (p q : List Instr) (e : TEnv) :
    typeProgram (p ++ q) e = match typeProgram p e with
      | .ok e' => typeProgram q e'
      | .error er => .error er := by
  induction p generalizing e with
  | nil => rfl
  | cons i is ih =>
    simp only [List.cons_append, typeProgram, absProgram]
    cases absInstr opDeg i e with
    | error er => rfl
    | ok e1 => exact ih e1

theorem program_append (a b : List Stage) : program (a ++ b) = program a ++ program b := by
  simp [program, List.flatMap_append]

structure Tab where
  (kspace maskedKspace samplingMask acsMask padding sensitivityMap scalingFactor target bodyCoilImage
   inputMaskedKspace targetMaskedKspace inputSamplingMask targetSamplingMask inputKspace t1 t2 t3 t4 t5 : Option Int)
  deriving DecidableEq

def Tab.get (t : Tab) : TEnv
  | .kspace => t.kspace | .maskedKspace => t.maskedKspace | .samplingMask => t.samplingMask
  | .acsMask => t.acsMask | .padding => t.padding | .sensitivityMap => t.sensitivityMap
  | .scalingFactor => t.scalingFactor | .target => t.target | .bodyCoilImage => t.bodyCoilImage
  | .inputMaskedKspace => t.inputMaskedKspace | .targetMaskedKspace => t.targetMaskedKspace
  | .inputSamplingMask => t.inputSamplingMask | .targetSamplingMask => t.targetSamplingMask
  | .inputKspace => t.inputKspace | .t1 => t.t1 | .t2 => t.t2 | .t3 => t.t3 | .t4 => t.t4 | .t5 => t.t5

def tabulate (e : TEnv) : Tab :=
  ⟨e .kspace, e .maskedKspace, e .samplingMask, e .acsMask, e .padding, e .sensitivityMap, e .scalingFactor,
   e .target, e .bodyCoilImage, e .inputMaskedKspace, e .targetMaskedKspace, e .inputSamplingMask,
   e .targetSamplingMask, e .inputKspace, e .t1, e .t2, e .t3, e .t4, e .t5⟩

/-- written out field by field (and not as `tabulate (t.get.set k v)`) so that an untouched field of the result is
the old field itself, not a conditional around it: tables stay evaluated along a program -/
def Tab.set (t : Tab) (k : Key) (v : Option Int) : Tab :=
  match k with
  | .kspace => { t with kspace := v } | .maskedKspace => { t with maskedKspace := v }
  | .samplingMask => { t with samplingMask := v } | .acsMask => { t with acsMask := v }
  | .padding => { t with padding := v } | .sensitivityMap => { t with sensitivityMap := v }
  | .scalingFactor => { t with scalingFactor := v } | .target => { t with target := v }
  | .bodyCoilImage => { t with bodyCoilImage := v } | .inputMaskedKspace => { t with inputMaskedKspace := v }
  | .targetMaskedKspace => { t with targetMaskedKspace := v }
  | .inputSamplingMask => { t with inputSamplingMask := v }
  | .targetSamplingMask => { t with targetSamplingMask := v } | .inputKspace => { t with inputKspace := v }
  | .t1 => { t with t1 := v } | .t2 => { t with t2 := v } | .t3 => { t with t3 := v } | .t4 => { t with t4 := v }
  | .t5 => { t with t5 := v }

theorem get_tabulate (e : TEnv) : (tabulate e).get = e := by
  funext k; cases k <;> rfl

theorem get_set (t : Tab) (k : Key) (v : Option Int) : (t.set k v).get = t.get.set k v := by
  have : t.set k v = tabulate (t.get.set k v) := by cases k <;> rfl
  rw [this, get_tabulate]

def instrT (i : Instr) (t : Tab) : Option Tab :=
  match i with
  | .assign guards dst op args =>
      if guards.all (fun g => (t.get g).isSome) then
        match getAllA t.get args with
        | .ok ds => match opDeg op ds with
            | .ok d => some (t.set dst (some d))
            | .error _ => none
        | .error _ => none
      else some t
  | .delete k => some (t.set k none)
  | .move src dst => match t.get src with
      | some d => some ((t.set src none).set dst (some d))
      | none => some t
  | .require k => if (t.get k).isSome then some t else none

def runT : List Instr → Tab → Option Tab
  | [], t => some t
  | i :: is, t => (instrT i t).bind (runT is)

theorem instrT_sound (i : Instr) (t t' : Tab) (h : instrT i t = some t') : typeInstr i t.get = .ok t'.get := by
  cases i with
  | assign guards dst op args =>
    simp only [instrT] at h
    simp only [typeInstr, absInstr]
    split at h
    · rename_i hg
      rw [if_pos hg]
      split at h
      · rename_i ds hds
        rw [hds]
        split at h
        · rename_i d hd
          simp only [Option.some.injEq] at h; subst h
          simp only [hd, get_set]
        · exact absurd h (by simp)
      · exact absurd h (by simp)
    · rename_i hg
      rw [if_neg hg]
      simp only [Option.some.injEq] at h; subst h; rfl
  | delete k =>
    simp only [instrT, Option.some.injEq] at h; subst h
    simp only [typeInstr, absInstr, get_set]
  | move src dst =>
    simp only [instrT] at h
    simp only [typeInstr, absInstr]
    split at h
    · rename_i d hd
      simp only [Option.some.injEq] at h; subst h
      simp only [hd, get_set]
    · rename_i hd
      simp only [Option.some.injEq] at h; subst h
      simp only [hd]
  | require k =>
    simp only [instrT] at h
    simp only [typeInstr, absInstr]
    split at h
    · rename_i hk
      simp only [Option.some.injEq] at h; subst h
      rw [if_pos hk]
    · exact absurd h (by simp)

theorem runT_sound (p : List Instr) (t t' : Tab) (h : runT p t = some t') : typeProgram p t.get = .ok t'.get := by
  induction p generalizing t with
  | nil => simp only [runT, Option.some.injEq] at h; subst h; rfl
  | cons i is ih =>
    simp only [runT, Option.bind_eq_some_iff] at h
    obtain ⟨t1, h1, h2⟩ := h
    have := instrT_sound i t t1 h1
    simp only [typeInstr] at this
    simp only [typeProgram, absProgram, this]
    exact ih t1 h2

/-- without duplicates; `none` when one run fails -/
def collect : List (Option Tab) → Option (List Tab)
  | [] => some []
  | none :: _ => none
  | some t :: r => (collect r).map fun S => if S.contains t then S else t :: S

/-- duplicates arise between the alternatives run from one environment, so that is where they are removed -/
def step (alts : List (List Stage)) : List Tab → Option (List Tab)
  | [] => some []
  | t :: S => match collect (alts.map fun a => runT (program a) t), step alts S with
      | some A, some R => some (A ++ R)
      | _, _ => none

def reach : List (List (List Stage)) → List Tab → Option (List Tab)
  | [], S => some S
  | g :: gs, S => (step g S).bind (reach gs)

/-- `l` is made of one alternative of each group, in order -/
def Covers : List (List (List Stage)) → List Stage → Prop
  | [], l => l = []
  | g :: gs, l => ∃ a ∈ g, ∃ r, l = a ++ r ∧ Covers gs r

theorem Covers.cons {g : List (List Stage)} {gs a r} (ha : a ∈ g) (hr : Covers gs r) : Covers (g :: gs) (a ++ r) :=
  ⟨a, ha, r, rfl, hr⟩

theorem Covers.single {g : List (List Stage)} {a} (ha : a ∈ g) : Covers [g] a :=
  ⟨a, ha, [], (List.append_nil a).symm, rfl⟩

theorem collect_spec (l : List (Option Tab)) (S : List Tab) (h : collect l = some S) :
    ∀ o ∈ l, ∃ t ∈ S, o = some t := by
  induction l generalizing S with
  | nil => intro o ho; cases ho
  | cons o l ih =>
    cases o with
    | none => simp [collect] at h
    | some t =>
      simp only [collect, Option.map_eq_some_iff] at h
      obtain ⟨S0, h0, rfl⟩ := h
      intro o ho
      rcases List.mem_cons.mp ho with rfl | ho
      · refine ⟨t, ?_, rfl⟩
        split
        · rename_i hc; simpa using hc
        · exact List.mem_cons_self
      · obtain ⟨t1, ht1, rfl⟩ := ih S0 h0 o ho
        refine ⟨t1, ?_, rfl⟩
        split
        · exact ht1
        · exact List.mem_cons_of_mem _ ht1

theorem step_spec (alts : List (List Stage)) (S S' : List Tab) (h : step alts S = some S') :
    ∀ t ∈ S, ∀ a ∈ alts, ∃ t' ∈ S', runT (program a) t = some t' := by
  induction S generalizing S' with
  | nil => intro t ht; cases ht
  | cons t0 S ih =>
    simp only [step] at h
    split at h
    · rename_i A R hA hR
      simp only [Option.some.injEq] at h; subst h
      intro t ht a ha
      rcases List.mem_cons.mp ht with rfl | ht
      · obtain ⟨t', ht', h'⟩ := collect_spec _ A hA _ (List.mem_map_of_mem (f := fun a => runT (program a) t) ha)
        exact ⟨t', List.mem_append_left _ ht', h'⟩
      · obtain ⟨t', ht', h'⟩ := ih R hR t ht a ha
        exact ⟨t', List.mem_append_right _ ht', h'⟩
    · exact absurd h (by simp)

theorem reach_sound (gs : List (List (List Stage))) (l : List Stage) (S S' : List Tab) (hc : Covers gs l)
    (h : reach gs S = some S') : ∀ t ∈ S, ∃ t' ∈ S', typeProgram (program l) t.get = .ok t'.get := by
  induction gs generalizing l S with
  | nil =>
    simp only [Covers] at hc; subst hc
    simp only [reach, Option.some.injEq] at h; subst h
    exact fun t ht => ⟨t, ht, rfl⟩
  | cons g gs ih =>
    obtain ⟨a, ha, r, rfl, hr⟩ := hc
    simp only [reach, Option.bind_eq_some_iff] at h
    obtain ⟨S1, h1, h2⟩ := h
    intro t ht
    obtain ⟨t1, ht1, ha1⟩ := step_spec g S S1 h1 t ht a ha
    obtain ⟨t', ht', hr'⟩ := ih r S1 hr h2 t1 ht1
    refine ⟨t', ht', ?_⟩
    rw [program_append, typeProgram_append, runT_sound _ _ _ ha1]
    exact hr'

def checkFrom (e0 : TEnv) (ssl : Bool) (gs : List (List (List Stage))) : Bool :=
  match reach gs [tabulate e0] with
  | some S => S.all fun t => finalOk ssl t.get
  | none => false

theorem degreesOkFrom_of_check {e0 : TEnv} {ssl : Bool} {gs : List (List (List Stage))} {l : List Stage}
    (hc : Covers gs l) (h : checkFrom e0 ssl gs = true) : degreesOkFrom e0 ssl l = true := by
  unfold checkFrom at h
  split at h
  · rename_i S hS
    obtain ⟨t', ht', hr⟩ := reach_sound gs l _ S hc hS _ List.mem_cons_self
    rw [get_tabulate] at hr
    simp only [degreesOkFrom, hr]
    exact List.all_eq_true.mp h t' ht'
  · exact absurd h (by simp)

theorem degreesOk_eq_from (ssl : Bool) (l : List Stage) : degreesOk ssl l = degreesOkFrom initEnv ssl l := rfl

end DirectVerif.Pipeline
