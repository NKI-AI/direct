import DirectVerif.Model.MaskInterior
import DirectVerif.Lemmas.C06Assemble
/-!
Integer interiors of `Model/MaskInterior.lean` behind C04: the k-t helpers `linear_indices_to_2d_coordinates` /
`resolve_duplicates_on_kt_grid` leave a duplicate-free trajectory alone, and in the rational model of `_poisson.pyx` the
repaired kernel (`guard = true`: an occupied cell is refused) keeps `num_actives ≤ #sampled + 1`.
-/
namespace DirectVerif.MaskGeom
open DirectVerif

theorem linear2d_grid (n x y : Int) (hn : 0 < n) (hx1 : 1 ≤ x) (hxn : x ≤ n) :
    linear2d ((y - 1) * n + x) n = (x, y) := by
  unfold linear2d
  have hn0 : n ≠ 0 := by omega
  have e1 : (y - 1) * n + x - 1 = (x - 1) + (y - 1) * n := by omega
  have e2 : -((y - 1) * n + x) = (n - x) + (-y) * n := by
    rw [Int.sub_mul, Int.neg_mul, Int.one_mul]; omega
  rw [e1, e2, Int.add_mul_ediv_right _ _ hn0, Int.add_mul_ediv_right _ _ hn0,
    Int.ediv_eq_zero_of_lt (by omega) (by omega), Int.ediv_eq_zero_of_lt (by omega) (by omega)]
  simp only [Int.zero_add, Int.neg_neg, Prod.mk.injEq, and_true]
  omega

theorem halfUp_cast (n : Nat) : halfUp (n : Int) = ((n / 2 : Nat) : Int) + 1 := by
  unfold halfUp; omega

/-- flat index `f` of the `(nt, n)`-reading of the sample array ↦ trajectory index `f + 1` -/
theorem trajIndex_flat (n nt : Nat) (f : Int) :
    trajIndex n nt (f % n - ((n / 2 : Nat) : Int)) (f / n - ((nt / 2 : Nat) : Int)) = f + 1 := by
  unfold trajIndex
  rw [halfUp_cast, halfUp_cast]
  have := Int.mul_ediv_add_emod f n
  have e : (f / n - ((nt / 2 : Nat) : Int) + (((nt / 2 : Nat) : Int) + 1) - 1) * (n : Int) = (n : Int) * (f / n) := by
    rw [show f / n - ((nt / 2 : Nat) : Int) + (((nt / 2 : Nat) : Int) + 1) - 1 = f / n by omega, Int.mul_comm]
  rw [e]
  omega

theorem linear2d_flat (n : Nat) (hn : 0 < n) (f : Int) :
    linear2d (f + 1) n = (f % n + 1, f / n + 1) := by
  have hn' : (0 : Int) < n := by omega
  have hm := Int.emod_nonneg f (by omega : (n : Int) ≠ 0)
  have hl := Int.emod_lt_of_pos f hn'
  have := linear2d_grid n (f % n + 1) (f / n + 1) hn' (by omega) (by omega)
  have e : (f / n + 1 - 1) * (n : Int) + (f % n + 1) = f + 1 := by
    have := Int.mul_ediv_add_emod f n
    have e' : (f / n + 1 - 1) * (n : Int) = (n : Int) * (f / n) := by rw [Int.add_sub_cancel, Int.mul_comm]
    rw [e']; omega
  rw [e] at this
  exact this

theorem duplicateIndices_nil_of_nodup (traj : List Int) (h : traj.Nodup) : duplicateIndices traj = [] := by
  unfold duplicateIndices dupPositions
  rw [List.filter_eq_nil_iff.mpr]
  · rfl
  · intro k hk hmem
    have hk' : k < traj.length := List.mem_range.mp hk
    rw [List.contains_eq_mem, decide_eq_true_eq, List.getD_eq_getElem?_getD, List.getElem?_eq_getElem hk',
      Option.getD_some] at hmem
    obtain ⟨j, hj, e⟩ := List.mem_take_iff_getElem.mp hmem
    exact List.pairwise_iff_getElem.mp h j k (by omega) hk' (by omega) e

theorem resolveDuplicates_of_nodup (phase time : List Int) (ny nt : Nat)
    (h : (List.zipWith (trajIndex ny nt) phase time).Nodup) :
    resolveDuplicates phase time ny nt =
      some (((List.zipWith (trajIndex ny nt) phase time).map fun v => (linear2d v ny).1 - halfUp ny),
            ((List.zipWith (trajIndex ny nt) phase time).map fun v => (linear2d v ny).2 - halfUp nt)) := by
  unfold resolveDuplicates
  simp only [duplicateIndices_nil_of_nodup _ h, relocate, List.map_map]
  rfl

theorem relocate_length (ds : List Nat) (traj empty : List Int) (row : Int) (t : List Int)
    (h : relocate ds traj empty row = some t) : t.length = traj.length := by
  induction ds generalizing traj empty with
  | nil => simp only [relocate, Option.some.injEq] at h; rw [← h]
  | cons d ds ih =>
    unfold relocate at h
    split at h
    · cases h
    · rw [ih _ _ h]; simp

theorem mem_upRange (a b k : Nat) : k ∈ upRange a b ↔ a ≤ k ∧ k < b := by
  unfold upRange
  simp only [List.mem_map, List.mem_range]
  constructor
  · rintro ⟨i, hi, rfl⟩; omega
  · intro h; exact ⟨k - a, by omega, by omega⟩

theorem mem_downRange (a b k : Nat) : k ∈ downRange a b ↔ b < k ∧ k ≤ a := by
  unfold downRange
  simp only [List.mem_map, List.mem_range]
  constructor
  · rintro ⟨i, hi, rfl⟩; omega
  · intro h; exact ⟨a - k, by omega, by omega⟩

theorem count_set_true_le (l : List Bool) (i : Nat) : (l.set i true).count true ≤ l.count true + 1 := by
  induction l generalizing i with
  | nil => simp
  | cons x xs ih =>
    cases i with
    | zero => cases x <;> simp
    | succ i => simp only [List.set_cons_succ, List.count_cons]; have := ih i; omega

/-- a candidate lies less than one pixel per axis from the corner of the cell it is stored in -/
theorem frac_sq_lt (q den : Int) (hden : 0 < den) (hq : 0 ≤ q) :
    (q - (((q / den).toNat : Nat) : Int) * den) * (q - (((q / den).toNat : Nat) : Int) * den) < den * den := by
  have h0 : 0 ≤ q / den := Int.ediv_nonneg hq (by omega)
  have e : (((q / den).toNat : Nat) : Int) = q / den := by omega
  rw [e]
  have hm : q - q / den * den = q % den := by
    have := Int.emod_add_ediv_mul q den; omega
  rw [hm]
  have h1 := Int.emod_nonneg q (by omega : den ≠ 0)
  have h2 := Int.emod_lt_of_pos q hden
  have s1 : q % den * (q % den) ≤ q % den * den := Int.mul_le_mul_of_nonneg_left (Int.le_of_lt h2) h1
  have s2 : q % den * den < den * den := Int.mul_lt_mul_of_pos_right h2 hden
  omega

theorem poissonAccept_cell (nx ny : Nat) (den r : Int) (hden : 0 < den) (mask : List Bool) (qx qy : Int)
    (h : poissonAccept nx ny den r mask qx qy = true) :
    0 ≤ qx ∧ 0 ≤ qy ∧ (qx / den).toNat < nx ∧ (qy / den).toNat < ny ∧ poissonCell ny den qx qy < nx * ny := by
  unfold poissonAccept at h
  simp only [Bool.and_eq_true, decide_eq_true_eq] at h
  obtain ⟨⟨hx0, hx1, hy0, hy1⟩, _⟩ := h
  have hcx : (qx / den).toNat < nx := by
    have h1 : qx / den < nx := Int.ediv_lt_of_lt_mul hden hx1
    have h0 : 0 ≤ qx / den := Int.ediv_nonneg hx0 (by omega)
    omega
  have hcy : (qy / den).toNat < ny := by
    have h1 : qy / den < ny := Int.ediv_lt_of_lt_mul hden hy1
    have h0 : 0 ≤ qy / den := Int.ediv_nonneg hy0 (by omega)
    omega
  exact ⟨hx0, hy0, hcx, hcy, cell_lt nx ny _ _ hcx hcy⟩

theorem poissonStep_guard_invariant (nx ny : Nat) (den r : Int) (hden : 0 < den) (s : PoissonState) (i : Nat)
    (cand : Option (Int × Int)) (hm : s.mask.length = nx * ny)
    (hinv : s.actives.length ≤ s.mask.count true + 1) :
    (poissonStep true nx ny den r s i cand).mask.length = nx * ny ∧
    (poissonStep true nx ny den r s i cand).actives.length ≤ (poissonStep true nx ny den r s i cand).mask.count true + 1 := by
  unfold poissonStep
  cases cand with
  | none =>
    simp only []
    cases hl : s.actives.getLast? with
    | none => exact ⟨hm, hinv⟩
    | some l => simp only [List.length_dropLast, List.length_set]; exact ⟨hm, by omega⟩
  | some q =>
    obtain ⟨qx, qy⟩ := q
    simp only [Bool.not_true, Bool.false_or]
    split
    · rename_i hacc
      simp only [Bool.and_eq_true, Bool.not_eq_true'] at hacc
      obtain ⟨hacc, hfree⟩ := hacc
      have hcell := (poissonAccept_cell nx ny den r hden _ qx qy hacc).2.2.2.2
      refine ⟨by simp [hm], ?_⟩
      simp only [List.length_append, List.length_singleton]
      rw [count_set_true _ _ false (by rw [hm]; exact hcell) hfree]
      omega
    · exact ⟨hm, hinv⟩

theorem poissonRun_guard_invariant (nx ny : Nat) (den r : Int) (hden : 0 < den) (evs : List (Nat × Option (Int × Int)))
    (s : PoissonState) (hm : s.mask.length = nx * ny) (hinv : s.actives.length ≤ s.mask.count true + 1) :
    (poissonRun true nx ny den r s evs).actives.length ≤ nx * ny + 1 := by
  induction evs generalizing s with
  | nil =>
    simp only [poissonRun]
    have := List.count_le_length (a := true) (l := s.mask)
    omega
  | cons e es ih =>
    obtain ⟨i, c⟩ := e
    simp only [poissonRun]
    obtain ⟨h1, h2⟩ := poissonStep_guard_invariant nx ny den r hden s i c hm hinv
    exact ih _ h1 h2

end DirectVerif.MaskGeom
