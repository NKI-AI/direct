import DirectVerif.Lemmas.C08Sound
import DirectVerif.Lemmas.C08Enum
import DirectVerif.Lemmas.C08Consist
import DirectVerif.Lemmas.C08Seeds
import DirectVerif.Lemmas.C08Tags
import DirectVerif.Lemmas.C08PrePost
import DirectVerif.Lemmas.C08Err
import DirectVerif.Lemmas.C08Ext
import DirectVerif.Lemmas.C08Recon
/-!
# C08 — the training transform pipeline is scale-equivariant and self-consistent

For every valid combination of the builder flags of `direct/data/mri_transforms.py`: `c·kspace` (`c > 0`) gives the
same `masked_kspace`, `target`, maps and masks as `kspace` and `c` times the `scaling_factor`; `masked_kspace` is the
mask applied to the normalised k-space, `target` its reconstruction; all tensor outputs have one spatial shape; masks
and random crops depend on the file name only.  Equivariance = soundness of the degree rules `opDeg` (`stage_sound`)
∘ a static check the kernel evaluates for all valid configurations (`pipeline_degrees_ok`); `*_rejected`: the checks
fail on the mutants the property is about.  `build` is tied to the source by `Bridge/C08.lean`.

Assumed: `SqrtHom`, and `ExtHom` of the FFT-based externals (proved for linear externals and the driver's, end of file).
ESPIRiT is excluded by `Config.valid`; a random augmentation is an external with the same draw in both runs.
-/
set_option linter.unusedSectionVars false
set_option linter.unusedSimpArgs false
namespace DirectVerif.C08
open DirectVerif DirectVerif.Pipeline

variable {K : Type} [Field K] [LinearOrder K] [IsStrictOrderedRing K]

/-- Scaling argument `i` by `c ^ dsᵢ` scales the result by `c ^ d`: `safeDivide : d₁, d₂ ↦ d₂ − d₁`, percentile / max of
the modulus `1 ↦ 1`, the relative threshold `1 ↦ 0`, masking `(0, d) ↦ d`, SENSE combination `(d₁, d₂) ↦ d₁ + d₂`, … -/

theorem stage_sound {sqrt : K → K} (hs : SqrtHom sqrt) {X : Ext K} (hX : ExtHom X) (c : K) (hc : 0 < c)
    (m : Meta) (op : Op) (ds : List Int) (vs : List (Val K)) (d : Int) (hlen : ds.length = vs.length)
    (h : opDeg op ds = .ok d) :
    evalOp (fieldOps sqrt) X m op (List.zipWith (fun d v => scaleV (c ^ d) v) ds vs)
      = scaleV (c ^ d) (evalOp (fieldOps sqrt) X m op vs) :=
  evalOp_hom hs hX c hc m op ds vs d hlen h

/-- … lifted to the program of a stage (a transform class); a well-typed stage does not fail -/

theorem stage_program_sound {sqrt : K → K} (hs : SqrtHom sqrt) {X : Ext K} (hX : ExtHom X) (c : K) (hc : 0 < c)
    (m : Meta) (st : Stage) (e e' : TEnv) (s : Store K) (ha : Agree e s)
    (ht : typeProgram (compile st) e = .ok e') :
    ∃ s', exec (fieldOps sqrt) X m (compile st) s = .ok s' ∧ Agree e' s' ∧
      exec (fieldOps sqrt) X m (compile st) (scaleS c e s) = .ok (scaleS c e' s') :=
  exec_sound hs hX c hc m (compile st) e e' s ha ht

example : thrCurrent.homogeneous = true := by decide
/-- an absolute threshold `kspace < eps` in `ComputeZeroPadding` -/

theorem absolute_threshold_rejected :
    (ThrPred.mk true .x .eps).homogeneous = false ∧
    degreesOk false ([Stage.toTensor, .computeZeroPadding .kspace .padding ⟨true, .x, .eps⟩]
                     ++ (build {}).drop 2) = false := by decide

/-- All 24 builder flags are quantified; `valid` is the only restriction.  `degreesOk`: type-checks from a raw sample,
normalised outputs of degree 0, scaling factor of degree 1, network inputs present, no temporaries left. -/

theorem pipeline_degrees_ok (c : Config) (hv : c.valid = true) : degreesOk c.ssl (build c) = true := by
  obtain ⟨hmf, hv⟩ := valid_validG c hv
  have : initEnv = givenEnv false false false := by funext k; cases k <;> rfl
  rw [degreesOk_eq_from, this]
  refine degreesOkFrom_build c hv ?_
  rw [hmf]
  exact check_raw

example : (({} : Config).valid = true) ∧ (({ ssl := true, recon := .sense, smapType := .unit } : Config).valid = true) := by
  decide

/-- `ComputeImage` in front of `Normalize`: the target has degree 1 -/

theorem recon_before_normalize_rejected :
    degreesOk false [.toTensor, .createSamplingMask false (some [.filename]) false,
      .applyMask .samplingMask .kspace .maskedKspace,
      .computeImage .kspace .target .rss,
      .computeScalingFactor (.key .maskedKspace) true .scalingFactor,
      .normalize .scalingFactor [.kspace, .maskedKspace]] = false := by decide

theorem dropped_normalize_rejected :
    degreesOk false [.toTensor, .createSamplingMask false (some [.filename]) false,
      .applyMask .samplingMask .kspace .maskedKspace,
      .computeScalingFactor (.key .maskedKspace) true .scalingFactor,
      .computeImage .kspace .target .rss] = false := by decide

theorem partial_normalize_rejected :
    degreesOk false [.toTensor, .createSamplingMask false (some [.filename]) false,
      .applyMask .samplingMask .kspace .maskedKspace,
      .computeScalingFactor (.key .maskedKspace) true .scalingFactor,
      .normalize .scalingFactor [.kspace],
      .computeImage .kspace .target .rss] = false := by decide

def rawStore (x : Val K) : Store K := fun k => if k = .kspace then some x else none

theorem rawStore_scale (c : K) (x : Val K) : rawStore (scaleV c x) = scaleS c initEnv (rawStore x) := by
  funext k
  unfold rawStore scaleS initEnv
  by_cases hk : k = .kspace <;> simp [hk]

theorem agree_init (x : Val K) : Agree initEnv (rawStore x) := by
  intro k; unfold initEnv rawStore; by_cases hk : k = .kspace <;> simp [hk]

/-- from *any* initial sample that `e0` describes; the entry under key `k` is scaled by `c ^ (e0 k)` -/

theorem pipeline_equivariant_from {sqrt : K → K} (hs : SqrtHom sqrt) {X : Ext K} (hX : ExtHom X) (m : Meta)
    (e0 : TEnv) (s0 : Store K) (ha : Agree e0 s0)
    (ssl : Bool) (l : List Stage) (hl : degreesOkFrom e0 ssl l = true) (c : K) (hc : 0 < c) :
    ∃ out outc, runFrom (fieldOps sqrt) X m l s0 = .ok out
      ∧ runFrom (fieldOps sqrt) X m l (scaleS c e0 s0) = .ok outc
      ∧ (∀ k ∈ normalisedKeys, outc k = out k)
      ∧ (∃ sf, out .scalingFactor = some sf ∧ outc .scalingFactor = some (scaleV c sf))
      ∧ (∃ t, out .target = some t) := by
  unfold degreesOkFrom at hl
  cases ht : typeProgram (program l) e0 with
  | error er => simp [ht] at hl
  | ok e =>
    simp only [ht, finalOk, Bool.and_eq_true] at hl
    obtain ⟨⟨⟨⟨hsf, hnorm⟩, htg⟩, _⟩, _⟩ := hl
    obtain ⟨out, h1, h2, h3⟩ := exec_sound hs hX c hc m (program l) e0 e s0 ha ht
    obtain ⟨sf, hsf1, hsf2⟩ := scaleS_degIs (c := c) h2 hsf
    obtain ⟨t, ht1, _⟩ := scaleS_degIs (c := c) h2 htg
    rw [zpow_one] at hsf2
    exact ⟨out, scaleS c e out, h1, h3, fun k hk => scaleS_degIsOrAbsent h2 (List.all_eq_true.mp hnorm k hk),
      ⟨sf, hsf1, hsf2⟩, ⟨t, ht1⟩⟩

/-- C08, equivariance: for any stage list passing the static check the run on `c·x` succeeds like the run on `x` -/

theorem pipeline_equivariant {sqrt : K → K} (hs : SqrtHom sqrt) {X : Ext K} (hX : ExtHom X) (m : Meta)
    (ssl : Bool) (l : List Stage) (hl : degreesOk ssl l = true) (c : K) (hc : 0 < c) (x : Val K) :
    ∃ out outc, run (fieldOps sqrt) X m l x = .ok out
      ∧ run (fieldOps sqrt) X m l (scaleV c x) = .ok outc
      ∧ (∀ k ∈ normalisedKeys, outc k = out k)
      ∧ (∃ sf, out .scalingFactor = some sf ∧ outc .scalingFactor = some (scaleV c sf))
      ∧ (∃ t, out .target = some t) := by
  have h := pipeline_equivariant_from hs hX m initEnv (rawStore x) (agree_init x) ssl l hl c hc
  rw [← rawStore_scale] at h
  exact h

/-- … for the lists `build_mri_transforms` composes -/

theorem build_equivariant {sqrt : K → K} (hs : SqrtHom sqrt) {X : Ext K} (hX : ExtHom X) (m : Meta)
    (cfg : Config) (hv : cfg.valid = true) (c : K) (hc : 0 < c) (x : Val K) :
    ∃ out outc, run (fieldOps sqrt) X m (build cfg) x = .ok out
      ∧ run (fieldOps sqrt) X m (build cfg) (scaleV c x) = .ok outc
      ∧ (∀ k ∈ normalisedKeys, outc k = out k)
      ∧ (∃ sf, out .scalingFactor = some sf ∧ outc .scalingFactor = some (scaleV c sf))
      ∧ (∃ t, out .target = some t) :=
  pipeline_equivariant hs hX m cfg.ssl (build cfg) (pipeline_degrees_ok cfg hv) c hc x

/-- non-vacuity: with identity externals and the zero function as square root the default pipeline runs to completion
on *every* raw sample — also the hypothesis `run … = .ok out` of the theorems below.  (The real square root satisfies
`SqrtHom`; the driver's `ratSqrt`, exact on perfect squares only, does not.) -/

example : ExtHom (idExt (K := K)) := idExt_hom
example : SqrtHom (K := K) (fun _ => 0) := zeroSqrt_hom
example (m : Meta) (x : Val K) : ∃ out, run (fieldOps (fun _ => (0 : K))) idExt m (build {}) x = .ok out := by
  obtain ⟨out, _, h, _⟩ := build_equivariant zeroSqrt_hom idExt_hom m {} (by decide) 1 one_pos x
  exact ⟨out, h⟩
example (m : Meta) (x : Val K) :
    ∃ out, run (fieldOps (fun _ => (0 : K))) idExt m (build { ssl := true, recon := .senseMod }) x = .ok out := by
  obtain ⟨out, _, h, _⟩ := build_equivariant zeroSqrt_hom idExt_hom m { ssl := true, recon := .senseMod } (by decide) 1 one_pos x
  exact ⟨out, h⟩

/-- C08, self-consistency (supervised): `kfull` is the pre-processed k-space that reached `ApplyMask`, `kn` the
normalised fully sampled k-space; the sensitivity map is that of the output sample -/

theorem masked_is_mask_of_normalised {sqrt : K → K} (X : Ext K) (m : Meta) (cfg : Config)
    (hv : cfg.valid = true) (hssl : cfg.ssl = false) (x : Val K) (out : Store K)
    (h : run (fieldOps sqrt) X m (build cfg) x = .ok out) :
    ∃ kfull mask sf kn, out .samplingMask = some mask ∧ out .scalingFactor = some sf
      ∧ kn = evalOp (fieldOps sqrt) X m .safeDiv [sf, kfull]
      ∧ out .maskedKspace = some (evalOp (fieldOps sqrt) X m .applyMask [mask, kn])
      ∧ out .target = some (reconVal (fieldOps sqrt) X m cfg.recon kn ((out .sensitivityMap).getD Val.empty))
      ∧ (out .kspace = some kn ∨ (cfg.deleteKspace = true ∧ out .kspace = none)) := by
  obtain ⟨kfull, mask, sf, a1, a2, a3, a4, a5⟩ := sup_final (fieldOps sqrt) X m cfg hv hssl x out h
  refine ⟨kfull, mask, sf, _, a1, a2, rfl, ?_, a4, a5⟩
  rw [a3, safeDiv_applyMask_comm]

theorem target_is_recon_of_normalised {sqrt : K → K} (X : Ext K) (m : Meta) (cfg : Config)
    (hv : cfg.valid = true) (hssl : cfg.ssl = false) (x : Val K) (out : Store K)
    (h : run (fieldOps sqrt) X m (build cfg) x = .ok out) :
    ∃ kfull sf, out .scalingFactor = some sf
      ∧ out .target = some (reconVal (fieldOps sqrt) X m cfg.recon (evalOp (fieldOps sqrt) X m .safeDiv [sf, kfull])
                              ((out .sensitivityMap).getD Val.empty)) := by
  obtain ⟨kfull, _, sf, _, _, a2, rfl, _, a4, _⟩ := masked_is_mask_of_normalised X m cfg hv hssl x out h
  exact ⟨kfull, sf, a2, a4⟩

/-- SSL: the split masks are applied to the normalised masked k-space; `target = ComputeImage(kspace)` of the target side -/

theorem ssl_consistent {sqrt : K → K} (X : Ext K) (m : Meta) (cfg : Config)
    (hv : cfg.valid = true) (hssl : cfg.ssl = true) (x : Val K) (out : Store K)
    (h : run (fieldOps sqrt) X m (build cfg) x = .ok out) :
    ∃ kfull mask sf im tm mkn, out .scalingFactor = some sf
      ∧ mkn = evalOp (fieldOps sqrt) X m .applyMask [mask, evalOp (fieldOps sqrt) X m .safeDiv [sf, kfull]]
      ∧ out .inputSamplingMask = some im ∧ out .targetSamplingMask = some tm
      ∧ out .inputKspace = some (evalOp (fieldOps sqrt) X m .applyMask [im, mkn])
      ∧ out .kspace = some (evalOp (fieldOps sqrt) X m .applyMask [tm, mkn])
      ∧ out .target = some (reconVal (fieldOps sqrt) X m cfg.recon (evalOp (fieldOps sqrt) X m .applyMask [tm, mkn])
                              ((out .sensitivityMap).getD Val.empty)) := by
  obtain ⟨kfull, mask, sf, im, tm, a1, a2, a3, a4, a5, a6⟩ := ssl_final (fieldOps sqrt) X m cfg hv hssl x out h
  refine ⟨kfull, mask, sf, im, tm, _, a1, rfl, a2, a3, ?_, ?_, ?_⟩
  · rw [a4, safeDiv_applyMask_comm]
  · rw [a5, safeDiv_applyMask_comm]
  · rw [a6, safeDiv_applyMask_comm]

example : degreesOk false (build {}) = true := pipeline_degrees_ok {} (by decide)

/-- Excluded: a tuple crop followed by pad / rescale (`CreateSamplingMask` then builds the mask for the crop shape
while the k-space has another one: the code raises, see the evidence notes).  Success of the shape interpreter means
every broadcast is between equal shapes or with a scalar.  `cropped` also for a crop given as a sample key
(`reconstruction_size`).  Tags do not depend on the rank: 2-D and 3-D alike. -/

theorem shape_tags (cfg : Config) (hv : cfg.valid = true)
    (hc : cfg.crop = .tuple → cfg.rescale = false ∧ cfg.pad = false) :
    ∃ ed, typeProgram (program (build cfg)) initEnv = .ok ed
      ∧ absProgram opSp (program (build cfg)) initSp = .ok (tagEnv (finalSp cfg) ed) := by
  have h := pipeline_degrees_ok cfg hv
  unfold degreesOk at h
  cases hd : typeProgram (program (build cfg)) initEnv with
  | error er => simp [hd] at h
  | ok ed => exact ⟨ed, rfl, shape_tags_of_degrees cfg hc ed hd⟩

/-- C08, crop shape: tuple or sample key, centre or random.  The sizes behind the tag are C10's `center_crop_length`;
the real shapes are checked by the oracle. -/

theorem crop_shape (cfg : Config) (hv : cfg.valid = true) (hcrop : cfg.crop ≠ .none)
    (hr : cfg.rescale = false) (hp : cfg.pad = false) :
    ∃ e, absProgram opSp (program (build cfg)) initSp = .ok e
      ∧ ∀ k t, e k = some t → k ≠ .scalingFactor → t = .cropped := by
  obtain ⟨ed, _, h⟩ := shape_tags cfg hv (fun _ => ⟨hr, hp⟩)
  refine ⟨_, h, ?_⟩
  intro k t hk hne
  have hf : finalSp cfg = .cropped := by
    unfold finalSp; simp [hr, hp]; cases hcr : cfg.crop <;> simp_all
  unfold tagEnv at hk
  cases hek : ed k with
  | none => simp [hek] at hk
  | some d => simp [hek, tagOf, hne, hf] at hk; exact hk.symm

example : ({ crop := .name, imageCenterCrop := false, ssl := true } : Config).valid = true := by decide

/-- rejected by the `KeyError` of `CropKspace`, which crops `sample["acs_mask"]` whenever `sampling_mask` is present —
not by a shape mismatch: with the ACS mask requested the same list passes, the crop stage crops both masks -/

theorem mask_before_crop_rejected :
    cropShapeOk [.toTensor, .createSamplingMask false (some [.filename]) false,
      .cropKspace true true, .deleteKeys [.acsMask],
      .applyMask .samplingMask .kspace .maskedKspace,
      .computeScalingFactor (.key .maskedKspace) true .scalingFactor,
      .normalize .scalingFactor [.kspace, .maskedKspace], .computeImage .kspace .target .rss] = false := by decide

/-- C08, one mask per file name: any slice numbers, any k-space *values*, same shape -/

theorem same_filename_same_mask {sqrt : K → K} (X : Ext K) (m m' : Meta) (hf : m.filename = m'.filename)
    (src : MaskSrc) (fromCrop : Bool) (x x' : Val K)
    (hshape : x.nc = x'.nc ∧ x.ns = x'.ns ∧ x.data.length = x'.data.length) :
    evalOp (fieldOps sqrt) X m (.extMask src (seedOf true [.filename]) fromCrop) [x]
      = evalOp (fieldOps sqrt) X m' (.extMask src (seedOf true [.filename]) fromCrop) [x'] := by
  obtain ⟨h1, h2, h3⟩ := hshape
  simp [evalOp, seedOf, seedVal, hf, h1, h2, h3]

/-- the random crop offset (`image_center_crop = False`) is seeded by `cropSeedFields`, bridged to `CropKspace.__call__` -/

theorem same_filename_same_crop {sqrt : K → K} (X : Ext K) (m m' : Meta) (hf : m.filename = m'.filename)
    (center : Bool) (x : Val K) :
    evalOp (fieldOps sqrt) X m (.lin (.crop center true)) [x]
      = evalOp (fieldOps sqrt) X m' (.lin (.crop center true)) [x] := by
  simp [evalOp, cropSeedFields, seedVal, hf]

attribute [local instance] Listed.decForall in
/-- … and that is the seed of *every* mask generation in the composed pipeline (no `slice_no`, no unseeded draw) -/

theorem mask_seeds_filename_only (cfg : Config) (hu : cfg.useSeed = true) :
    seedsOk (program (build cfg)) = true := by
  obtain ⟨crop, center, rescale, pad, rot, flip, rev, pe, mf, cc, pc, bc, es, st, sg, da, dk, recon, sk, pct,
    us, ssl, split, ka⟩ := cfg
  simp only at hu; subst hu
  simp only [build, buildSupervised, program_append, seedsOk_append, Bool.and_eq_true]
  refine ⟨⟨⟨⟨⟨⟨⟨⟨⟨⟨⟨⟨⟨⟨⟨⟨⟨⟨⟨?toTensor, ?crop⟩, ?rescale⟩, ?pad⟩, ?rotation⟩, ?flip⟩, ?reverse⟩, ?zeroPadding⟩, ?mask⟩,
    ?compress⟩, ?padCoils⟩, ?bodyCoil⟩, ?smaps⟩, ?deleteAcs⟩, ?applyMask⟩, ?scaling⟩, ?recon⟩, ?deleteKspace⟩,
    ?booleanKeys⟩, ?sslTail⟩
  case toTensor => rfl
  case crop => revert crop center; decide +kernel
  case rescale => revert rescale; decide +kernel
  case pad => revert pad; decide +kernel
  case rotation => revert rot; decide +kernel
  case flip => revert flip; decide +kernel
  case reverse => revert rev; decide +kernel
  case zeroPadding => revert pe; decide +kernel
  case mask => revert mf crop es; decide +kernel
  case compress => revert cc; decide +kernel
  case padCoils => revert pc; decide +kernel
  case bodyCoil => revert bc mf; decide +kernel
  case smaps => revert es st sg; decide +kernel
  case deleteAcs => revert ssl da; decide +kernel
  case applyMask => rfl
  case scaling => revert sk pct; decide +kernel
  case recon => revert recon; decide +kernel
  case deleteKspace => revert ssl dk; decide +kernel
  case booleanKeys => rfl
  case sslTail => revert ssl split ka recon; decide +kernel

theorem slice_seed_rejected :
    seedsOk (program [.createSamplingMask false (some [.filename, .sliceNo]) false]) = false := by decide

example : seedVal ⟨[102], [48]⟩ [.filename, .sliceNo] ≠ seedVal ⟨[102], [49]⟩ [.filename, .sliceNo] := by decide

/-! ## `ModuleWrapper` -/

theorem toggle_roundtrip {α β} (e : Entry α β) (h : ∀ l, e ≠ .vals l) : e.toggleIn.toggleOut = e := by
  cases e with
  | tensor t => simp [Entry.toggleIn, Entry.toggleOut, Shaped.unsqueeze0, Shaped.squeeze0]
  | val v => rfl
  | vals l => exact absurd rfl (h l)

/-- `ModuleWrapper` with `toggle_dims=True` on an un-batched sample.  `hlift` (`forward` acts on a batch of one as `g` on
its element) is checked on every wrapped module class by the oracle. -/

theorem wrapper_equiv {α β} (forward g : WSample α β → WSample α β) (s : WSample α β)
    (hlift : forward (fun k => (s k).map Entry.toggleIn) = fun k => (g s k).map Entry.toggleIn)
    (hplain : ∀ k e, g s k = some e → ∀ l, e ≠ .vals l) :
    wrapToggle forward s = g s := by
  funext k
  unfold wrapToggle
  rw [hlift]
  cases hk : g s k with
  | none => simp [hk]
  | some e => simp [hk, toggle_roundtrip e (hplain k e hk)]

example {α β} (s : WSample α β) (h : ∀ k e, s k = some e → ∀ l, e ≠ .vals l) : wrapToggle id s = s :=
  wrapper_equiv id id s rfl h

/-! ## `build_pre_mri_transforms` ++ `build_post_mri_transforms` -/

/-- the CPU / GPU split of the same pipeline: `ComputeImage` *before* `Normalize`, which then normalises the target
and the body-coil image through its default key list -/

theorem prepost_degrees_ok (c : Config) (hv : c.validPP = true) : degreesOk false (buildPrePost c) = true := by
  rw [degreesOk_eq_from]
  exact degreesOkFrom_of_check (prepost_covers c hv) (check_prepost _)

example : ({} : Config).validPP = true ∧ ({ recon := .senseMod, smapType := .unit, bodyCoil := true } : Config).validPP = true := by
  decide

theorem prepost_equivariant {sqrt : K → K} (hs : SqrtHom sqrt) {X : Ext K} (hX : ExtHom X) (m : Meta)
    (cfg : Config) (hv : cfg.validPP = true) (c : K) (hc : 0 < c) (x : Val K) :
    ∃ out outc, run (fieldOps sqrt) X m (buildPrePost cfg) x = .ok out
      ∧ run (fieldOps sqrt) X m (buildPrePost cfg) (scaleV c x) = .ok outc
      ∧ (∀ k ∈ normalisedKeys, outc k = out k)
      ∧ (∃ sf, out .scalingFactor = some sf ∧ outc .scalingFactor = some (scaleV c sf))
      ∧ (∃ t, out .target = some t) :=
  pipeline_equivariant hs hX m false (buildPrePost cfg) (prepost_degrees_ok cfg hv) c hc x

def degOf (l : List Stage) (k : Key) : Option Int :=
  match typeProgram (program l) initEnv with
  | .ok e => e k
  | .error _ => none

/-- the body-coil image is normalised by the pre/post pair only: the single builder gives `Normalize` the keys
`[kspace, masked_kspace]` -/

theorem body_coil_image_degree :
    degOf (buildPrePost { bodyCoil := true }) .bodyCoilImage = some 0
    ∧ degOf (build { bodyCoil := true }) .bodyCoilImage = some 1 := by decide

/-- `target = ComputeImage(kfull) / s`: the reconstruction of the *un-normalised* k-space, normalised afterwards -/

theorem prepost_consistent {sqrt : K → K} (X : Ext K) (m : Meta) (cfg : Config) (hv : cfg.validPP = true)
    (x : Val K) (out : Store K) (h : run (fieldOps sqrt) X m (buildPrePost cfg) x = .ok out) :
    ∃ kfull mask sf, out .samplingMask = some mask ∧ out .scalingFactor = some sf
      ∧ out .maskedKspace = some (evalOp (fieldOps sqrt) X m .applyMask [mask, evalOp (fieldOps sqrt) X m .safeDiv [sf, kfull]])
      ∧ out .target = some (evalOp (fieldOps sqrt) X m .safeDiv
            [sf, reconVal (fieldOps sqrt) X m cfg.recon kfull ((out .sensitivityMap).getD Val.empty)])
      ∧ (out .kspace = some (evalOp (fieldOps sqrt) X m .safeDiv [sf, kfull]) ∨ (cfg.deleteKspace = true ∧ out .kspace = none)) := by
  obtain ⟨kfull, mask, sf, a1, a2, a3, a4, a5⟩ := prepost_final (fieldOps sqrt) X m cfg hv x out h
  refine ⟨kfull, mask, sf, a1, a2, ?_, a4, a5⟩
  rw [a3, safeDiv_applyMask_comm]

/-- … which is `ComputeImage(kfull / s)` for a positive scalar `s`, as the property demands (`reconVal_scale`) -/

theorem prepost_target_is_recon_of_normalised {sqrt : K → K} (hs : SqrtHom sqrt) {X : Ext K} (hX : ExtHom X) (m : Meta)
    (cfg : Config) (hv : cfg.validPP = true) (x : Val K) (out : Store K)
    (h : run (fieldOps sqrt) X m (buildPrePost cfg) x = .ok out) :
    ∃ kfull sf, out .scalingFactor = some sf ∧
      ∀ s, sf.data = [s] → 0 < s →
        out .target = some (reconVal (fieldOps sqrt) X m cfg.recon (evalOp (fieldOps sqrt) X m .safeDiv [sf, kfull])
                              ((out .sensitivityMap).getD Val.empty)) := by
  obtain ⟨kfull, mask, sf, _, a2, _, a4, _⟩ := prepost_final (fieldOps sqrt) X m cfg hv x out h
  refine ⟨kfull, sf, a2, ?_⟩
  intro s hsf hpos
  rw [a4, recon_normalise_comm hs hX m cfg.recon sf kfull _ s hsf hpos]

/-- `target` dropped from `Normalize`'s default keys -/

theorem post_target_not_normalised_rejected :
    degreesOk false (buildPre {} ++ [.estimateSensitivityMap .kspace .rssEstimate false, .deleteKeys [.acsMask],
      .computeImage .kspace .target .rss, .applyMask .samplingMask .kspace .maskedKspace,
      .computeScalingFactor (.key .maskedKspace) true .scalingFactor,
      .normalize .scalingFactor [.maskedKspace, .kspace, .bodyCoilImage]]) = false := by decide

/-! ## samples that already contain tensor entries -/

theorem givenStore_scale (c : K) (x : Val K) (g : Given K) :
    givenStore (scaleV c x) g
      = scaleS c (givenEnv g.samplingMask.isSome g.acsMask.isSome g.sensitivityMap.isSome) (givenStore x g) := by
  funext k
  unfold givenStore scaleS givenEnv
  cases k <;> simp <;> (first | (cases g.samplingMask <;> simp) | (cases g.acsMask <;> simp) | (cases g.sensitivityMap <;> simp))

theorem agree_given (x : Val K) (g : Given K) :
    Agree (givenEnv g.samplingMask.isSome g.acsMask.isSome g.sensitivityMap.isSome) (givenStore x g) := by
  intro k; unfold givenEnv givenStore
  cases k <;> simp <;> (first | (cases g.samplingMask <;> simp) | (cases g.acsMask <;> simp) | (cases g.sensitivityMap <;> simp))

/-- prospectively under-sampled data: the sample brings `sampling_mask` and `acs_mask`, no mask function; the given
masks are not scaled -/

theorem given_masks_equivariant {sqrt : K → K} (hs : SqrtHom sqrt) {X : Ext K} (hX : ExtHom X) (m : Meta)
    (cfg : Config) (hmf : cfg.maskFunc = false) (hv : cfg.validG true true false = true)
    (mask acs : Val K) (c : K) (hc : 0 < c) (x : Val K) :
    ∃ out outc, runFrom (fieldOps sqrt) X m (build cfg) (givenStore x ⟨some mask, some acs, none⟩) = .ok out
      ∧ runFrom (fieldOps sqrt) X m (build cfg) (givenStore (scaleV c x) ⟨some mask, some acs, none⟩) = .ok outc
      ∧ (∀ k ∈ normalisedKeys, outc k = out k)
      ∧ (∃ sf, out .scalingFactor = some sf ∧ outc .scalingFactor = some (scaleV c sf))
      ∧ (∃ t, out .target = some t) := by
  rw [givenStore_scale]
  exact pipeline_equivariant_from hs hX m _ _ (agree_given x ⟨some mask, some acs, none⟩) cfg.ssl (build cfg)
    (givenA_degrees_ok cfg hmf hv) c hc

/-- the dataset provides the sensitivity map (SENSE targets without estimating maps) -/

theorem given_map_equivariant {sqrt : K → K} (hs : SqrtHom sqrt) {X : Ext K} (hX : ExtHom X) (m : Meta)
    (cfg : Config) (hmf : cfg.maskFunc = true) (hv : cfg.validG false false true = true)
    (smap : Val K) (c : K) (hc : 0 < c) (x : Val K) :
    ∃ out outc, runFrom (fieldOps sqrt) X m (build cfg) (givenStore x ⟨none, none, some smap⟩) = .ok out
      ∧ runFrom (fieldOps sqrt) X m (build cfg) (givenStore (scaleV c x) ⟨none, none, some smap⟩) = .ok outc
      ∧ (∀ k ∈ normalisedKeys, outc k = out k)
      ∧ (∃ sf, out .scalingFactor = some sf ∧ outc .scalingFactor = some (scaleV c sf))
      ∧ (∃ t, out .target = some t) := by
  rw [givenStore_scale]
  exact pipeline_equivariant_from hs hX m _ _ (agree_given x ⟨none, none, some smap⟩) cfg.ssl (build cfg)
    (givenB_degrees_ok cfg hmf hv) c hc

example : ({ maskFunc := false, estimateSmaps := false } : Config).validG true true false = true
    ∧ ({ recon := .sense, estimateSmaps := false } : Config).validG false false true = true := by decide

/-- `CropKspace` crops `sample["acs_mask"]` whenever `sampling_mask` is present -/

theorem given_mask_without_acs_crop_rejected :
    degreesOkFrom (givenEnv true false false) false
      (build { maskFunc := false, estimateSmaps := false, crop := .tuple }) = false := by decide

/-! ## the `IndexError` branch of the percentile scaling -/

/-- `runE` is `run` plus the `IndexError` of `torch.kthvalue` on an empty selection -/

theorem runE_refines_run (S : Ops K) (X : Ext K) (m : Meta) (l : List Stage) (x : Val K) :
    (∀ out, runE S X m l x = .ok out → run S X m l x = .ok out)
    ∧ (∀ e, runE S X m l x = .error (.base e) → run S X m l x = .error e)
    ∧ (∀ out, run S X m l x = .ok out → runE S X m l x = .ok out ∨ ∃ k, runE S X m l x = .error (.indexError k)) :=
  ⟨fun out h => execE_ok S X m _ _ out h, fun e h => execE_base S X m _ _ e h,
   fun out h => exec_ok_cases S X m _ _ out h⟩

/-- the `IndexError` (scaling tensor identically zero) is raised for `c·x` exactly when it is raised for `x`, for the
same key, and it is the *only* error of a well-typed pipeline -/

theorem runE_equivariant {sqrt : K → K} (hs : SqrtHom sqrt) {X : Ext K} (hX : ExtHom X) (m : Meta)
    (ssl : Bool) (l : List Stage) (hl : degreesOk ssl l = true) (c : K) (hc : 0 < c) (x : Val K) :
    ∃ e, typeProgram (program l) initEnv = .ok e
      ∧ runE (fieldOps sqrt) X m l (scaleV c x) = (runE (fieldOps sqrt) X m l x).map (scaleS c e)
      ∧ (∀ er, runE (fieldOps sqrt) X m l x = .error er → ∃ k, er = .indexError k) := by
  unfold degreesOk at hl
  cases ht : typeProgram (program l) initEnv with
  | error er => simp [ht] at hl
  | ok e =>
    refine ⟨e, rfl, ?_, ?_⟩
    · have : runE (fieldOps sqrt) X m l (scaleV c x) = execE (fieldOps sqrt) X m (program l) (rawStore (scaleV c x)) := rfl
      rw [this, rawStore_scale]
      exact execE_sound hs hX c hc m (program l) initEnv e (rawStore x) (agree_init x) ht
    · intro er her
      cases er with
      | indexError k => exact ⟨k, rfl⟩
      | base b =>
        exfalso
        have h1 := execE_base (fieldOps sqrt) X m _ _ b her
        obtain ⟨out, h2, _⟩ := exec_sound hs hX c hc m (program l) initEnv e (rawStore x) (agree_init x) ht
        have : exec (fieldOps sqrt) X m (program l) (rawStore x) = .error b := h1
        rw [h2] at this
        cases this

/-- integer scalars and identity externals for `decide`.  Examples below: the percentile raises on an all-zero sample;
a coil whose entries merely cancel goes through; with the maximum the all-zero sample goes through too. -/

def intOps : Ops Int where
  zero := 0
  one := 1
  add := (· + ·)
  mul := (· * ·)
  div := (· / ·)
  neg := (- ·)
  lt := fun a b => decide (a < b)
  isZero := fun a => a == 0
  sqrt := fun a => (Nat.sqrt a.toNat : Int)
  ofNat := fun n => (n : Int)

def intExt : Ext Int where
  lin := fun _ _ v => v
  crop := fun _ _ v => v
  mask := fun _ _ _ _ _ len => List.replicate (len / 2) true
  split := fun input _ _ ms => (ms.headD []).map fun b => b && input
  eps := 0
  kOf := fun _ => 1
  padCoilsTo := 0
  espirit := fun v => v

example : isIndexError (runE intOps intExt ⟨[], []⟩ (build {}) ⟨1, 1, true, [0, 0, 0, 0]⟩) = true := by decide
example : isOk (runE intOps intExt ⟨[], []⟩ (build {}) ⟨1, 1, true, [3, -3, 4, -4]⟩) = true := by decide

/-- The pinned coil test `data[_].sum(...).bool()` drops a coil whose entries cancel: `IndexError` on the non-zero
sample `[3 − 3i, 4 − 4i]`; the repaired `(data[_] != 0).any()` keeps it.  (With PadKspace and un-centred operators the
sum is theoretically zero and float32 noise decided: evidence notes.) -/

theorem coil_selection_pinned_violates :
    (kthSelectionPinned intOps ⟨1, 1, true, [3, -3, 4, -4]⟩).isEmpty = true
    ∧ (kthSelection intOps ⟨1, 1, true, [3, -3, 4, -4]⟩).isEmpty = false := by decide
example : isOk (runE intOps intExt ⟨[], []⟩ (build { percentile := false }) ⟨1, 1, true, [0, 0, 0, 0]⟩) = true := by decide
example : isOk (runE intOps intExt ⟨[], []⟩ (build {}) ⟨1, 1, true, [3, 0, 0, 4]⟩) = true := by decide
example : isIndexError (runE intOps intExt ⟨[], []⟩ (buildPrePost {}) ⟨2, 1, true, [0, 0, 0, 0]⟩) = true := by decide

/-! ## the homogeneity of the externals as a theorem -/

/-- a DFT in real/imaginary form, crop, zero pad, interpolating resize, flip, rotation, Gaussian weighting are of this kind -/

theorem linear_externals_hom (sqrt : K → K) (L : LinearExt K) (X : Ext K) : ExtHom (L.toExt (fieldOps sqrt) X) := by
  constructor
  · intro l m q v _
    simp only [LinearExt.toExt, LinearExt.lin, scaleV, Val.map, List.length_map, matApply_scale]
  · intro c sd q v _
    simp only [LinearExt.toExt, LinearExt.crop, scaleV, Val.map, List.length_map, matApply_scale]

theorem driver_externals_hom (l : Driver.C08.Line) : ExtHom (Driver.C08.mkExt l) := driver_ext_hom l

/-- the theorems about `fieldOps` speak about the `def`s the driver runs -/

theorem driver_ops_eq : Driver.C08.ratOps = fieldOps Driver.C08.ratSqrt := by
  unfold Driver.C08.ratOps fieldOps
  congr 1

/-- no assumption about the externals for the executed model; `SqrtHom` remains one (`ratSqrt`, a floor off the perfect
squares, does not satisfy it) -/

theorem driver_build_equivariant {sqrt : Rat → Rat} (hs : SqrtHom sqrt) (l : Driver.C08.Line) (m : Meta)
    (cfg : Config) (hv : cfg.valid = true) (c : Rat) (hc : 0 < c) (x : Val Rat) :
    ∃ out outc, run (fieldOps sqrt) (Driver.C08.mkExt l) m (build cfg) x = .ok out
      ∧ run (fieldOps sqrt) (Driver.C08.mkExt l) m (build cfg) (scaleV c x) = .ok outc
      ∧ (∀ k ∈ normalisedKeys, outc k = out k)
      ∧ (∃ sf, out .scalingFactor = some sf ∧ outc .scalingFactor = some (scaleV c sf)) := by
  obtain ⟨out, outc, h1, h2, h3, h4, _⟩ := build_equivariant hs (driver_ext_hom l) m cfg hv c hc x
  exact ⟨out, outc, h1, h2, h3, h4⟩

end DirectVerif.C08
