import DirectVerif.Model.Config
/-!
Split / join arithmetic on dotted names.  The name look-ups of the source may be written as
`(name + "Config").split(".")[-1]`, as `name.split(".")[-1] + "Config"`, with `parts[:-1]` / `parts[-1]` or with
`*init, last = parts`; `Bridge/C20.lean` proves the strings that reach `str_to_class` equal whatever the spelling, with
these as rewrite rules.
-/
namespace DirectVerif.Config

theorem splitDot_ne_nil (s : Str) : splitDot s ≠ [] := by
  induction s with
  | nil => simp [splitDot]
  | cons c cs ih =>
    unfold splitDot
    cases h : splitDot cs with
    | nil => simp
    | cons w ws => by_cases hc : c = dot <;> simp [hc]

theorem splitDot_nodot (suf : Str) (h : dot ∉ suf) : splitDot suf = [suf] := by
  induction suf with
  | nil => simp [splitDot]
  | cons c cs ih =>
    have hc : c ≠ dot := fun e => h (by simp [e])
    have hcs : dot ∉ cs := fun m => h (by simp [m])
    unfold splitDot
    rw [ih hcs]
    simp [hc]

theorem splitDot_append_nodot (s suf : Str) (h : dot ∉ suf) :
    splitDot (s ++ suf) = (splitDot s).dropLast ++ [(splitDot s).getLast?.getD [] ++ suf] := by
  induction s with
  | nil => simp [splitDot, splitDot_nodot suf h]
  | cons c cs ih =>
    rw [List.cons_append]
    unfold splitDot
    rw [ih]
    cases hs : splitDot cs with
    | nil => exact absurd hs (splitDot_ne_nil cs)
    | cons w ws =>
      cases ws with
      | nil => by_cases hc : c = dot <;> simp [hc]
      | cons x xs => by_cases hc : c = dot <;> simp [hc, List.dropLast, List.getLast?_cons_cons]

theorem lastPart_append_nodot (s suf : Str) (h : dot ∉ suf) :
    (splitDot (s ++ suf)).getLast?.getD [] = (splitDot s).getLast?.getD [] ++ suf := by
  rw [splitDot_append_nodot s suf h]
  simp

/-- the literal is `strConfig` unfolded, the form in which the generated kernels carry it -/
@[simp] theorem lastPart_config (n : Str) :
    (splitDot (n ++ [67, 111, 110, 102, 105, 103])).getLast?.getD [] = (splitDot n).getLast?.getD [] ++ [67, 111, 110, 102, 105, 103] :=
  lastPart_append_nodot n _ (by decide)

theorem drop_one_dropLast (xs : List Str) : (xs.drop 1).dropLast = (xs.dropLast).drop 1 := by
  cases xs with
  | nil => rfl
  | cons x xs => cases xs <;> simp [List.dropLast]
end DirectVerif.Config

