import DirectVerif.Model.ConfigGuard
/-!
What the verdicts of the guard evaluator (`Model/ConfigGuard.lean`) and the stages of `checkConfig` mean, as
specifications that do not mention the generated tables.
-/
namespace DirectVerif.Config

theorem guardsPass_iff (T : Tables) (G : GTables) (route : Nat) (cls : PStr × PStr) (schema : Option Ty) (block : Val) :
    guardsPass T G route cls schema block = true ↔
      ∀ r ∈ rowsOf G route cls,
        evalRow r (envOf T G schema block (((classInfo G (if route = 4 then 0 else route) cls).map (·.params)).getD []))
          ≠ some false := by
  unfold guardsPass
  simp only [List.all_eq_true, bne_iff_ne]

/-- verdict `1` = every guard passes; `guardsPass` = no guard is known to reject -/
theorem guardsPass_of_verdict {T : Tables} {G : GTables} {route : Nat} {cls : PStr × PStr} {schema : Option Ty} {block : Val}
    (h : guardsVerdict T G route cls schema block = 1) : guardsPass T G route cls schema block = true := by
  unfold guardsVerdict at h
  unfold guardsPass
  generalize ((classInfo G (if route = 4 then 0 else route) cls).map (·.params)).getD [] = dflts at h ⊢
  rw [List.all_eq_true]
  intro r hr
  rw [bne, Bool.not_eq_true']
  refine Bool.eq_false_iff.mpr fun he => ?_
  rw [if_pos (List.any_eq_true.mpr ⟨_, List.mem_map_of_mem hr, he⟩)] at h
  cases h

theorem modelGuardsOk_of_verdict {T : Tables} {G : GTables} {file : Val}
    (h : ∀ b ∈ modelBlocksOf T file, ∀ cls, modelClassOf T b = some cls →
      guardsVerdict T G 0 cls (modelSchema T b) b = 1) : modelGuardsOk T G file = true := by
  unfold modelGuardsOk
  simp only [List.all_eq_true]
  intro b hb
  unfold modelBlockGuardsOk
  split
  · rename_i cls hcls; exact guardsPass_of_verdict (h b hb cls hcls)
  · rfl

theorem oneOf_spec (cs : List GConst) (x : PyS) (o : Sym → PyV) :
    evalGuard (.oneOf cs false) (.s x) o = some true ↔ pyMem x cs = some true := by
  unfold evalGuard
  cases h : pyMem x cs with
  | none => simp [h]
  | some b => cases b <;> simp [h]

theorem allO_total {α} (p : α → Bool) (xs : List α) :
    allO (fun x => some (p x)) xs = some true ↔ ∀ x ∈ xs, p x = true := by
  induction xs with
  | nil => simp [allO]
  | cons x xs ih =>
    unfold allO
    cases hx : p x
    · simp [hx]
    · cases hr : allO (fun x => some (p x)) xs with
      | none =>
        have : ¬ ∀ y ∈ xs, p y = true := fun h => by simp [ih.mpr h] at hr
        simp only [List.mem_cons, forall_eq_or_imp, hx, true_and]
        exact ⟨fun h => by simp at h, fun h => absurd h this⟩
      | some b =>
        cases b
        · have : ¬ ∀ y ∈ xs, p y = true := fun h => by simp [ih.mpr h] at hr
          simp only [List.mem_cons, forall_eq_or_imp, hx, true_and]
          exact ⟨fun h => by simp at h, fun h => absurd h this⟩
        · have h2 := ih.mp hr
          simp only [List.mem_cons, forall_eq_or_imp, hx, true_and]
          exact ⟨fun _ => h2, fun _ => trivial⟩

theorem allO_map {α β} (p : β → Option Bool) (g : α → β) (xs : List α) :
    allO p (xs.map g) = allO (fun x => p (g x)) xs := by
  induction xs with
  | nil => rfl
  | cons x xs ih => simp only [List.map_cons, allO, ih]

theorem allBetween_spec (lo hi : Int) (xs : List (Int × Nat)) (o : Sym → PyV) :
    evalGuard (.allBetween lo hi) (.list (xs.map fun x => .num x.1 x.2 false)) o = some true ↔
      ∀ x ∈ xs, lo * x.2 < x.1 ∧ x.1 < hi * x.2 := by
  unfold evalGuard
  simp only [elems, Option.bind, allO_map, allO_total, decide_eq_true_eq]

theorem checkTopKeys_ok_iff (t : Tables) (file : Val) (kvs : List (Sym × Val)) :
    checkTopKeys t file kvs = .ok () ↔ ∀ kv ∈ kvs, checkTopKey t file kv.1 kv.2 = .ok () := by
  induction kvs with
  | nil => simp [checkTopKeys]
  | cons kv rest ih =>
    obtain ⟨k, v⟩ := kv
    unfold checkTopKeys
    cases h : checkTopKey t file k v with
    | error e => simp [h]
    | ok u => cases u; simp [h, ih]

theorem checkModelBlocks_ok_iff (t : Tables) (bs : List (Sym × Val)) :
    checkModelBlocks t bs = .ok () ↔ ∀ b ∈ bs, checkModelBlock t b.2 = .ok () := by
  induction bs with
  | nil => simp [checkModelBlocks]
  | cons b rest ih =>
    obtain ⟨k, v⟩ := b
    unfold checkModelBlocks
    cases h : checkModelBlock t v with
    | error e => simp [h]
    | ok u => cases u; simp [h, ih]

theorem mergeCheck_ok_iff (t : Tables) (file : Val) :
    mergeCheck t file = .ok () ↔
      ∃ kvs blocks, file = .map kvs ∧ modelBlocks t file = .ok blocks ∧
        (∀ b ∈ blocks, checkModelBlock t b.2 = .ok ()) ∧ (∀ kv ∈ kvs, checkTopKey t file kv.1 kv.2 = .ok ()) := by
  simp only [← checkModelBlocks_ok_iff, ← checkTopKeys_ok_iff]
  unfold mergeCheck
  cases file with
  | map kvs =>
    cases hb : modelBlocks t (.map kvs) with
    | error e => simp
    | ok blocks =>
      cases hm : checkModelBlocks t blocks with
      | error e => simp [hm]
      | ok u => simp [hm]
  | _ => simp

/-- a `List[Any]`-typed field (`training.datasets`, `validation.datasets`, `loss.losses`): OmegaConf appends containers
unchecked and `Any` takes every scalar -/
theorem list_any_unchecked (xs : List Val) : validate (.list .any) (.list xs) = .ok () := by
  have h : ∀ ys : List Val, validateElems .any ys = .ok () := by
    intro ys
    induction ys with
    | nil => simp [validateElems]
    | cons y rest ih =>
      cases y <;> simp [validateElems, validate, Ty.isOptional, Ty.core, validateScalar, ih]
  simp [validate, Ty.core, h]

theorem rawBlockCheck_ok_iff (t : Tables) (b : Val) :
    rawBlockCheck t b = .ok () ↔
      ∃ kvs m, b.get? t.kTransforms = some (.map kvs) ∧ lookup t.kMasking kvs = some m ∧
        maskingCheck t m = .ok () ∧ transformsCheck t (.map kvs) = .ok () := by
  unfold rawBlockCheck
  cases h : b.get? t.kTransforms with
  | none => simp
  | some tr =>
    cases tr with
    | map kvs =>
      simp only
      cases hm : lookup t.kMasking kvs with
      | none => simp [hm]
      | some m =>
        simp only
        cases hc : maskingCheck t m with
        | error e =>
          simp only [reduceCtorEq, false_iff]
          rintro ⟨kvs', m', hk, hm', hc', _⟩
          cases hk; rw [hm] at hm'; cases hm'; rw [hc] at hc'; cases hc'
        | ok u =>
          cases u
          constructor
          · intro ht; exact ⟨kvs, m, rfl, hm, hc, ht⟩
          · rintro ⟨kvs', m', hk, _, _, ht⟩
            cases hk; exact ht
    | _ => simp

end DirectVerif.Config
