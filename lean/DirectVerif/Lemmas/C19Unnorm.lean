import DirectVerif.Lemmas.C19Energy
/-!
# C19 — `ConjGrad` with an un-normalised operator pair

With `normalized=False` the backward operator is `c ·` the adjoint `Fa` of the forward operator, `c = 1/N = d²`.
The block then builds `B = c A†A + λ` and `b = c A† y + λ z`: exactly what it builds for the ADJOINT pair
`(d F, d Fa)` and data `d y`.  So every theorem about the normalised case transfers: the block solves
`(c A†A + λ) x = c A† y + λ z`, i.e. minimises `½(c‖A x − M y‖² + λ‖x − z‖²)`.
-/
open ComplexInnerProductSpace DirectVerif.DataConsistency
open scoped ComplexConjugate

namespace DirectVerif.C19
variable {E : Type*} [NormedAddCommGroup E] [InnerProductSpace ℂ E]
variable {G : Type*} [NormedAddCommGroup G] [InnerProductSpace ℂ G]
variable {F Fa : G →ₗ[ℂ] G} {Ex : E →ₗ[ℂ] G} {R : G →ₗ[ℂ] E} {M : G →ₗ[ℂ] G}

theorem physics_scaled (P : Physics F Fa Ex R M) (d : ℝ) :
    Physics ((d : ℂ) • F) ((d : ℂ) • Fa) Ex R M where
  bwd_adjoint := by
    intro u v
    simp only [LinearMap.smul_apply, inner_smul_left, inner_smul_right, Complex.conj_ofReal, P.bwd_adjoint]
  reduce_adjoint := P.reduce_adjoint
  mask_sa := P.mask_sa
  mask_idem := P.mask_idem

/-- the loop only sees the vector operations, which do not depend on the five operators -/
theorem cgLoop_ops_irrelevant {F₁ Fb₁ F₂ Fb₂ : G →ₗ[ℂ] G} {Ex₁ Ex₂ : E →ₗ[ℂ] G} {R₁ R₂ : G →ₗ[ℂ] E}
    {M₁ M₂ : G →ₗ[ℂ] G} (u : Update) (B : E → E) (stop : ℂ → Bool) (n : ℕ) (s : CGState ℂ E) :
    cgLoop (mathOps F₁ Fb₁ Ex₁ R₁ M₁) u B stop n s = cgLoop (mathOps F₂ Fb₂ Ex₂ R₂ M₂) u B stop n s := by
  induction n generalizing s with
  | zero => rfl
  | succ n ih =>
    have e : cgStep (mathOps F₁ Fb₁ Ex₁ R₁ M₁) u B s = cgStep (mathOps F₂ Fb₂ Ex₂ R₂ M₂) u B s := by
      cases u <;> rfl
    simp only [cgLoop, e, ih]

/-- same `B_op`, same right-hand side, same iterates: `A†` of the first record applied to `w` is `A†` of the second
applied to `d • w` -/
theorem cg_unnormalised (d : ℝ) (u : Update) (n : ℕ) (stop : ℂ → Bool) (lam : ℂ) (x0 z : E) (y : G) :
    cg (mathOps F (((d : ℂ) * (d : ℂ)) • Fa) Ex R M) u n stop lam x0 y z =
      cg (mathOps ((d : ℂ) • F) ((d : ℂ) • Fa) Ex R M) u n stop lam x0 ((d : ℂ) • y) z := by
  set o₁ := mathOps F (((d : ℂ) * (d : ℂ)) • Fa) Ex R M
  set o₂ := mathOps ((d : ℂ) • F) ((d : ℂ) • Fa) Ex R M
  have key : ∀ w : G, aStar o₁ w = aStar o₂ ((d : ℂ) • w) := by
    intro w
    show R ((((d : ℂ) * (d : ℂ)) • Fa) (M w)) = R (((d : ℂ) • Fa) (M ((d : ℂ) • w)))
    simp only [LinearMap.smul_apply, map_smul, smul_smul]
  have hB : bOp o₁ lam = bOp o₂ lam := funext fun x => congrArg (· + lam • x) (key (F (Ex x)))
  have hI : cgInit o₁ lam y z x0 = cgInit o₂ lam ((d : ℂ) • y) z x0 := by
    unfold cgInit rhs
    rw [key y, hB]
    rfl
  unfold cg
  rw [hI, hB]
  exact cgLoop_ops_irrelevant u _ stop n _

end DirectVerif.C19
