import DirectVerif.Model.C07Ties
import DirectVerif.Lemmas.C07
/-!
# C07 — the tie-input model of the equispaced grid generalises the exact one (namespace `DirectVerif.C07`)
-/
namespace DirectVerif.C07
open DirectVerif DirectVerif.MaskBudget

theorem frac_of_den_two (x : ℚ) (h : x.den = 2) : x - x.floor = 1 / 2 := by
  have hx : x = (x.num : ℚ) / 2 := by
    have := Rat.num_div_den x
    rw [h] at this
    exact_mod_cast this.symm
  -- the numerator is odd (the fraction is reduced), and the floor is `num / 2` in ℤ
  have hodd : x.num % 2 = 1 := by
    have hc : Nat.Coprime x.num.natAbs 2 := h ▸ x.reduced
    have : ¬ 2 ∣ x.num.natAbs := fun hd => by simpa using Nat.Coprime.eq_one_of_dvd hc.symm hd
    omega
  have hfl : x.floor = x.num / 2 := by rw [floor_eq, Rat.floor_def', h]; rfl
  have h2 : ((x.num / 2 : ℤ) : ℚ) * 2 = (x.num : ℚ) - 1 := by exact_mod_cast (by omega : x.num / 2 * 2 = x.num - 1)
  rw [hfl]
  linarith

theorem rnd_at_tie (x : ℚ) (h : x.den = 2) :
    roundHalfEven x = x.floor + (if x.floor % 2 ≠ 0 then 1 else 0) := by
  have hf := frac_of_den_two x h
  unfold roundHalfEven
  rw [hf]
  simp only [lt_irrefl, if_false]
  split_ifs <;> omega

/-- **away from exact ties the decisions are irrelevant** -/
theorem equi_ties_irrelevant (N : Int) (a : ℚ) (off : Int) (ups : List Int) (extra : Nat)
    (hlen : exactLen N a off = false) (hties : tieIndices N a off = []) :
    equiPositionsT N a off ups extra = equiPositions N a off := by
  unfold equiPositionsT equiPositions
  simp only [hlen, Bool.false_eq_true, if_false, Nat.add_zero]
  apply List.map_congr_left
  intro j hj
  have : ¬ (gridPoint a off j).den = 2 := by
    intro hd
    have hm : j ∈ tieIndices N a off := by
      unfold tieIndices
      exact List.mem_filter.mpr ⟨hj, by simpa using hd⟩
    rw [hties] at hm
    exact List.not_mem_nil hm
  rw [if_neg this]
  rfl

theorem contains_halfEvenUps (N : Int) (a : ℚ) (off : Int) (j : Nat) (hj : j ∈ List.range (arangeLen off (N - 1) a))
    (hd : (gridPoint a off j).den = 2) :
    (halfEvenUps N a off).contains (j : Int) = decide ((gridPoint a off j).floor % 2 ≠ 0) := by
  rw [List.contains_eq_mem, decide_eq_decide]
  unfold halfEvenUps
  simp only [List.mem_map, List.mem_filter, Bool.and_eq_true, decide_eq_true_eq, Nat.cast_inj, exists_eq_right]
  exact ⟨fun h => h.2.2, fun h => ⟨hj, hd, h⟩⟩

/-- **with the half-even decisions the tie-input model is the exact model** -/
theorem equi_ties_half_even (N : Int) (a : ℚ) (off : Int) :
    equiPositionsT N a off (halfEvenUps N a off) 0 = equiPositions N a off := by
  unfold equiPositionsT equiPositions
  rw [ite_self, Nat.add_zero]
  apply List.map_congr_left
  intro j hj
  by_cases hd : (gridPoint a off j).den = 2
  · rw [if_pos hd, contains_halfEvenUps N a off j hj hd]
    simp only [decide_eq_true_eq]
    exact (rnd_at_tie (gridPoint a off j) hd).symm
  · rw [if_neg hd]
    rfl

/-- exact ties resolved either way: 12 columns, `a = 5/2`, offset 1 — grid `1, 7/2, 6, 17/2` with ties at `j = 1, 3`;
`7/2` goes to 3 (down) or 4 (up; half-even, its floor being odd), `17/2` to 8 (half-even) or 9 -/
example : equiPositionsT 12 (5 / 2) 1 [] 0 = [1, 3, 6, 8] ∧ equiPositionsT 12 (5 / 2) 1 [1, 3] 0 = [1, 4, 6, 9] ∧
    equiPositions 12 (5 / 2) 1 = [1, 4, 6, 8] ∧ halfEvenUps 12 (5 / 2) 1 = [1] := by decide +kernel

end DirectVerif.C07
