import DirectVerif.Lemmas.C16Module
import DirectVerif.Lemmas.C16Events
/-!
# C16 — an optimiser step uses the mean gradient of all accumulated batches

Up to `oom_skip_mid_window`: `Train.iter` / `Train.runRange`, the interpretation of the table the translator regenerates
from `Engine.training_loop` (`Bridge/C16.lean`); model, loss, clipping, optimiser arbitrary (`Ops`), `k = gradient_steps ≥ 1`.
From `between_events_leave_state` on: the machines of `Model/C16Events.lean`.
Finding: a checkpoint does not contain the accumulated gradients, so a resume inside a window loses the window's earlier
part (`resume_mid_window_first_step`, `resume_mid_window_violates`); what holds is `resume_window_boundary_partial`.
-/
namespace DirectVerif.C16
open DirectVerif DirectVerif.Train

variable {P O G B L Sc : Type}

/-- **One optimiser step per window of `k` iterations, on everything accumulated over it**, at the window's parameters
and the learning rate of `last_epoch = s.epoch + k - 1` (`received` = `div_(k)` when `k > 1`, then the optional clipping). -/
theorem accumulated_step (ops : Ops P O G B L Sc) (lrAt : Nat → L) (cfg : Cfg) (batch : Nat → B)
    (s : St P O G Sc) (it0 : Nat) (hk : 0 < cfg.k) (h0 : it0 % cfg.k = 0) :
    runRange ops lrAt cfg batch s it0 cfg.k =
      stepWith ops lrAt cfg s (windowSum ops batch s.theta it0 cfg.k s.grad) (s.epoch + cfg.k) :=
  runRange_first_step ops lrAt cfg batch s it0 0 h0 hk

theorem accumulated_step_sum [AddCommMonoid G] (ops : Ops P O G B L Sc) (hadd : ops.add = (· + ·)) (lrAt : Nat → L)
    (cfg : Cfg) (batch : Nat → B) (s : St P O G Sc) (it0 : Nat) (hk : 0 < cfg.k) (h0 : it0 % cfg.k = 0) (hg : s.grad = 0) :
    runRange ops lrAt cfg batch s it0 cfg.k =
      stepWith ops lrAt cfg s (∑ j ∈ Finset.range cfg.k, ops.grad s.theta (batch (it0 + j))) (s.epoch + cfg.k) := by
  rw [accumulated_step ops lrAt cfg batch s it0 hk h0, windowSum_eq_sum ops hadd, hg, zero_add]

/-- **The optimiser receives the mean of the `k` most recent batches' gradients**, clipped when clipping is on
(gradients in any ℚ-module, `div_(k)` = multiplication by `1/k`). -/
theorem accumulated_step_is_mean [AddCommGroup G] [Module ℚ G]
    (grad : P → B → G) (clip : G → G) (opt : L → P → O → G → P × O) (supd : Sc → Sc)
    (lrAt : Nat → L) (cfg : Cfg) (batch : Nat → B) (s : St P O G Sc) (it0 : Nat)
    (hk : 0 < cfg.k) (h0 : it0 % cfg.k = 0) (hg : s.grad = 0) :
    let mean : G := ((cfg.k : ℚ))⁻¹ • ∑ j ∈ Finset.range cfg.k, grad s.theta (batch (it0 + j))
    let g := if cfg.clipOn then clip mean else mean
    runRange (moduleOps grad clip opt supd : Ops P O G B L Sc) lrAt cfg batch s it0 cfg.k =
      { theta := (opt (lrAt (s.epoch + cfg.k - 1)) s.theta s.ostate g).1,
        ostate := (opt (lrAt (s.epoch + cfg.k - 1)) s.theta s.ostate g).2,
        grad := 0, epoch := s.epoch + cfg.k, scaler := supd s.scaler } := by
  intro mean g
  rw [accumulated_step_sum _ rfl lrAt cfg batch s it0 hk h0 hg, stepWith, received_moduleOps grad clip opt supd cfg hk]
  rfl

/-- **`k = 1`: every batch produces exactly one step with its own gradient** (no division). -/
theorem k1_every_batch_one_step (ops : Ops P O G B L Sc) (lrAt : Nat → L) (cfg : Cfg) (hk : cfg.k = 1)
    (s : St P O G Sc) (it : Nat) (b : B) :
    let g := if cfg.clipOn then ops.clip (ops.add s.grad (ops.grad s.theta b)) else ops.add s.grad (ops.grad s.theta b)
    iter ops lrAt cfg s it b =
      { theta := (ops.opt (lrAt s.epoch) s.theta s.ostate g).1,
        ostate := (ops.opt (lrAt s.epoch) s.theta s.ostate g).2,
        grad := ops.zero, epoch := s.epoch + 1, scaler := ops.supd s.scaler } := by
  intro g
  have h1 : ¬ cfg.k > 1 := by rw [hk]; exact Nat.lt_irrefl 1
  rw [iter_eq, if_pos (by rw [hk]; exact Nat.mod_one _)]
  simp only [stepWith, received, if_neg h1]
  rfl

/-- **The LR schedule advances exactly once per iteration**, step or not; in an uninterrupted run iteration `i`
therefore uses `lrAt i`. -/
theorem lr_advances_once_per_iteration (ops : Ops P O G B L Sc) (lrAt : Nat → L) (cfg : Cfg) (batch : Nat → B)
    (s : St P O G Sc) (it : Nat) (b : B) (a n : Nat) :
    (iter ops lrAt cfg s it b).epoch = s.epoch + 1 ∧
    (runRange ops lrAt cfg batch s a n).epoch = s.epoch + n :=
  ⟨iter_epoch ops lrAt cfg s it b, runRange_epoch ops lrAt cfg batch s a n⟩

/-- **No gradient is dropped or counted twice**, at every moment of every run: `delivered` = the undivided accumulator
at each step (`k ·` the mean), `seen` = the gradient of every `backward` so far. -/
theorem no_gradient_dropped_or_doubled [AddCommMonoid G]
    (grad : P → B → G) (divk : Nat → G → G) (clip : G → G) (opt : L → P → O → G → P × O) (supd : Sc → Sc)
    (lrAt : Nat → L) (cfg : Cfg) (batch : Nat → B) (s : St P O G Sc) (a n : Nat) :
    (delivered (addOps grad divk clip opt supd : Ops P O G B L Sc) lrAt cfg batch s a n).sum
        + (runRange (addOps grad divk clip opt supd : Ops P O G B L Sc) lrAt cfg batch s a n).grad
      = s.grad + (seen (addOps grad divk clip opt supd : Ops P O G B L Sc) lrAt cfg batch s a n).sum := by
  -- `d` delivered so far, `p` pending, `S` seen so far, `g` the new batch gradient
  have step : ∀ d p sg S g : G, d + p = sg + S → (p + g) + d + 0 = sg + (g + S) := fun d p sg S g hh => by
    rw [add_zero, add_comm, ← add_assoc, hh, add_assoc, add_comm S g]
  have nostep : ∀ d p sg S g : G, d + p = sg + S → d + (p + g) = sg + (g + S) := fun d p sg S g hh => by
    rw [← add_assoc, hh, add_assoc, add_comm S g]
  induction n with
  | zero => exact (zero_add s.grad).trans (add_zero s.grad).symm
  | succ n ih =>
    by_cases h : (a + n + 1) % cfg.k = 0
    · rw [delivered_succ, if_pos h, seen_succ, List.sum_cons, List.sum_cons, runRange_succ, iter_eq, if_pos h]
      exact step _ _ _ _ _ ih
    · rw [delivered_succ, if_neg h, seen_succ, List.sum_cons, runRange_succ, iter_eq, if_neg h]
      exact nostep _ _ _ _ _ ih

theorem no_gradient_dropped_or_doubled_whole_windows [AddCommMonoid G]
    (grad : P → B → G) (divk : Nat → G → G) (clip : G → G) (opt : L → P → O → G → P × O) (supd : Sc → Sc)
    (lrAt : Nat → L) (cfg : Cfg) (batch : Nat → B) (s : St P O G Sc) (a m : Nat)
    (h0 : a % cfg.k = 0) (hg : s.grad = 0) :
    (delivered (addOps grad divk clip opt supd : Ops P O G B L Sc) lrAt cfg batch s a (cfg.k * m)).sum
      = (seen (addOps grad divk clip opt supd : Ops P O G B L Sc) lrAt cfg batch s a (cfg.k * m)).sum := by
  have h := no_gradient_dropped_or_doubled grad divk clip opt supd lrAt cfg batch s a (cfg.k * m)
  have hz : (runRange (addOps grad divk clip opt supd : Ops P O G B L Sc) lrAt cfg batch s a (cfg.k * m)).grad = 0 :=
    runRange_grad_zero_of_aligned _ lrAt cfg batch s a m h0 hg
  rwa [hz, add_zero, hg, zero_add] at h

/-- **The whole run is a sequence of mean steps**, window `w` using exactly the batches `it0 + k·w … it0 + k·w + k − 1`. -/
theorem run_is_sequence_of_window_steps (ops : Ops P O G B L Sc) (lrAt : Nat → L) (cfg : Cfg) (batch : Nat → B)
    (s : St P O G Sc) (it0 m : Nat) (hk : 0 < cfg.k) (h0 : it0 % cfg.k = 0) :
    runRange ops lrAt cfg batch s it0 (cfg.k * m) =
      (List.range m).foldl (fun s w =>
        stepWith ops lrAt cfg s (windowSum ops batch s.theta (it0 + cfg.k * w) cfg.k s.grad) (s.epoch + cfg.k)) s := by
  induction m with
  | zero => rfl
  | succ m ih =>
    rw [Nat.mul_succ, runRange_add, ih, List.range_succ, List.foldl_append]
    exact accumulated_step ops lrAt cfg batch _ (it0 + cfg.k * m) hk (add_mul_mod_of_mod_eq_zero h0 m)

/-- **What holds after a resume mid-window** (a checkpoint restores `θ`, optimiser, scheduler, scaler but not `.grad`):
the `r` batches of the window processed before the checkpoint are lost, the divisor stays `k`. -/
theorem resume_mid_window_first_step (ops : Ops P O G B L Sc) (lrAt : Nat → L) (cfg : Cfg) (batch : Nat → B)
    (c : Snap P O Sc) (start r : Nat) (hr : start % cfg.k = r) (hrk : r < cfg.k) :
    runRange ops lrAt cfg batch (restore ops.zero c) start (cfg.k - r) =
      stepWith ops lrAt cfg (restore ops.zero c)
        (windowSum ops batch c.theta start (cfg.k - r) ops.zero) (c.epoch + (cfg.k - r)) :=
  runRange_first_step ops lrAt cfg batch (restore ops.zero c) start r hr hrk

/-- the property as stated fails for a resume mid-window: `k = 2`, gradients `2, 4, …, 16`, lr 1, checkpoint after
iteration 6: `θ = −29` instead of `−36` (batch 6 lost) -/
theorem resume_mid_window_violates :
    let cfg : Cfg := { k := 2 }
    let batch : Nat → Int := fun i => 2 * (i + 1)
    let init : St Int Unit Int Unit := ⟨0, (), 0, 0, ()⟩
    let U := runRange Toy.intOps (fun _ => (1 : Int)) cfg batch init 0
    (runRange Toy.intOps (fun _ => (1 : Int)) cfg batch (restore 0 (snapshot (U 7))) 7 1).theta ≠ (U 8).theta := by
  decide +kernel

/-- the part of "a resumed run equals the uninterrupted one" that does hold: resuming at a window boundary (always
the case for `k = 1`) -/
theorem resume_window_boundary_partial (ops : Ops P O G B L Sc) (lrAt : Nat → L) (cfg : Cfg) (batch : Nat → B)
    (init : St P O G Sc) (t n : Nat) (hb : (t + 1) % cfg.k = 0) :
    runRange ops lrAt cfg batch (restore ops.zero (snapshot (runRange ops lrAt cfg batch init 0 (t + 1)))) (t + 1) n
      = runRange ops lrAt cfg batch init 0 (t + 1 + n) := by
  have hz := runRange_grad_zero ops lrAt cfg batch init 0 (t + 1) (by rw [Nat.zero_add]; exact hb) (Nat.succ_pos t)
  rw [restore_snapshot_self hz, runRange_add ops lrAt cfg batch init 0 (t + 1) n, Nat.zero_add]

/-- the pinned tree (`zero_grad()` after every iteration) violates the property: `k = 2`, gradients 2 then 4, lr 1:
`θ = −2` (only the last batch, halved) instead of `−3` -/
theorem zero_grad_pinned_violates :
    let cfg : Cfg := { k := 2 }
    let batch : Nat → Int := fun i => 2 * (i + 1)
    let init : St Int Unit Int Unit := ⟨0, (), 0, 0, ()⟩
    (runRangeT loopTablePinned Toy.intOps (fun _ => (1 : Int)) cfg batch init 0 2).theta = -2 ∧
    (runRange Toy.intOps (fun _ => (1 : Int)) cfg batch init 0 2).theta = -3 := by
  decide +kernel

/-- **Additional models** (`self.models`, e.g. `sensitivity_model`, which `direct/train.py` puts into the same
optimiser) receive the mean too: the loop divides and clips their gradients as well (`Bridge/C16.lean : div_scope_eq`),
so the gradient space is `G × H`. -/
theorem additional_models_receive_mean {H : Type} [AddCommGroup G] [Module ℚ G] [AddCommGroup H] [Module ℚ H]
    (grad : P → B → G × H) (clip : G × H → G × H) (opt : L → P → O → G × H → P × O) (supd : Sc → Sc)
    (lrAt : Nat → L) (cfg : Cfg) (batch : Nat → B) (s : St P O (G × H) Sc) (it0 : Nat)
    (hk : 0 < cfg.k) (h0 : it0 % cfg.k = 0) (hg : s.grad = 0) :
    let tot : G × H := ∑ j ∈ Finset.range cfg.k, grad s.theta (batch (it0 + j))
    let g0 : G × H := (((cfg.k : ℚ))⁻¹ • tot.1, ((cfg.k : ℚ))⁻¹ • tot.2)
    let g := if cfg.clipOn then clip g0 else g0
    runRange (moduleOps grad clip opt supd : Ops P O (G × H) B L Sc) lrAt cfg batch s it0 cfg.k =
      { theta := (opt (lrAt (s.epoch + cfg.k - 1)) s.theta s.ostate g).1,
        ostate := (opt (lrAt (s.epoch + cfg.k - 1)) s.theta s.ostate g).2,
        grad := 0, epoch := s.epoch + cfg.k, scaler := supd s.scaler } :=
  accumulated_step_is_mean grad clip opt supd lrAt cfg batch s it0 hk h0 hg

/-- the pinned tree divided only `self.model.parameters()`: the additional group received the **sum** -/
theorem additional_models_pinned_receive_sum {H : Type} [AddCommGroup G] [Module ℚ G] [AddCommGroup H] [Module ℚ H]
    (grad : P → B → G × H) (clip : G × H → G × H) (opt : L → P → O → G × H → P × O) (supd : Sc → Sc)
    (lrAt : Nat → L) (cfg : Cfg) (batch : Nat → B) (s : St P O (G × H) Sc) (it0 : Nat)
    (hk : 1 < cfg.k) (h0 : it0 % cfg.k = 0) (hg : s.grad = 0) :
    let tot : G × H := ∑ j ∈ Finset.range cfg.k, grad s.theta (batch (it0 + j))
    let g0 : G × H := (((cfg.k : ℚ))⁻¹ • tot.1, tot.2)
    let g := if cfg.clipOn then clip g0 else g0
    runRange (moduleOps2Pinned grad clip opt supd : Ops P O (G × H) B L Sc) lrAt cfg batch s it0 cfg.k =
      { theta := (opt (lrAt (s.epoch + cfg.k - 1)) s.theta s.ostate g).1,
        ostate := (opt (lrAt (s.epoch + cfg.k - 1)) s.theta s.ostate g).2,
        grad := 0, epoch := s.epoch + cfg.k, scaler := supd s.scaler } := by
  intro tot g0 g
  rw [accumulated_step_sum (moduleOps2Pinned grad clip opt supd : Ops P O (G × H) B L Sc) rfl lrAt cfg batch s it0
    (Nat.lt_of_succ_lt hk) h0 hg, stepWith, received, if_pos hk]
  rfl

/-- regression witness: `k = 2`, gradients 2 then 4 for both groups, lr 1, pinned tree: `−3` (mean) and `−6` (sum) -/
theorem additional_models_pinned_violates :
    let cfg : Cfg := { k := 2 }
    let batch : Nat → Int := fun i => 2 * (i + 1)
    let init : St (Int × Int) Unit (Int × Int) Unit := ⟨(0, 0), (), (0, 0), 0, ()⟩
    (runRange Toy.intOps2Pinned (fun _ => (1 : Int)) cfg batch init 0 2).theta = (-3, -6) := by
  decide +kernel

/-- **Iterations after the last complete window are never applied**: their gradients stay pending in `.grad` (lost
when training ends there), while the schedule advances. -/
theorem trailing_iterations_pending (ops : Ops P O G B L Sc) (lrAt : Nat → L) (cfg : Cfg) (batch : Nat → B)
    (s : St P O G Sc) (it0 m r : Nat) (h0 : it0 % cfg.k = 0) (hr : r < cfg.k) (hg : s.grad = ops.zero) :
    let s' := runRange ops lrAt cfg batch s it0 (cfg.k * m)
    runRange ops lrAt cfg batch s it0 (cfg.k * m + r) =
      { s' with grad := windowSum ops batch s'.theta (it0 + cfg.k * m) r ops.zero, epoch := s'.epoch + r } := by
  intro s'
  have hz : s'.grad = ops.zero := runRange_grad_zero_of_aligned ops lrAt cfg batch s it0 m h0 hg
  rw [runRange_add, runRange_no_boundary ops lrAt cfg batch s' (it0 + cfg.k * m) r
    (fun j hj => mod_window cfg.k (it0 + cfg.k * m) 0 j (add_mul_mod_of_mod_eq_zero h0 m) (by omega)), hz]

/-- **OOM recovery** (`zero_grad(); continue`): the skipped iteration empties the accumulator and does not advance
the schedule -/
theorem oom_skip_state (ops : Ops P O G B L Sc) (s : St P O G Sc) :
    (oomSkip ops s).theta = s.theta ∧ (oomSkip ops s).ostate = s.ostate ∧ (oomSkip ops s).epoch = s.epoch ∧
    (oomSkip ops s).grad = ops.zero := ⟨rfl, rfl, rfl, rfl⟩

/-- … so the schedule lags: iteration `i` runs at `lrAt (i − skips before i)`, not `lrAt i` -/
theorem oom_skip_schedule_lags (ops : Ops P O G B L Sc) (lrAt : Nat → L) (cfg : Cfg) (batch : Nat → B)
    (oom : Nat → Bool) (s : St P O G Sc) (a n : Nat) :
    (runRangeO ops lrAt cfg batch oom s a n).epoch + oomCount oom a n = s.epoch + n := by
  induction n with
  | zero => rfl
  | succ n ih =>
    rw [runRangeO_succ, oomCount]
    cases oom (a + n) with
    | true =>
      rw [if_pos rfl, if_pos rfl]
      show (runRangeO ops lrAt cfg batch oom s a n).epoch + _ = _
      rw [← Nat.add_assoc, ih]; rfl
    | false =>
      rw [if_neg Bool.false_ne_true, if_neg Bool.false_ne_true, iter_epoch]
      omega

/-- … and a skip inside a window loses the window's earlier batches; the divisor stays `k` -/
theorem oom_skip_mid_window (ops : Ops P O G B L Sc) (lrAt : Nat → L) (cfg : Cfg) (batch : Nat → B)
    (s : St P O G Sc) (it0 j : Nat) (h0 : it0 % cfg.k = 0) (hj : j + 1 < cfg.k) :
    let oom : Nat → Bool := fun i => i == it0 + j
    let s1 := oomSkip ops (runRange ops lrAt cfg batch s it0 j)
    runRangeO ops lrAt cfg batch oom s it0 cfg.k =
      stepWith ops lrAt cfg s1 (windowSum ops batch s1.theta (it0 + j + 1) (cfg.k - (j + 1)) ops.zero)
        (s1.epoch + (cfg.k - (j + 1))) := by
  intro oom s1
  have hne : ∀ {i}, i ≠ it0 + j → oom i = false := fun h => beq_eq_false_iff_ne.mpr h
  -- no skip before iteration `it0 + j`, the skip, no skip after it: the rest is a run that starts `j + 1` into a window
  have h1 : runRangeO ops lrAt cfg batch oom s it0 (j + 1) = s1 := by
    rw [runRangeO_succ, if_pos (beq_self_eq_true _), runRangeO_no_oom ops lrAt cfg batch fun i hi => hne (by omega)]
  have hm : (it0 + (j + 1)) % cfg.k = j + 1 := by
    rw [Nat.add_mod, h0, Nat.zero_add, Nat.mod_mod, Nat.mod_eq_of_lt hj]
  have hadd := runRangeO_add ops lrAt cfg batch oom s it0 (j + 1) (cfg.k - (j + 1))
  rw [Nat.add_sub_cancel' (Nat.le_of_lt hj)] at hadd
  rw [hadd, h1, runRangeO_no_oom ops lrAt cfg batch fun i hi => hne (by omega),
    runRange_first_step ops lrAt cfg batch s1 (it0 + (j + 1)) (j + 1) hm hj]
  rfl

/-! ## between iterations: validation rounds, checkpoints, log writes, the kill path, stop and resume

`C16E.history` runs processes of `Engine.train`, interpreting the table of statements touching the trainer state that the
translator regenerates from the functions called between iterations and the prologue of `Engine.train`
(`Bridge/C16.lean : between_table_eq`, `between_table_wf`).  The driver executes the same definitions against the real one. -/

open DirectVerif.C16E in
/-- **Nothing between two iterations touches gradients, optimiser, scheduler or scaler, and `Engine.train` starts
from empty gradients** — whatever the parameters carried when `train()` was entered (a user's backward pass, a previous
`train()` on the same objects that ended inside a window). -/
theorem between_events_leave_state (ops : Ops P O G B L Sc) (lrAt : Nat → L) (tbl : C16E.Table)
    (h : wfBetween tbl = true) (hasVal : Bool) (s : St P O G Sc) :
    (∀ st, st ≠ Site.prologue → site tbl ops lrAt hasVal st s = s) ∧
    site tbl ops lrAt hasVal .prologue s = { s with grad := ops.zero } :=
  ⟨fun _ hst => site_of_wf h hasVal hst s, site_prologue_clears h hasVal s⟩

open DirectVerif.C16E in
/-- **Events do not disturb accumulation**: a process that starts from scratch and is not killed is the plain run of
`num_iterations` loop bodies, whatever `validation_steps`, `checkpoint_steps`, `start_with_validation`, validation data
and stale gradients (`p.stale`); so every theorem above applies to it. -/
theorem events_do_not_disturb_accumulation (ops : Ops P O G B L Sc) (lrAt : Nat → L) (cfg : Cfg) (e : EvCfg)
    (batch : Nat → B) (tbl : C16E.Table) (h : wfBetween tbl = true) (rs : Int → Int → Int) (init : St P O G Sc)
    (hg : init.grad = ops.zero) (p : Proc) (hk : p.kill = none) :
    (runProc tbl rs ops lrAt cfg e batch init none p).s = runRange ops lrAt cfg batch init 0 p.total ∧
    (runProc tbl rs ops lrAt cfg e batch init none p).dead = false := by
  rw [runProc, procStart_fresh h hg (ite_self _)]
  exact runFrom_eq_runRange h rfl (fun j hj => by rw [hk] at hj; cases hj)

open DirectVerif.C16E in
/-- **A window inside a live process still delivers the mean**, whatever validation rounds / checkpoints / log
writes fall inside it. -/
theorem accumulated_step_is_mean_with_events [AddCommGroup G] [Module ℚ G]
    (grad : P → B → G) (clip : G → G) (opt : L → P → O → G → P × O) (supd : Sc → Sc)
    (lrAt : Nat → L) (cfg : Cfg) (e : EvCfg) (batch : Nat → B) (tbl : C16E.Table) (h : wfBetween tbl = true)
    (p : Proc) (ps : PS P O G Sc) (it0 : Nat) (hd : ps.dead = false)
    (hkill : ∀ j, p.kill = some j → j < it0 ∨ it0 + cfg.k ≤ j)
    (hk : 0 < cfg.k) (h0 : it0 % cfg.k = 0) (hg : ps.s.grad = 0) :
    let mean : G := ((cfg.k : ℚ))⁻¹ • ∑ j ∈ Finset.range cfg.k, grad ps.s.theta (batch (it0 + j))
    let g := if cfg.clipOn then clip mean else mean
    (runFrom tbl (moduleOps grad clip opt supd : Ops P O G B L Sc) lrAt cfg e batch p ps it0 cfg.k).s =
      { theta := (opt (lrAt (ps.s.epoch + cfg.k - 1)) ps.s.theta ps.s.ostate g).1,
        ostate := (opt (lrAt (ps.s.epoch + cfg.k - 1)) ps.s.theta ps.s.ostate g).2,
        grad := 0, epoch := ps.s.epoch + cfg.k, scaler := supd ps.s.scaler } := by
  intro mean g
  rw [(runFrom_eq_runRange h hd hkill).1]
  exact accumulated_step_is_mean grad clip opt supd lrAt cfg batch ps.s it0 hk h0 hg

open DirectVerif.C16E in
/-- **The schedule stays in step with the iteration counter across every history of kills, clean stops and resumes**
(also inside windows), given `start_iter = label + 1` (`Bridge/C16.lean : resume_start_eq`): iteration `t` runs at
`lrAt t`, and a checkpoint with label `l` holds `last_epoch = l + 1`. -/
theorem lr_in_step_across_resume (ops : Ops P O G B L Sc) (lrAt : Nat → L) (cfg : Cfg) (e : EvCfg) (batch : Nat → B)
    (tbl : C16E.Table) (h : wfBetween tbl = true) (rs : Int → Int → Int)
    (hrs : ∀ label : Nat, rs (label : Int) (cfg.k : Int) = (label : Int) + 1)
    (init : St P O G Sc) (h0 : init.epoch = 0) (hg0 : init.grad = ops.zero) (procs : List Proc) :
    ∀ ps ∈ history tbl rs ops lrAt cfg e batch init none procs,
      (∀ r ∈ ps.recs, r.epochBefore = r.it ∧ r.epochAfter = r.it + 1) ∧
      (∀ lab c, ps.latest = some (lab, c) → c.epoch = lab + 1) :=
  fun ps hps => by
    obtain ⟨p, _, hi⟩ := history_inv (legit_epoch h0 hg0) h hrs procs (fun _ _ hl => by cases hl)
      (fun _ _ => trivial) ps hps
    exact ⟨hi.recs, fun lab c hl => by obtain ⟨u, hu, rfl⟩ := hi.latest lab c hl; exact hu⟩

open DirectVerif.C16E in
/-- **The scheduler has advanced exactly `num_iterations` times when training ends**, whichever checkpoint the
process resumed from; `LatestOK` is what `lr_in_step_across_resume` gives for every checkpoint of a history. -/
theorem scheduler_steps_eq_iterations (ops : Ops P O G B L Sc) (lrAt : Nat → L) (cfg : Cfg) (e : EvCfg) (batch : Nat → B)
    (tbl : C16E.Table) (h : wfBetween tbl = true) (rs : Int → Int → Int)
    (hrs : ∀ label : Nat, rs (label : Int) (cfg.k : Int) = (label : Int) + 1)
    (init : St P O G Sc) (h0 : init.epoch = 0) (hg0 : init.grad = ops.zero)
    (latest : Option (Nat × Snap P O Sc)) (hl : LatestOK latest) (p : Proc) :
    let ps := runProc tbl rs ops lrAt cfg e batch init latest p
    ps.dead = false → ps.start ≤ p.total → ps.s.epoch = p.total := by
  intro ps hd hle
  rw [(runProc_inv (legit_epoch h0 hg0) h hrs (fun lab c hc => ⟨restore ops.zero c, hl lab c hc, rfl⟩) p trivial).st hd,
    Nat.add_sub_cancel' hle]

open DirectVerif.C16E in
/-- **Histories that only ever resume at window boundaries reproduce the uninterrupted run** (generalises
`resume_window_boundary_partial` to any number of kills / clean stops / resumes, with events anywhere).  Resumes inside a
window are the known finding (`resume_mid_window_first_step`). -/
theorem resume_at_boundaries_eq_uninterrupted (ops : Ops P O G B L Sc) (lrAt : Nat → L) (cfg : Cfg) (e : EvCfg)
    (batch : Nat → B) (tbl : C16E.Table) (h : wfBetween tbl = true) (rs : Int → Int → Int)
    (hrs : ∀ label : Nat, rs (label : Int) (cfg.k : Int) = (label : Int) + 1)
    (init : St P O G Sc) (h0 : init.epoch = 0) (hg0 : init.grad = ops.zero) (procs : List Proc)
    (hal : ∀ ps ∈ history tbl rs ops lrAt cfg e batch init none procs, ps.start % cfg.k = 0) :
    ∀ ps ∈ history tbl rs ops lrAt cfg e batch init none procs,
      ps.dead = false → ps.s = runRange ops lrAt cfg batch init 0 ps.s.epoch :=
  fun ps hps hd => by
    have hR := legit_run (lrAt := lrAt) (cfg := cfg) (batch := batch) h0 hg0
    obtain ⟨p, _, hi⟩ := history_inv hR h hrs procs (fun _ _ hl => by cases hl) hal ps hps
    have hs := hi.st hd
    rw [hR.epoch _ ps.s hs]
    exact hs

/-- regression witness (seeded C16-5): `optimizer.zero_grad()` at the top of a validation round.  `k = 2`,
`validation_steps = 3`, 8 iterations: the round after iteration 6 falls inside the window {6, 7} and drops batch 6 -/
theorem validate_zero_grad_violates :
    let cfg : Cfg := { k := 2 }
    let e : C16E.EvCfg := { ckSteps := 1000000, valSteps := 3, hasVal := true }
    let batch : Nat → Int := fun i => 2 * (i + 1)
    let init : St Int Unit Int Unit := ⟨0, (), 0, 0, ()⟩
    let p : C16E.Proc := { total := 8, kill := none, swv := false, resume := false }
    (C16E.runProc C16E.tableValZero C16E.resumeStart Toy.intOps (fun _ => (1 : Int)) cfg e batch init none p).s.theta = -29 ∧
    (C16E.runProc C16E.table C16E.resumeStart Toy.intOps (fun _ => (1 : Int)) cfg e batch init none p).s.theta = -36 ∧
    -- without validation data the early return hides the statement
    (C16E.runProc C16E.tableValZero C16E.resumeStart Toy.intOps (fun _ => (1 : Int)) cfg { e with hasVal := false } batch init
      none p).s.theta = -36 := by
  decide +kernel

/-- regression witness (seeded C16-8): without the prologue's `optimizer.zero_grad()` a gradient that sits on the
parameters when `train()` is entered (here 20) leaks into the first optimiser step -/
theorem stale_gradients_leak_violates :
    let cfg : Cfg := { k := 2 }
    let e : C16E.EvCfg := { ckSteps := 1000000, valSteps := 1000000, hasVal := false }
    let batch : Nat → Int := fun i => 2 * (i + 1)
    let init : St Int Unit Int Unit := ⟨0, (), 0, 0, ()⟩
    let p : C16E.Proc := { total := 2, kill := none, swv := false, resume := false, stale := some 9 }
    (C16E.runProc C16E.tableNoPrologue C16E.resumeStart Toy.intOps (fun _ => (1 : Int)) cfg e batch init none p).s.theta = -13 ∧
    (C16E.runProc C16E.table C16E.resumeStart Toy.intOps (fun _ => (1 : Int)) cfg e batch init none p).s.theta = -3 ∧
    C16E.wfBetween C16E.tableNoPrologue = false := by
  decide +kernel

/-- regression witness (seeded C16-6): `start_iter -= start_iter % gradient_steps` without rewinding the restored
scheduler: after a clean stop with label 6 the resumed process runs iteration 6 a second time, at `last_epoch = 7` -/
theorem resume_rewind_violates :
    let cfg : Cfg := { k := 2 }
    let e : C16E.EvCfg := { ckSteps := 1000000, valSteps := 1000000, hasVal := false }
    let batch : Nat → Int := fun i => 2 * (i + 1)
    let init : St Int Unit Int Unit := ⟨0, (), 0, 0, ()⟩
    let procs : List C16E.Proc := [{ total := 7, kill := none, swv := false, resume := true },
                                   { total := 10, kill := none, swv := false, resume := true }]
    let H := fun rs => (C16E.history C16E.table rs Toy.intOps (fun _ => (1 : Int)) cfg e batch init none procs).map
      fun ps => (ps.start, ps.s.epoch, ps.recs.map fun r => (r.it, r.epochBefore))
    H C16E.resumeStartRewind = [(0, 7, [(0, 0), (1, 1), (2, 2), (3, 3), (4, 4), (5, 5), (6, 6)]),
                                (6, 11, [(6, 7), (7, 8), (8, 9), (9, 10)])] ∧
    H C16E.resumeStart = [(0, 7, [(0, 0), (1, 1), (2, 2), (3, 3), (4, 4), (5, 5), (6, 6)]),
                          (7, 10, [(7, 7), (8, 8), (9, 9)])] := by
  decide +kernel

/-- **One `clip_grad_norm_` call over the union = clipping the concatenated gradient against its global norm** (the
`clip` of `additional_models_receive_mean`; `Bridge/C16.lean : clip_form_eq`) -/
theorem clip_one_call_is_global (c : Int) (mods : List (List Int)) :
    (C16E.clipModules C16E.clipForm c mods).flatten = C16E.clip1 c mods.flatten := by
  simp only [C16E.clipModules, C16E.clipForm, C16E.clip1]
  split
  · rfl
  · simp only [C16E.scaleTo, List.map_flatten]; rfl

/-- regression witness (seeded C16-7): one call per module clips every module against its *own* norm (L1, threshold
4); only the global clip keeps the direction -/
theorem clip_per_module_violates :
    C16E.clipModules .oneCallUnion 4 [[6], [2]] = [[3], [1]] ∧ C16E.clipModules .perModule 4 [[6], [2]] = [[4], [2]] ∧
    C16E.clipModules .mainOnly 4 [[6], [2]] = [[4], [2]] := by
  decide +kernel

/-- **A parameter that receives no gradient in a window is not touched by the step**: every `zero_grad` form of the
loop body (`Bridge/C16.lean : zero_forms_wf`) leaves `None`, which the optimiser skips whatever the momentum buffer holds. -/
theorem idle_parameter_skipped (forms : List C16E.ZeroForm) (h : C16E.wfZero forms = true) (lr θ buf : Int) :
    ∀ f ∈ forms, C16E.momStep lr θ buf (C16E.idleGrad f) = (θ, buf) := by
  intro f hf
  have : f = .toNone := by
    simp only [C16E.wfZero, Bool.and_eq_true, List.all_eq_true, beq_iff_eq] at h
    exact h.1 f hf
  subst this; rfl

/-- regression witness (seeded C16-11): `zero_grad(set_to_none=False)`: a zero gradient moves an idle parameter with
momentum buffer 4 -/
theorem zero_grad_to_zero_violates :
    C16E.momStep 1 10 4 (C16E.idleGrad .toNone) = (10, 4) ∧ C16E.momStep 1 10 4 (C16E.idleGrad .toZero) = (8, 2) ∧
    C16E.wfZero [.toNone, .toZero] = false := by decide

/-- `unscale_` = multiplication by `1/S` -/
def ampModuleOps [AddCommGroup G] [Module ℚ G] (clip : G → G) (grow : ℚ → ℚ) : C16E.AmpOps G ℚ :=
  { unscale := fun S g => S⁻¹ • g, divk := fun k g => ((k : ℚ))⁻¹ • g, clip := clip, grow := grow }

/-- **Under an enabled GradScaler the optimiser still receives the (clipped) mean**: `.grad` holds `S • a`, `S ≠ 0`
the current scale; clipping sees unscaled gradients, there is no double-`unscale_` error, and `update()` re-arms the scaler. -/
theorem amp_delivers_unscaled_mean [AddCommGroup G] [Module ℚ G] (clip : G → G) (grow : ℚ → ℚ)
    (cfg : Cfg) (it : Nat) (hs : (it + 1) % cfg.k = 0) (S : ℚ) (hS : S ≠ 0) (a : G) :
    let g0 : G := if cfg.k > 1 then ((cfg.k : ℚ))⁻¹ • a else a
    let r := C16E.ampRun C16E.ampTable (ampModuleOps clip grow) cfg it
      { grad := S • a, scale := S, unscaled := false, delivered := none, error := false }
    r.delivered = some (if cfg.clipOn then clip g0 else g0) ∧ r.error = false ∧ r.unscaled = false ∧ r.scale = grow S := by
  intro g0 r
  -- dividing by `k` and unscaling commute, and the scale cancels
  have hu : S⁻¹ • (if cfg.k > 1 then ((cfg.k : ℚ))⁻¹ • S • a else S • a) = g0 := by
    by_cases hk : cfg.k > 1
    · simp only [g0, if_pos hk]; rw [smul_comm S⁻¹, inv_smul_smul₀ hS]
    · simp only [g0, if_neg hk]; exact inv_smul_smul₀ hS a
  have hr : r = { grad := if cfg.clipOn then clip g0 else g0, scale := grow S,
                  delivered := some (if cfg.clipOn then clip g0 else g0) } := by
    rw [← hu]; exact C16E.ampRun_step (ampModuleOps clip grow) cfg it hs (S • a) S
  rw [hr]
  exact ⟨rfl, rfl, rfl, rfl⟩

/-- regression witnesses: clipping before `unscale_` clips the *scaled* gradient (scale 8, gradient 3, clip at 4);
`optimizer.step()` behind the scaler's back steps on the scaled gradient -/
theorem amp_order_violations :
    let cfg : Cfg := { k := 1, clipOn := true }
    let s0 : C16E.AmpSt Int Int := { grad := 24, scale := 8 }
    (C16E.ampRun C16E.ampTable C16E.intAmp cfg 0 s0).delivered = some 3 ∧
    (C16E.ampRun C16E.ampTableClipFirst C16E.intAmp cfg 0 s0).delivered = some 0 ∧
    (C16E.ampRun C16E.ampTableDirect C16E.intAmp { k := 1 } 0 s0).delivered = some 24 ∧
    C16E.wfAmp C16E.ampTableClipFirst = false ∧ C16E.wfAmp C16E.ampTableDirect = false := by
  decide +kernel

/-! ## non-vacuity -/

example : (runRange Toy.intOps (fun _ => (1 : Int)) { k := 3 } (fun i => 3 * (i + 1))
    (⟨0, (), 0, 0, ()⟩ : St Int Unit Int Unit) 0 6).theta = -(2 + 5) * 3 := by decide +kernel

example : (0 : Nat) % ({ k := 3 } : Cfg).k = 0 ∧ 0 < ({ k := 3 } : Cfg).k := by decide

example : delivered Toy.intOps (fun _ => (1 : Int)) { k := 2 } (fun i => 2 * (i + 1))
    (⟨0, (), 0, 0, ()⟩ : St Int Unit Int Unit) 0 5 = [14, 6] ∧
  seen Toy.intOps (fun _ => (1 : Int)) { k := 2 } (fun i => 2 * (i + 1))
    (⟨0, (), 0, 0, ()⟩ : St Int Unit Int Unit) 0 5 = [10, 8, 6, 4, 2] := by decide +kernel

example : C16E.wfBetween C16E.table = true ∧ C16E.wfBetween C16E.tableValZero = false := by decide

example : C16E.wfAmp C16E.ampTable = true := by decide +kernel

/-- the alignment hypothesis of `resume_at_boundaries_eq_uninterrupted` is satisfiable with a kill and a clean stop -/
example : ((C16E.history C16E.table C16E.resumeStart Toy.intOps (fun _ => (1 : Int)) { k := 2 }
      { ckSteps := 3, valSteps := 3, hasVal := true } (fun i => 2 * ((i : Int) + 1)) (⟨0, (), 0, 0, ()⟩ : St Int Unit Int Unit) none
      [{ total := 12, kill := some 6, swv := false, resume := true }, { total := 10, kill := none, swv := true, resume := true },
       { total := 12, kill := none, swv := false, resume := true }]).map fun ps => (ps.start, ps.dead, ps.s.theta))
    = [(0, true, -21), (6, false, -55), (10, false, -78)] := by decide +kernel

example : ∀ label : Nat, C16E.resumeStart (label : Int) ((2 : Nat) : Int) = (label : Int) + 1 := fun _ => rfl

end DirectVerif.C16
