import DirectVerif.Lemmas.C17Nets
/-!
C17: minimum sizes — characterisations and "fails below the minimum (never a wrong size)" for the 3-D U-Nets, the
Norm-U-Nets, DUB / DIDN, MWCNN and the instance-normalised Conv2dGRU.
-/
namespace DirectVerif.C17L
open DirectVerif.Shapes

theorem padPow2_ge (L n : Nat) : 2 ^ L ≤ padPow2 L n := by
  simp only [padPow2]; split <;> omega

section
open SRun
variable {s : Shape}

theorem unet3d_fail (L : Nat) (k : List Shape) (h : ¬ UAdm L (s.map (padPow2 L))) : SFail (unet3d UnetP.std L) s k :=
  have hpos : Pos (s.map (padPow2 L)) := fun m hm => by
    obtain ⟨n, _, rfl⟩ := List.mem_map.mp hm
    exact Nat.le_trans (Nat.two_pow_pos L) (padPow2_ge L n)
  ((padPow2_step L).append_fail (unet_fail L _ hpos h)).append_right

end

theorem numel_pos {s : Shape} (h : Pos s) : 1 ≤ numel s := by
  induction s with
  | nil => simp [numel]
  | cons a s ih =>
    simp only [numel]
    have ha := h a (by simp)
    have := ih fun n hn => h n (by simp [hn])
    exact Nat.mul_le_mul ha this

/-- closed form: every axis is at least `2^L` and the bottleneck `(n / 2^L)` has more than one element -/
theorem UAdm_iff (L : Nat) : ∀ s : Shape, UAdm L s ↔ (∀ n ∈ s, 2 ^ L ≤ n) ∧ 1 < numel (s.map (· / 2 ^ L)) := by
  induction L with
  | zero =>
    intro s
    simp only [UAdm, Pos, Nat.pow_zero, Nat.div_one]
    rw [show (fun x : Nat => x) = id from rfl, List.map_id]
  | succ L ih =>
    intro s
    simp only [UAdm]
    rw [ih, List.map_map]
    have e : ((fun x => x / 2 ^ L) ∘ fun x => x / 2) = fun x : Nat => x / 2 ^ (L + 1) := by
      funext x
      simp only [Function.comp, Nat.div_div_eq_div_mul, Nat.pow_succ, Nat.mul_comm]
    rw [e]
    constructor
    · rintro ⟨h2, hL, hn⟩
      refine ⟨fun n hn' => ?_, hn⟩
      have := hL (n / 2) (List.mem_map.mpr ⟨n, hn', rfl⟩)
      rw [Nat.pow_succ]; omega
    · rintro ⟨hL, hn⟩
      refine ⟨fun n hn' => ?_, fun m hm => ?_, hn⟩
      · have := hL n hn'
        have : 1 ≤ 2 ^ L := Nat.one_le_two_pow
        rw [Nat.pow_succ] at *; omega
      · obtain ⟨n, hn', rfl⟩ := List.mem_map.mp hm
        have := hL n hn'
        rw [Nat.pow_succ] at this; omega

theorem numel_gt_one_iff {s : Shape} (hs : Pos s) : 1 < numel s ↔ ∃ n ∈ s, 2 ≤ n := by
  induction s with
  | nil => simp [numel]
  | cons a s ih =>
    have ha := hs a (by simp)
    have hs' : Pos s := fun n hn => hs n (by simp [hn])
    have hp := numel_pos hs'
    simp only [numel, List.mem_cons, exists_eq_or_imp]
    constructor
    · intro h
      by_cases h2 : 2 ≤ a
      · exact Or.inl h2
      · have : a = 1 := by omega
        subst this
        rw [Nat.one_mul] at h
        exact Or.inr ((ih hs').mp h)
    · rintro (h | h)
      · calc 1 < 2 * 1 := by decide
          _ ≤ a * numel s := Nat.mul_le_mul h hp
      · have := (ih hs').mpr h
        calc 1 < 1 * numel s := by omega
          _ ≤ a * numel s := Nat.mul_le_mul ha (Nat.le_refl _)

theorem exists_mem_map {f : Nat → Nat} {s : Shape} {P : Nat → Prop} : (∃ m ∈ s.map f, P m) ↔ ∃ n ∈ s, P (f n) :=
  ⟨fun ⟨_, hm, h⟩ => let ⟨n, hn, e⟩ := List.mem_map.mp hm; ⟨n, hn, e ▸ h⟩, fun ⟨n, hn, h⟩ => ⟨_, List.mem_map.mpr ⟨n, hn, rfl⟩, h⟩⟩

/-- once every axis reaches `2^L` the bottleneck quotients are positive, and the bottleneck has more than one element
exactly when some axis reaches `2^(L+1)` -/
theorem UAdm_iff_of_ge {L : Nat} {s : Shape} (hge : ∀ n ∈ s, 2 ^ L ≤ n) : UAdm L s ↔ ∃ n ∈ s, 2 ^ (L + 1) ≤ n := by
  have hpos : 0 < 2 ^ L := Nat.two_pow_pos L
  have hq : Pos (s.map (· / 2 ^ L)) := by
    intro n hn
    obtain ⟨m, hm, rfl⟩ := List.mem_map.mp hn
    exact (Nat.le_div_iff_mul_le hpos).mpr (by simpa using hge m hm)
  rw [UAdm_iff, numel_gt_one_iff hq, Nat.pow_succ', exists_mem_map]
  simp only [Nat.le_div_iff_mul_le hpos]
  exact ⟨fun h => h.2, fun h => ⟨hge, h⟩⟩

/-! ## DUB / DIDN below the minimum: the reflect pad of a length-1 axis raises -/

section
open SRun
variable {s : Shape}

theorem dubWith_fail (em : List Op) (k : List Shape) (h : ∃ n ∈ s, n = 1) : SFail (dubWith DidnP.std em) s k := by
  -- `simp only [List.cons_append]` brings the first operations to the front of the left-nested appends (`rfl` would re-evaluate
  -- the inner appends at every level)
  obtain ⟨q, e⟩ : ∃ q, dubWith DidnP.std em = .push :: .padEven :: q := by
    unfold dubWith
    simp only [List.cons_append]
    exact ⟨_, rfl⟩
  rw [e]
  exact cons_fail push (.padEven h)

end

theorem gruLayers_instnorm_fails (repl : Bool) (m : Nat) (s : Shape) (stk tr) (hs : Pos s) (h1 : ¬ 1 < numel s) :
    run (gruLayers repl true (m + 1)) ⟨s, stk, tr⟩ = .error .value := by
  induction m with
  | zero =>
    obtain ⟨tr1, e1⟩ := gruBlock_keeps repl 0 s stk hs tr
    simp only [gruLayers, gruGate, if_true, List.nil_append, List.append_assoc, List.cons_append]
    rw [run_append_ok e1, run_cons_ok (s1 := ⟨s, stk, tr1 ++ [s]⟩) rfl]
    exact run_cons_err (by simp [step, h1])
  | succ m ih =>
    rw [gruLayers]
    simp only [List.append_assoc]
    exact run_append_err ih

section
open SRun

theorem mwBelow_fail (r : Nat) : ∀ {t : Shape} (k : List Shape), (∀ n ∈ t, n % 2 = 0 ∧ 2 ≤ n) →
    (∃ n ∈ t, belowOk r n = false) → SFail (mwBelow MwP.std r) t (t :: k) := by
  induction r with
  | zero =>
    intro t k H ⟨n, hn, hf⟩
    rw [(belowOk_zero n).mpr (H n hn)] at hf
    cases hf
  | succ r ih =>
    intro t k H ⟨n, hn, hf⟩
    have hd : Pos (t.map (· / 2)) := fun m hm => by
      obtain ⟨n, hn, rfl⟩ := List.mem_map.mp hm
      have := H n hn; omega
    have pre := (cons (dwt fun n hn => (H n hn).1) emit).append (k := t :: k) (mwDown_keeps 2 1 _ _ hd)
    rw [mwBelow]
    by_cases hpe : ∀ n ∈ t, n / 2 % 2 = 0 ∨ 2 ≤ n / 2
    · have hpe' : ∀ m ∈ t.map (· / 2), m % 2 = 0 ∨ 2 ≤ m := fun m hm => by
        obtain ⟨n, hn, rfl⟩ := List.mem_map.mp hm
        exact hpe n hn
      have hp2 : ∀ m ∈ (t.map (· / 2)).map padEvenOut, m % 2 = 0 ∧ 2 ≤ m := fun m hm => by
        obtain ⟨d, hd', rfl⟩ := List.mem_map.mp hm
        have := hd d hd'
        simp only [padEvenOut]; omega
      have hb : belowOk r (padEvenOut (n / 2)) = false := Bool.eq_false_iff.mpr fun hb =>
        Bool.eq_false_iff.mp hf ((belowOk_succ r n).mpr ⟨H n hn, hpe n hn, hb⟩)
      exact ((pre.append (cons emit (cons (padEven hpe') push))).append_fail
        (ih _ hp2 ⟨_, List.mem_map.mpr ⟨_, List.mem_map.mpr ⟨n, hn, rfl⟩, rfl⟩, hb⟩)).append_right.append_right
    · have : ∃ m ∈ t.map (· / 2), m = 1 := by
        have : ∃ n ∈ t, ¬ (n / 2 % 2 = 0 ∨ 2 ≤ n / 2) := by simpa using hpe
        obtain ⟨m, hm, h⟩ := this
        exact ⟨m / 2, List.mem_map.mpr ⟨m, hm, rfl⟩, by have := H m hm; omega⟩
      exact (pre.append_fail (cons_fail emit (.padEven this))).append_right.append_right.append_right

/-- a non-admissible axis makes `MWCNN` raise: in its first reflect pad (an axis of length 1) or in a pad further down -/
theorem mwcnn_fail (S : Nat) {x : Shape} (k : List Shape) (hs : Pos x) (h : ∃ n ∈ x, mwAxisOk S n = false) :
    SFail (mwcnn MwP.std S) x k := by
  obtain ⟨n, hn, hf⟩ := h
  match S with
  | 0 => cases hf
  | S + 1 =>
    by_cases hpe : ∀ n ∈ x, n % 2 = 0 ∨ 2 ≤ n
    · match S with
      | 0 =>
        rw [(mwAxisOk_one n).mpr ⟨hs n hn, hpe n hn⟩] at hf
        cases hf
      | S + 1 =>
        have he : Pos (x.map padEvenOut) := hs.padEven
        have hev : ∀ m ∈ x.map padEvenOut, m % 2 = 0 ∧ 2 ≤ m := fun m hm => by
          obtain ⟨n, hn, rfl⟩ := List.mem_map.mp hm
          have := hs n hn
          simp only [padEvenOut]; omega
        have hb : belowOk S (padEvenOut n) = false := Bool.eq_false_iff.mpr fun hb =>
          Bool.eq_false_iff.mp hf ((mwAxisOk_succ_succ S n).mpr ⟨hs n hn, hpe n hn, hb⟩)
        rw [mwcnn]
        exact (((cons push (padEven hpe)).append (mwDown_keeps 2 1 _ _ he)
          |>.append (cons emit (cons (padEven_even fun m hm => (hev m hm).1) push))).append_fail
          (mwBelow_fail S _ hev ⟨_, List.mem_map.mpr ⟨n, hn, rfl⟩, hb⟩)).append_right.append_right
    · have : ∃ n ∈ x, n = 1 := by
        have : ∃ n ∈ x, ¬ (n % 2 = 0 ∨ 2 ≤ n) := by simpa using hpe
        obtain ⟨m, hm, h⟩ := this
        exact ⟨m, hm, by have := hs m hm; omega⟩
      cases S <;> exact cons_fail push (.padEven this)

end

end DirectVerif.C17L
