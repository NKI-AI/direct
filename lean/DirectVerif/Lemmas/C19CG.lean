import DirectVerif.Lemmas.C19Ops
/-!
The loop invariant of `ConjGrad.cg` in exact arithmetic.  For `B` self-adjoint positive definite the loop body `cgStep`
(with the code's own coefficients `ak = <r,r>/<r,Bp>`, FR `bk = <r',r'>/<r,r>`, PRP `bk = <r', r'-r>/<r,r>`, and
`0/0 = 0`) preserves `r = b − B x`, `rr = <r,r>` (the cached norm), `<p,r> = <r,r>`, `<r,Bp> = <p,Bp>`.  From these:
consecutive residuals are orthogonal, consecutive directions are `B`-conjugate, PRP coincides with FR.
-/
open ComplexInnerProductSpace DirectVerif.DataConsistency
open scoped ComplexConjugate

namespace DirectVerif.C19
variable {E : Type*} [NormedAddCommGroup E] [InnerProductSpace ℂ E]
variable {G : Type*} [NormedAddCommGroup G] [InnerProductSpace ℂ G]

section CG
variable {F Fb : G →ₗ[ℂ] G} {Ex : E →ₗ[ℂ] G} {R : G →ₗ[ℂ] E} {M : G →ₗ[ℂ] G}
variable (B : E →ₗ[ℂ] E) (b : E)

local notation "𝒪" => mathOps F Fb Ex R M

structure CGInv (s : CGState ℂ E) : Prop where
  res : s.r = b - B s.x
  rr : s.rr = ⟪s.r, s.r⟫
  pr : ⟪s.p, s.r⟫ = ⟪s.r, s.r⟫
  cj : ⟪s.r, B s.p⟫ = ⟪s.p, B s.p⟫

/-- `ak = rk_norm_sq_old / <rk_old, B pk>` -/
noncomputable def alpha (s : CGState ℂ E) : ℂ := s.rr / ⟪s.r, B s.p⟫

theorem cgStep_x (u : Update) (s : CGState ℂ E) :
    (cgStep 𝒪 u B s).x = s.x + alpha B s • s.p := rfl
theorem cgStep_r (u : Update) (s : CGState ℂ E) :
    (cgStep 𝒪 u B s).r = s.r - alpha B s • B s.p := rfl
theorem cgStep_rr (u : Update) (s : CGState ℂ E) :
    (cgStep 𝒪 u B s).rr = ⟪(cgStep 𝒪 u B s).r, (cgStep 𝒪 u B s).r⟫ := rfl
theorem cgStep_p (u : Update) (s : CGState ℂ E) :
    (cgStep 𝒪 u B s).p = (cgStep 𝒪 u B s).r +
      beta 𝒪 u (cgStep 𝒪 u B s).r s.r s.p (cgStep 𝒪 u B s).rr s.rr • s.p := rfl
theorem beta_FR (rN rO p : E) (a c : ℂ) : beta 𝒪 .FR rN rO p a c = a / c := rfl
theorem beta_PRP (rN rO p : E) (a c : ℂ) :
    beta 𝒪 .PRP rN rO p a c = ⟪rN, rN - rO⟫ / ⟪rO, rO⟫ := rfl

theorem beta_DY (rN rO p : E) (a c : ℂ) :
    beta 𝒪 .DY rN rO p a c = ⟪rN, rN⟫ / ⟪p, rN - rO⟫ := rfl
theorem beta_BAN (rN rO p : E) (a c : ℂ) :
    beta 𝒪 .BAN rN rO p a c = ⟪rN, rN - rO⟫ / ⟪rO, rN - rO⟫ := rfl

variable {B b}

theorem CGInv.p_eq_zero (hB : SPD B) {s : CGState ℂ E} (h : CGInv B b s) (hr : s.r = 0) :
    s.p = 0 := by
  apply hB.eq_zero
  rw [← h.cj, hr, inner_zero_left]

/-- including the guarded `0/0` case -/
theorem CGInv.alpha_mul (hB : SPD B) {s : CGState ℂ E} (h : CGInv B b s) :
    alpha B s * ⟪s.r, B s.p⟫ = ⟪s.r, s.r⟫ := by
  unfold alpha
  by_cases hd : ⟪s.r, B s.p⟫ = 0
  · have hp : s.p = 0 := hB.eq_zero _ (by rw [← h.cj, hd])
    have : ⟪s.r, s.r⟫ = 0 := by rw [← h.pr, hp, inner_zero_left]
    rw [hd, this]; simp
  · rw [h.rr, div_mul_cancel₀ _ hd]

theorem CGInv.alpha_real (hB : SPD B) {s : CGState ℂ E} (h : CGInv B b s) :
    conj (alpha B s) = alpha B s := by
  unfold alpha
  rw [map_div₀, h.rr, h.cj, hB.inner_self_real, inner_conj_symm]

theorem cg_r_orth_next (hB : SPD B) (u : Update) {s : CGState ℂ E} (h : CGInv B b s) :
    ⟪(cgStep 𝒪 u B s).r, s.r⟫ = 0 := by
  rw [cgStep_r, inner_eq_zero_symm, inner_sub_right, inner_smul_right, h.alpha_mul hB, sub_self]

theorem cg_p_orth_next (hB : SPD B) (u : Update) {s : CGState ℂ E} (h : CGInv B b s) :
    ⟪s.p, (cgStep 𝒪 u B s).r⟫ = 0 := by
  rw [cgStep_r, inner_sub_right, inner_smul_right, h.pr, ← h.cj, h.alpha_mul hB, sub_self]

theorem beta_prp_eq_fr (hB : SPD B) {s : CGState ℂ E} (h : CGInv B b s) :
    beta 𝒪 .PRP (cgStep 𝒪 .PRP B s).r s.r s.p (cgStep 𝒪 .PRP B s).rr s.rr =
      beta 𝒪 .FR (cgStep 𝒪 .FR B s).r s.r s.p (cgStep 𝒪 .FR B s).rr s.rr := by
  rw [beta_PRP, beta_FR, inner_sub_right, cg_r_orth_next hB .PRP h, sub_zero, cgStep_rr,
    h.rr]
  rfl

theorem prp_eq_fr (hB : SPD B) {s : CGState ℂ E} (h : CGInv B b s) :
    cgStep 𝒪 .PRP B s = cgStep 𝒪 .FR B s := by
  -- `x`, `r`, `rr` do not depend on the update type; `p` does, through `bk` only
  have hp : (cgStep 𝒪 .PRP B s).p = (cgStep 𝒪 .FR B s).p := by
    rw [cgStep_p, cgStep_p, beta_prp_eq_fr hB h]
    rfl
  exact CGState.ext_fields rfl rfl hp rfl

theorem cgStep_eq_fr (hB : SPD B) (u : Update) (hu : u = .FR ∨ u = .PRP) {s : CGState ℂ E} (h : CGInv B b s) :
    cgStep 𝒪 u B s = cgStep 𝒪 .FR B s := by
  rcases hu with rfl | rfl
  · rfl
  · exact prp_eq_fr hB h

/-- the heart of conjugacy -/
theorem fr_Bp_orth (hB : SPD B) {s : CGState ℂ E} (h : CGInv B b s) :
    ⟪B s.p, (cgStep 𝒪 .FR B s).p⟫ = 0 := by
  by_cases hr : s.r = 0
  · rw [h.p_eq_zero hB hr, map_zero, inner_zero_left]
  · have hρ : ⟪s.r, s.r⟫ ≠ 0 := fun e => hr (inner_self_eq_zero.mp e)
    have had := h.alpha_mul hB
    have ha : alpha B s ≠ 0 := fun e => hρ (by rw [← had, e, zero_mul])
    -- with `r' = r − α B p`, `α` real: `α ⟪B p, r'⟫ = ⟪r − r', r'⟫ = −⟪r', r'⟫` and `α ⟪B p, p⟫ = α ⟪r, B p⟫ = ⟪r, r⟫`,
    -- so `α ⟪B p, r' + (⟪r', r'⟫ / ⟪r, r⟫) p⟫ = 0`
    have e : alpha B s • B s.p = s.r - (cgStep 𝒪 .FR B s).r := by rw [cgStep_r, sub_sub_cancel]
    have h1 : alpha B s * ⟪B s.p, (cgStep 𝒪 .FR B s).r⟫ = -⟪(cgStep 𝒪 .FR B s).r, (cgStep 𝒪 .FR B s).r⟫ := by
      rw [← h.alpha_real hB, ← inner_smul_left, e, inner_sub_left,
        inner_eq_zero_symm.mp (cg_r_orth_next hB .FR h), zero_sub]
    have h2 : alpha B s * ⟪B s.p, s.p⟫ = ⟪s.r, s.r⟫ := by
      rw [← inner_conj_symm, hB.inner_self_real, ← h.cj, had]
    refine (mul_eq_zero.mp ?_).resolve_left ha
    rw [cgStep_p, beta_FR, inner_add_right, inner_smul_right, mul_add, h1, mul_left_comm, h2, cgStep_rr, h.rr,
      div_mul_cancel₀ _ hρ, neg_add_cancel]

theorem cgStep_fr_inv (hB : SPD B) {s : CGState ℂ E} (h : CGInv B b s) :
    CGInv B b (cgStep 𝒪 .FR B s) where
  res := by
    rw [cgStep_r, cgStep_x, map_add, map_smul, h.res]; abel
  rr := cgStep_rr B .FR s
  pr := by
    rw [cgStep_p, inner_add_left, inner_smul_left, cg_p_orth_next hB .FR h, mul_zero,
      add_zero]
  cj := by
    have h0 : ⟪s.p, B (cgStep 𝒪 .FR B s).p⟫ = 0 := by
      rw [← hB.sa]; exact fr_Bp_orth hB h
    have key : ∀ (r' q : E) (β : ℂ), ⟪s.p, B q⟫ = 0 → ⟪r', B q⟫ = ⟪r' + β • s.p, B q⟫ := by
      intro r' q β hq
      rw [inner_add_left, inner_smul_left, hq, mul_zero, add_zero]
    exact key _ _ _ h0

theorem cgStep_inv (hB : SPD B) (u : Update) (hu : u = .FR ∨ u = .PRP) {s : CGState ℂ E}
    (h : CGInv B b s) : CGInv B b (cgStep 𝒪 u B s) := by
  rw [cgStep_eq_fr hB u hu h]
  exact cgStep_fr_inv hB h

theorem cg_conjugate (hB : SPD B) (u : Update) (hu : u = .FR ∨ u = .PRP) {s : CGState ℂ E}
    (h : CGInv B b s) : ⟪(cgStep 𝒪 u B s).p, B s.p⟫ = 0 := by
  rw [inner_eq_zero_symm, cgStep_eq_fr hB u hu h]
  exact fr_Bp_orth hB h

section
variable (F Fb Ex R M)

/-- outside the property (FR and PRP only): on the invariant the Dai–Yuan coefficient as coded is minus the
Fletcher–Reeves one … -/
theorem beta_dy_eq_neg_fr (hB : SPD B) {s : CGState ℂ E} (h : CGInv B b s) :
    beta 𝒪 .DY (cgStep 𝒪 .FR B s).r s.r s.p (cgStep 𝒪 .FR B s).rr s.rr =
      - beta 𝒪 .FR (cgStep 𝒪 .FR B s).r s.r s.p (cgStep 𝒪 .FR B s).rr s.rr := by
  rw [beta_DY, beta_FR, inner_sub_right, cg_p_orth_next hB .FR h, h.pr, zero_sub, div_neg,
    cgStep_rr, h.rr]

/-- … and so is the Bamigbola–Ali–Nwaeze one -/
theorem beta_ban_eq_neg_fr (hB : SPD B) {s : CGState ℂ E} (h : CGInv B b s) :
    beta 𝒪 .BAN (cgStep 𝒪 .FR B s).r s.r s.p (cgStep 𝒪 .FR B s).rr s.rr =
      - beta 𝒪 .FR (cgStep 𝒪 .FR B s).r s.r s.p (cgStep 𝒪 .FR B s).rr s.rr := by
  have h1 : ⟪(cgStep 𝒪 .FR B s).r, s.r⟫ = 0 := cg_r_orth_next hB .FR h
  have h2 : ⟪s.r, (cgStep 𝒪 .FR B s).r⟫ = 0 := inner_eq_zero_symm.mp h1
  rw [beta_BAN, beta_FR, inner_sub_right, inner_sub_right, h1, h2, sub_zero, zero_sub, div_neg,
    cgStep_rr, h.rr]

end

end CG
end DirectVerif.C19
