import DirectVerif.Lemmas.C06Assemble
import DirectVerif.Lemmas.C06Seed
import DirectVerif.Lemmas.C06Round
import DirectVerif.Lemmas.C06Crop
import DirectVerif.Model.C06Grid
/-!
# C06 — the autocalibration region is fully sampled, centred and of the requested size

Line generators: `centerMask n l` (`center_mask_func`; FastMRI*/Cartesian*/Gaussian1D) and `zeroPadRow n l`
(`zero_pad_to_center`, repaired start; KtUniform/KtGaussian1D) — exactly `l` contiguous columns containing `n / 2`,
balanced within one column.  2-D generators: `centeredDisk`, a disc about the centre *sample* `(rows / 2, cols / 2)`.
Every generator: ACS ⊆ mask, also across call histories of one object (`Model/C06Seed.lean`), with the binary64 glue of
`Model/C06Round.lean` and the `crop_corner` frame of `Model/C06Crop.lean`.  Tie to the code: `Bridge/C06.lean`.
-/
namespace DirectVerif.C06
open DirectVerif DirectVerif.MaskGeom DirectVerif.C06Seed

theorem acs_count (n l : Nat) (h : l ≤ n) : (centerMask n l).count true = l :=
  count_centerMask n l h

theorem acs_contiguous (n l : Nat) (h : l ≤ n) (i j k : Nat) (hij : i ≤ j) (hjk : j ≤ k)
    (hi : (centerMask n l).getD i false = true) (hk : (centerMask n l).getD k false = true) :
    (centerMask n l).getD j false = true := by
  rw [getD_centerMask n l h] at hi hk ⊢
  simp only [decide_eq_true_eq] at hi hk ⊢
  omega

theorem acs_contains_centre (n l : Nat) (h1 : 1 ≤ l) (h : l ≤ n) :
    (centerMask n l).getD (n / 2) false = true := by
  rw [getD_centerMask n l h]
  simp only [decide_eq_true_eq]
  omega

theorem acs_balanced (n l : Nat) (h : l ≤ n) :
    leftCount (centerMask n l) ≤ rightCount (centerMask n l) + 1 ∧
    rightCount (centerMask n l) ≤ leftCount (centerMask n l) + 1 := by
  rw [(leftRight_centerMask n l h).1, (leftRight_centerMask n l h).2]
  omega

/-- with `pad = (n − l + 1) / 2` -/
theorem acs_left_right (n l : Nat) (h1 : 1 ≤ l) (h : l ≤ n) :
    leftCount (centerMask n l) = n / 2 - (n - l + 1) / 2 ∧
    rightCount (centerMask n l) = (n - l + 1) / 2 + l - 1 - n / 2 :=
  leftRight_centerMask n l h

/-! ## the Kt generators' block (`zero_pad_to_center`, repaired start) -/

theorem kt_acs_count (n l : Nat) (h : l ≤ n) : ∃ r, zeroPadRow n l = some r ∧ r.count true = l :=
  ⟨_, zeroPadRow_eq_centerMask n l h, acs_count n l h⟩

theorem kt_acs_contains_centre (n l : Nat) (h1 : 1 ≤ l) (h : l ≤ n) :
    ∃ r, zeroPadRow n l = some r ∧ r.getD (n / 2) false = true :=
  ⟨_, zeroPadRow_eq_centerMask n l h, acs_contains_centre n l h1 h⟩

theorem kt_acs_balanced (n l : Nat) (h : l ≤ n) :
    ∃ r, zeroPadRow n l = some r ∧ leftCount r ≤ rightCount r + 1 ∧ rightCount r ≤ leftCount r + 1 :=
  ⟨_, zeroPadRow_eq_centerMask n l h, acs_balanced n l h⟩

/-- numpy cannot broadcast the block into the slice -/
theorem kt_acs_too_wide (n l : Nat) (h : n < l) : zeroPadRow n l = none := by
  unfold zeroPadRow zeroPadRowWith
  rw [if_neg (by omega), if_pos h]

/-- pinned tree (`(target - current) // 2`): N = 14, L = 3 → columns 5..7 with centre column 7 -/
theorem kt_acs_balance_pinned_violates :
    ∃ r, zeroPadRowWith zeroPadStartPinned 14 3 = some r ∧ ¬ (leftCount r ≤ rightCount r + 1) := by
  decide

/-- pinned tree: N = 16, L = 1 → column 7, not the centre column 8 -/
theorem kt_acs_centre_pinned_violates :
    ∃ r, zeroPadRowWith zeroPadStartPinned 16 1 = some r ∧ r.getD (16 / 2) false = false := by
  decide

/-- Magic: `max(min(num_low_freqs, target_cols_to_sample), 1)` -/
theorem magic_cap (l target : Int) :
    1 ≤ magicCap l target ∧ (1 ≤ target → magicCap l target ≤ target) ∧
    (1 ≤ l → l ≤ target → magicCap l target = l) ∧ (1 ≤ target → target ≤ l → magicCap l target = target) := by
  unfold magicCap pyMax pyMin
  omega

/-- otherwise `adjusted = 0` and `rng.randint(0, high=0)` raises (`ValueError: high <= 0`) -/
theorem magic_adjusted_zero_iff (n : Nat) (target l : Int) (ht : target - l ≤ (n : Int)) :
    magicAdjusted n target l = 0 ↔ target - l ≤ 0 := by
  unfold magicAdjusted
  constructor
  · intro h
    by_cases hp : target - l > 0
    · rw [if_pos hp] at h
      -- `roundDiv` is `C06Round.roundHalfEven`, which is at least the floor of the quotient
      have h1 : 1 ≤ n / (target - l).toNat := (Nat.le_div_iff_mul_le (by omega)).mpr (by omega)
      have h2 : n / (target - l).toNat ≤ roundDiv n (target - l).toNat := C06Round.div_le_roundHalfEven _ _
      omega
    · omega
  · intro h
    have : ¬ (target - l > 0) := by omega
    rw [if_neg this]

theorem num_low_freqs_cases (r c : Int) : numLowFreqs true r c = r ∧ numLowFreqs false r c = c := by
  simp [numLowFreqs]

theorem disc_cell (rows cols : Nat) (radius : Int) (x y : Nat) (hy : y < cols) (hx : x < rows) :
    (centeredDisk rows cols radius).getD (x * cols + y) false = inDisk rows cols radius x y := by
  unfold centeredDisk
  rw [List.getD_eq_getElem?_getD, List.getElem?_map, List.getElem?_range (cell_lt rows cols x y hx hy)]
  simp only [Option.map_some, Option.getD_some]
  rw [(div_mod_cell cols x y hy).1, (div_mod_cell cols x y hy).2]

/-- **point symmetry about the centre sample** `(rows / 2, cols / 2)`, every parity of `rows`, `cols` -/
theorem disc_symmetric (rows cols : Nat) (radius : Int) (x y x' y' : Nat)
    (hx : x + x' = 2 * (rows / 2)) (hy : y + y' = 2 * (cols / 2)) :
    inDisk rows cols radius x y = inDisk rows cols radius x' y' := by
  unfold inDisk
  have ex : ((x : Int) - ((rows / 2 : Nat) : Int)) = -(((x' : Int) - ((rows / 2 : Nat) : Int))) := by omega
  have ey : ((y : Int) - ((cols / 2 : Nat) : Int)) = -(((y' : Int) - ((cols / 2 : Nat) : Int))) := by omega
  rw [ex, ey, sq_neg, sq_neg]

/-- for even sizes row 0 and column 0 have no mirror image; a disc with `radius ≤ rows / 2, cols / 2` does not reach them -/
theorem disc_mirror_on_grid (rows cols : Nat) (radius : Int) (x y : Nat) (hx : x < rows) (hy : y < cols)
    (hr : radius ≤ (rows / 2 : Nat)) (hc : radius ≤ (cols / 2 : Nat)) (h0 : 0 ≤ radius)
    (hin : inDisk rows cols radius x y = true) :
    2 * (rows / 2) - x < rows ∧ 2 * (cols / 2) - y < cols ∧ x ≤ 2 * (rows / 2) ∧ y ≤ 2 * (cols / 2) := by
  unfold inDisk at hin
  simp only [decide_eq_true_eq] at hin
  have hx2 := sq_nonneg ((x : Int) - ((rows / 2 : Nat) : Int))
  have hy2 := sq_nonneg ((y : Int) - ((cols / 2 : Nat) : Int))
  obtain ⟨mx, mx'⟩ := mirror_on_axis rows radius x hx hr h0 (by omega)
  obtain ⟨my, my'⟩ := mirror_on_axis cols radius y hy hc h0 (by omega)
  exact ⟨mx, my, mx', my'⟩

theorem disc_contains_centre (rows cols : Nat) (radius : Int) (h : 1 ≤ radius) :
    inDisk rows cols radius (rows / 2) (cols / 2) = true := by
  unfold inDisk MaskGeom.sq
  simp only [Int.sub_self, Int.mul_zero, Int.add_zero, decide_eq_true_eq]
  exact Int.mul_pos (by omega) (by omega)

/-- radius zero: centre fraction below `π / (rows · cols)` -/
theorem disc_empty_of_radius_zero (rows cols : Nat) (x y : Nat) : inDisk rows cols 0 x y = false := by
  unfold inDisk
  have h1 := MaskGeom.sq_nonneg ((x : Int) - ((rows / 2 : Nat) : Int))
  have h2 := MaskGeom.sq_nonneg ((y : Int) - ((cols / 2 : Nat) : Int))
  have h3 : MaskGeom.sq 0 = 0 := rfl
  simp only [h3, decide_eq_false_iff_not, Int.not_lt]
  omega

/-- CIRCUS without centre fraction: the ACS is what the disc search returns -/
theorem circus_disc_subset (rows cols : Nat) (mask : List Bool) (thr : List Int) (r : List Bool)
    (h : circusDisc rows cols mask thr = some r) :
    (∃ t ∈ thr, r = andL (diskLe rows cols t) mask) ∧ ∀ i, r.getD i false = true → mask.getD i false = true := by
  obtain ⟨t, ht, rfl⟩ := circusDisc_spec rows cols mask thr r h
  refine ⟨⟨t, ht, rfl⟩, fun i hi => ?_⟩
  rw [getD_andL, Bool.and_eq_true] at hi
  exact hi.2

/-- exit test `|disc| / |disc ∩ mask| > 1.1`: more than 1/11 of the disc unsampled -/
theorem circus_disc_none_iff (rows cols : Nat) (mask : List Bool) (thr : List Int) :
    circusDisc rows cols mask thr = none ↔
      ∀ t ∈ thr, ¬ (10 * (diskLe rows cols t).count true > 11 * (andL (diskLe rows cols t) mask).count true) :=
  circusDisc_none_iff rows cols mask thr

/-- on a fully sampled grid the real loop would not end -/
theorem circus_disc_full_never_returns (rows cols : Nat) (thr : List Int) :
    circusDisc rows cols (List.replicate (rows * cols) true) thr = none := by
  rw [circusDisc_none_iff]
  intro t _
  have := andL_replicate_true (diskLe rows cols t)
  rw [length_diskLe] at this
  rw [this]
  omega

/-- **C06: ACS ⊆ mask** — `return_acs = True` against the mask built with the same arguments (same interior = same seed),
element by element, each of the 14 generators, every mode, shape and draw. -/
theorem acs_subset_mask (g : Gen) (m : Mode) (shape : List Nat) (spec : AcsSpec) (interior : List (List Bool))
    (hlen : ∀ p ∈ interior, p.length = patLen g.family (rowsOf shape) (colsOf shape))
    (ta tm : Tensor Bool) (ha : assemble g m shape spec true interior = .ok ta)
    (hm : assemble g m shape spec false interior = .ok tm) :
    ta.shape = tm.shape ∧ ∀ i : Nat, ta.data[i]? = some true → tm.data[i]? = some true := by
  obtain ⟨_, hsome, hsa, hda, _, _⟩ := assemble_ok g m shape spec true interior ta ha
  obtain ⟨_, _, hsm, hdm, _, _⟩ := assemble_ok g m shape spec false interior tm hm
  refine ⟨by rw [hsa, hsm], ?_⟩
  rw [hda, hdm]
  refine (Sub.flatten_map _ _ _ fun p hp => ?_).2
  obtain ⟨a, ea⟩ := Option.isSome_iff_exists.mp (hsome p hp)
  have hpl : p.length = a.length := by rw [acsFrame_length _ _ _ _ p a (hlen p hp) ea, hlen p hp]
  simp only [ea, Option.getD_some, framePattern, if_true, Bool.false_eq_true, if_false]
  exact (Sub.orL_right hpl).frameData _ _

/-! ## one object, many requests (`Model/C06Seed.lean`)

`call` is the machine selected by the translated facts (`Bridge.C06.code_machine`): `temp_seed` hands the seed to
`rng.seed` unchanged and nothing but the (restored) random stream is written.  Every `RngOps`, configuration, history and
seed — falsy ones included. -/

section histories
variable {σ Seed : Type}

theorem call_leaves_object (ops : RngOps σ Seed) (cfg : Cfg σ) (o : Obj σ) (c : Call Seed) :
    (call ops cfg o c).2 = o := by rw [call_eq]

/-- **history independence**: a request gets the answer a brand-new object gives -/
theorem answer_history_independent (ops : RngOps σ Seed) (cfg : Cfg σ) (o o' : Obj σ) (h h' : List (Call Seed))
    (c : Call Seed) :
    lastAnswer .unchanged .none ops cfg o (h ++ [c]) = lastAnswer .unchanged .none ops cfg o' (h' ++ [c]) := by
  rw [lastAnswer_append, lastAnswer_append]

theorem history_answers (ops : RngOps σ Seed) (cfg : Cfg σ) (o : Obj σ) (cs : List (Call Seed)) :
    (run ops cfg o cs).1 = cs.map (oneShot ops cfg) := by rw [run_eq]

/-- holds by the definition of `oneShot`: the model draws the pair index first from the stream seeded with the caller's
seed in both branches; that the code does so is `Bridge.C06.seed_param_ok` -/
theorem same_pair_selected (ops : RngOps σ Seed) (cfg : Cfg σ) (shape : List Nat) (s : Seed) :
    oneShot ops cfg ⟨shape, s, true⟩ =
        assemble cfg.gen cfg.mode shape (cfg.spec (ops.choice (ops.seed s) cfg.npairs) shape) true (cfg.interior (ops.seed s) shape) ∧
    oneShot ops cfg ⟨shape, s, false⟩ =
        assemble cfg.gen cfg.mode shape (cfg.spec (ops.choice (ops.seed s) cfg.npairs) shape) false (cfg.interior (ops.seed s) shape) :=
  ⟨rfl, rfl⟩

/-- **C06: ACS ⊆ mask across histories** and across objects of one configuration -/
theorem acs_subset_mask_any_history (ops : RngOps σ Seed) (cfg : Cfg σ) (o₁ o₂ : Obj σ) (h₁ h₂ : List (Call Seed))
    (shape : List Nat) (s : Seed)
    (hlen : ∀ p ∈ cfg.interior (ops.seed s) shape, p.length = patLen cfg.gen.family (rowsOf shape) (colsOf shape))
    (ta tm : Tensor Bool)
    (ha : lastAnswer .unchanged .none ops cfg o₁ (h₁ ++ [⟨shape, s, true⟩]) = some (.ok ta))
    (hm : lastAnswer .unchanged .none ops cfg o₂ (h₂ ++ [⟨shape, s, false⟩]) = some (.ok tm)) :
    ta.shape = tm.shape ∧ ∀ i : Nat, ta.data[i]? = some true → tm.data[i]? = some true := by
  rw [lastAnswer_append] at ha hm
  simp only [Option.some.injEq] at ha hm
  exact acs_subset_mask cfg.gen cfg.mode shape _ _ hlen ta tm ha hm

theorem acs_width_any_history (ops : RngOps σ Seed) (cfg : Cfg σ) (o : Obj σ) (h : List (Call Seed))
    (shape : List Nat) (s : Seed) (l : Int)
    (hspec : cfg.spec (ops.choice (ops.seed s) cfg.npairs) shape = .lines l) :
    lastAnswer .unchanged .none ops cfg o (h ++ [⟨shape, s, true⟩]) =
      some (assemble cfg.gen cfg.mode shape (.lines l) true (cfg.interior (ops.seed s) shape)) := by
  rw [lastAnswer_append, (same_pair_selected ops cfg shape s).1, hspec]

end histories

/-- the budget is `round(cols / acceleration)` -/
theorem magic_width_bounds (g : Gen) (hg : g = .fastmriMagic ∨ g = .cartesianMagic) (cols : Nat) (p : PairCfg) :
    1 ≤ numLow g cols p ∧
    (1 ≤ C06Round.roundQuot cols p.accNum p.accDen → numLow g cols p ≤ C06Round.roundQuot cols p.accNum p.accDen) := by
  rcases hg with rfl | rfl <;>
  · simp only [numLow]
    exact ⟨(magic_cap _ _).1, fun h => (magic_cap _ _).2.1 (by exact_mod_cast h)⟩

/-- **"fraction times width, rounded"**, float arithmetic included: `int(round(cols * cf))` is within
`1/2 + cols·cf·2^-53` of `cols · cf`, `cf = cfNum / cfDen` the exact value of the double (both sides times `2·2^53·cfDen`) -/
theorem fraction_width_close (cols cfNum cfDen : Nat) (h0 : cols * cfNum ≠ 0) (hd : cfDen ≠ 0) :
    2 * 2 ^ 53 * (C06Round.roundMul cols cfNum cfDen * cfDen) ≤ 2 * 2 ^ 53 * (cols * cfNum) + 2 ^ 53 * cfDen + 2 * (cols * cfNum) ∧
    2 * 2 ^ 53 * (cols * cfNum) ≤ 2 * 2 ^ 53 * (C06Round.roundMul cols cfNum cfDen * cfDen) + 2 ^ 53 * cfDen + 2 * (cols * cfNum) :=
  C06Round.roundFl_close (cols * cfNum) cfDen h0 hd

/-- the budget of the Magic generators, `int(round(cols / acceleration))`, likewise -/
theorem budget_close (cols accNum accDen : Nat) (h0 : cols * accDen ≠ 0) (hd : accNum ≠ 0) :
    2 * 2 ^ 53 * (C06Round.roundQuot cols accNum accDen * accNum) ≤ 2 * 2 ^ 53 * (cols * accDen) + 2 ^ 53 * accNum + 2 * (cols * accDen) ∧
    2 * 2 ^ 53 * (cols * accDen) ≤ 2 * 2 ^ 53 * (C06Round.roundQuot cols accNum accDen * accNum) + 2 ^ 53 * accNum + 2 * (cols * accDen) :=
  C06Round.roundFl_close (cols * accDen) accNum h0 hd

theorem round_nearest_ties_even (num den q : Nat) (hd : 0 < den) :
    (2 * (C06Round.roundHalfEven num den * den) ≤ 2 * num + den ∧ 2 * num ≤ 2 * (C06Round.roundHalfEven num den * den) + den) ∧
    (den % 2 = 0 → C06Round.roundHalfEven (q * den + den / 2) den = if q % 2 = 0 then q else q + 1) :=
  ⟨C06Round.roundHalfEven_nearest num den hd, C06Round.roundHalfEven_tie q den hd⟩

/-- FastMRI Random / Equispaced end to end: an accepted centre fraction gives exactly `int(round(cols * cf))` columns -/
theorem fastmri_acs_count (g : Gen) (hg : g = .fastmriRandom ∨ g = .fastmriEquispaced) (cols : Nat) (p : PairCfg) (isInt : Bool)
    (hacc : ctorAccepts g p isInt = true) (hle : C06Round.roundMul cols p.cfNum p.cfDen ≤ cols) :
    (centerMask cols (numLow g cols p)).count true = C06Round.roundMul cols p.cfNum p.cfDen ∧
    (1 ≤ C06Round.roundMul cols p.cfNum p.cfDen → (centerMask cols (numLow g cols p)).getD (cols / 2) false = true) := by
  -- the guard `0 < cf < 1` selects the rounding branch of the glue
  have e : numLow g cols p = C06Round.roundMul cols p.cfNum p.cfDen := by
    rcases hg with rfl | rfl <;>
    · simp only [ctorAccepts, C06Round.fractionAccepted, Int.one_mul, Int.ofNat_lt, Bool.and_eq_true, decide_eq_true_eq] at hacc
      simp [numLow, numLowFreqs, hacc.2]
  rw [e]
  exact ⟨acs_count cols _ hle, fun h1 => acs_contains_centre cols _ h1 hle⟩

/-- Cartesian*: an accepted line count is the width itself -/
theorem cartesian_acs_count (g : Gen) (hg : g = .cartesianRandom ∨ g = .cartesianEquispaced) (cols : Nat) (p : PairCfg) (isInt : Bool)
    (hacc : ctorAccepts g p isInt = true) (hle : C06Round.truncQ p.cfNum p.cfDen ≤ cols) :
    (centerMask cols (numLow g cols p)).count true = C06Round.truncQ p.cfNum p.cfDen := by
  -- the guard `1 < cf` selects the `int(cf)` branch
  have e : numLow g cols p = C06Round.truncQ p.cfNum p.cfDen := by
    rcases hg with rfl | rfl <;>
    · simp only [ctorAccepts, C06Round.countAccepted, Int.one_mul, Int.ofNat_lt, Bool.and_eq_true, decide_eq_true_eq] at hacc
      have : ¬ p.cfNum < p.cfDen := by omega
      simp [numLow, numLowFreqs, this]
  rw [e]
  exact acs_count cols _ hle

/-- 8 · 0.3125 = 2.5 → 2 and 24 · 0.0625 = 1.5 → 2 (ties to even); 25 · 0.08 (not representable) → 2 -/
example : C06Round.roundMul 8 5 16 = 2 ∧ C06Round.roundMul 24 1 16 = 2 ∧
    C06Round.roundMul 25 5764607523034235 72057594037927936 = 2 ∧ C06Round.roundQuot 10 4 1 = 2 ∧ C06Round.roundQuot 30 4 1 = 8 := by
  decide
example : ctorAccepts .fastmriRandom { cfNum := 1, cfDen := 8, accNum := 4, accDen := 1, radii := [] } false = true ∧
    ctorAccepts .cartesianRandom { cfNum := 1, cfDen := 8, accNum := 4, accDen := 1, radii := [] } true = false ∧
    ctorAccepts .cartesianRandom { cfNum := 4, cfDen := 1, accNum := 4, accDen := 1, radii := [] } false = false := by decide

/-- two pairs on a 1 × 4 grid (ACS widths 3 and 1) -/
def demoCfg : Cfg Nat where
  gen := .cartesianRandom
  mode := .static
  npairs := 2
  spec k _ := .lines (if k = 0 then 3 else 1)
  interior _ _ := [[false, false, false, false]]

/-- **why the seed must go through unchanged** (`rng.seed(seed or None)`): seed `0` is falsy, the ACS and the mask request
read OS entropy independently: ACS columns 1..3, mask column 2 only -/
theorem seed_or_none_violates :
    ((runWith .orNone .none (tableOps [0] [0, 1] [true]) demoCfg newObj [⟨[1, 4, 2], 0, true⟩, ⟨[1, 4, 2], 0, false⟩]).1.map
        fun r => r.toOption.map (·.data)) =
      [some [false, true, true, true], some [false, false, true, false]] := by decide

/-- the same two requests on the code as it is -/
example :
    ((run (tableOps [0] [0, 1] [true]) demoCfg newObj [⟨[1, 4, 2], 0, true⟩, ⟨[1, 4, 2], 0, false⟩]).1.map
        fun r => r.toOption.map (·.data)) =
      [some [false, true, true, true], some [false, true, true, true]] := by decide

/-- **why nothing may be remembered** (an ACS memo keyed by the shape): the second ACS request on the object gets the
block of the first (3 columns instead of 1) -/
theorem shape_memo_violates :
    ((runWith .unchanged .byShape (tableOps [0, 1] [] []) demoCfg newObj [⟨[1, 4, 2], 0, true⟩, ⟨[1, 4, 2], 1, true⟩]).1.map
        fun r => r.toOption.map (·.data)) =
      [some [false, true, true, true], some [false, true, true, true]] ∧
    (oneShot (tableOps [0, 1] [] []) demoCfg ⟨[1, 4, 2], 1, true⟩).toOption.map (·.data) = some [false, false, true, false] ∧
    (oneShot (tableOps [0, 1] [] []) demoCfg ⟨[1, 4, 2], 1, false⟩).toOption.map (·.data) = some [false, false, true, false] := by
  decide

/-- non-vacuity of `acs_subset_mask_any_history` -/
example :
    (lastAnswer .unchanged .none (tableOps [0, 1] [] []) demoCfg newObj ([⟨[1, 4, 2], 1, true⟩] ++ [⟨[1, 4, 2], 0, true⟩])).map
        (·.toOption.isSome) = some true ∧
    (lastAnswer .unchanged .none (tableOps [0, 1] [] []) demoCfg newObj ([] ++ [⟨[1, 4, 2], 0, false⟩])).map
        (·.toOption.isSome) = some true := by decide

/-! ## VariableDensityPoisson with `crop_corner=True` (`Model/C06Crop.lean`)

`assemble` has no crop.  The repaired code crops the rasterised pattern and THEN ORs the disc; the pinned tree cropped last. -/

open DirectVerif.C06Crop in
/-- **C06: ACS ⊆ mask with and without `crop_corner`** -/
theorem poisson_crop_acs_subset (crop : Bool) (rows cols : Nat) (radius : Int) (raster : List Bool)
    (hl : raster.length = rows * cols) (k : Nat) (hd : (centeredDisk rows cols radius).getD k false = true) :
    (poissonFrame crop rows cols radius raster).getD k false = true := by
  unfold poissonFrame
  have hlen : (if crop then andL raster (ellipse rows cols) else raster).length = (centeredDisk rows cols radius).length := by
    cases crop
    · simp [hl, length_centeredDisk]
    · simp [andL, hl, ellipse, length_centeredDisk]
  rw [getD_orL _ _ hlen, hd, Bool.or_true]

open DirectVerif.C06Crop in
theorem poisson_crop_pinned_acs_cell (crop : Bool) (rows cols : Nat) (radius : Int) (raster : List Bool)
    (hl : raster.length = rows * cols) (k : Nat) (hd : (centeredDisk rows cols radius).getD k false = true) :
    (poissonFramePinned crop rows cols radius raster).getD k false = (!crop || (ellipse rows cols).getD k false) := by
  unfold poissonFramePinned
  have hlen : raster.length = (centeredDisk rows cols radius).length := by rw [hl, length_centeredDisk]
  cases crop
  · simp only [Bool.false_eq_true, if_false, Bool.not_false, Bool.true_or]
    rw [getD_orL _ _ hlen, hd, Bool.or_true]
  · simp only [if_true, Bool.not_true, Bool.false_or]
    rw [getD_andL, getD_orL _ _ hlen, hd, Bool.or_true, Bool.true_and]

open DirectVerif.C06Crop in
/-- **pinned tree**: 24 × 8, centre fraction 0.5 (radius 5 > cols / 2): disc cell (12, 0) = flat index 96 is returned by
`return_acs=True` but cropped out of the mask, whatever was rasterised -/
theorem poisson_crop_corner_pinned_violates :
    (centeredDisk 24 8 5).getD 96 false = true ∧
    (poissonFramePinned true 24 8 5 (List.replicate (24 * 8) true)).getD 96 false = false ∧
    subsetB (centeredDisk 24 8 5) (poissonFramePinned true 24 8 5 (List.replicate (24 * 8) true)) = false := by
  have hd : (centeredDisk 24 8 5).getD 96 false = true := by decide +kernel
  have hm : (poissonFramePinned true 24 8 5 (List.replicate (24 * 8) true)).getD 96 false = false := by decide +kernel
  refine ⟨hd, hm, Bool.eq_false_iff.mpr fun h => ?_⟩
  have := (subsetB_iff _ _).mp h 96 hd
  rw [hm] at this
  cases this

open DirectVerif.C06Crop in
/-- the same configuration on the repaired order -/
example : (centeredDisk 24 8 5).getD 96 false = true ∧
    subsetB (centeredDisk 24 8 5) (poissonFrame true 24 8 5 (List.replicate (24 * 8) false)) = true :=
  ⟨by decide +kernel, (subsetB_iff _ _).mpr (poisson_crop_acs_subset true 24 8 5 _ List.length_replicate)⟩

/-- **why the grids must be wide** (`Model/C06Grid.lean`): in `uint16` the squared distance 2 · 256² of the corner of a
512 × 512 k-space from the centre wraps to 0 — the corner is "inside" every disc -/
theorem disc_uint16_wraps_violates :
    C06Grid.inDiskWrapped 16 512 512 100 0 0 = true ∧ inDisk 512 512 100 0 0 = false ∧
    C06Grid.inDiskWrapped 16 368 368 58 1 0 = true ∧ inDisk 368 368 58 1 0 = false := by decide

example : C06Grid.inDiskWrapped 64 512 512 100 0 0 = inDisk 512 512 100 0 0 ∧
    C06Grid.inDiskWrapped 64 368 368 58 184 184 = true := by decide

example : centerMask 14 3 = [false, false, false, false, false, false, true, true, true, false, false, false, false, false] := by
  decide
example : (centerMask 16 1).getD 8 false = true := by decide
example : zeroPadRow 14 3 = some (centerMask 14 3) := by decide
example : leftCount (centerMask 14 3) = 1 ∧ rightCount (centerMask 14 3) = 1 := by decide
example : leftCount (centerMask 15 4) = 1 ∧ rightCount (centerMask 15 4) = 2 := by decide
example : magicCap 5 3 = 3 ∧ magicCap 0 3 = 1 ∧ magicCap 2 3 = 2 := by decide
example : inDisk 8 8 2 4 4 = true ∧ inDisk 8 8 2 3 4 = true ∧ inDisk 8 8 2 5 4 = true ∧ inDisk 8 8 2 2 4 = false := by decide
/-- non-vacuity of `acs_subset_mask` -/
example : (assemble .ktUniform .dynamic [2, 2, 4, 1] (.lines 2) true [[true, false, false, false], [false, false, false, true]]).toOption.isSome = true
    ∧ (assemble .ktUniform .dynamic [2, 2, 4, 1] (.lines 2) false [[true, false, false, false], [false, false, false, true]]).toOption.isSome = true := by
  decide
example : (assemble .radial .static [3, 3, 2] (.search [1, 2]) true [[true, true, false, true, true, true, false, true, false]]).toOption.map (·.data)
    = some [true, true, false, true, true, true, false, true, false] := by decide
example : (assemble .fastmriRandom .dynamic [2, 2, 4, 1] (.lines 2) true [[false, false, false, false], [true, false, false, false]]).toOption.map (·.shape)
    = some [1, 2, 2, 4, 1] := by decide

end DirectVerif.C06
