import Mathlib.Analysis.Fourier.ZMod
import DirectVerif.Props.C01
/-!
# C01 — with Mathlib's `ZMod.dft` as the per-axis transform, the centred `fft2` / `ifft2` are the textbook shifted DFT

`torchFft inverse norm` is the 1-D transform `torch.fft.fft / ifft(norm=…)` is documented to be:
`X_k = c · Σ_j x_j e^{∓2πi jk/n}` with `c = 1/√n` (`"ortho"`), `1` resp. `1/n` (`None`/`"backward"`), `1/n` resp. `1`
(`"forward"`).  Plugged into the model's plan over `Fft.listBackend` it gives `fft2_eq_centered_dft`; it is an inverse
pair (from `ZMod.dft`'s `LinearEquiv`) and, for `"ortho"`, an isometry, so `C01.ifft2_fft2_id` and `C01.fft2_energy`
apply to it with no hypothesis left.
-/
namespace DirectVerif.C01Dft
open DirectVerif DirectVerif.Shift DirectVerif.Fft ZMod
open scoped ZMod

noncomputable def toFn {n : ℕ} (xs : List ℂ) : ZMod n → ℂ := fun k => xs.getD k.val 0

noncomputable def ofFn {n : ℕ} (f : ZMod n → ℂ) : List ℂ := (List.range n).map fun (k : ℕ) => f (Nat.cast k)

theorem ofFn_length {n : ℕ} (f : ZMod n → ℂ) : (ofFn f).length = n := by simp [ofFn]

theorem toFn_ofFn {n : ℕ} [NeZero n] (f : ZMod n → ℂ) : toFn (ofFn f) = f := by
  funext k
  simp only [toFn, ofFn, List.getD_eq_getElem?_getD, List.getElem?_map, List.getElem?_range (ZMod.val_lt k),
    Option.map_some, Option.getD_some, ZMod.natCast_zmod_val]

theorem ofFn_toFn {n : ℕ} [NeZero n] (xs : List ℂ) (h : xs.length = n) : ofFn (toFn (n := n) xs) = xs := by
  apply List.ext_getElem?
  intro i
  by_cases hi : i < n
  · simp only [ofFn, toFn, List.getElem?_map, List.getElem?_range hi, Option.map_some, ZMod.val_natCast_of_lt hi,
      List.getD_eq_getElem?_getD]
    rw [List.getElem?_eq_getElem (by omega)]; rfl
  · rw [List.getElem?_eq_none (by simp [ofFn]; omega), List.getElem?_eq_none (by omega)]

theorem toFn_rollOne {n : ℕ} [NeZero n] (s : ℤ) (xs : List ℂ) (h : xs.length = n) (k : ZMod n) :
    toFn (rollOne s xs) k = toFn xs (k - (s : ZMod n)) := by
  have hk : k.val < xs.length := h ▸ ZMod.val_lt k
  have e : k - (s : ZMod n) = (((k.val : ℤ) - s : ℤ) : ZMod n) := by
    push_cast; rw [ZMod.natCast_zmod_val]
  have hv : (k - (s : ZMod n)).val = (((k.val : ℤ) - s) % (n : ℤ)).toNat := by
    rw [e]
    have := ZMod.val_intCast (n := n) ((k.val : ℤ) - s)
    omega
  simp only [toFn, List.getD_eq_getElem?_getD, C01L.rollOne_getElem?_int s xs k.val hk, hv, h]

/-- the scale factor of `torch.fft` -/
noncomputable def scale (inverse : Bool) (nm : Norm) (n : ℕ) : ℂ :=
  match nm, inverse with
  | .ortho, _ => ((Real.sqrt n : ℝ) : ℂ)⁻¹
  | .backward, false => 1
  | .backward, true => (n : ℂ)⁻¹
  | .forward, false => (n : ℂ)⁻¹
  | .forward, true => 1

noncomputable def kernelSum {n : ℕ} [NeZero n] (inverse : Bool) (Φ : ZMod n → ℂ) (k : ZMod n) : ℂ :=
  ∑ j : ZMod n, (stdAddChar (if inverse then j * k else -(j * k)) : ℂ) * Φ j

noncomputable def torchFftFn {n : ℕ} [NeZero n] (inverse : Bool) (nm : Norm) (Φ : ZMod n → ℂ) : ZMod n → ℂ :=
  fun k => scale inverse nm n * kernelSum inverse Φ k

/-- `torch.fft.fft` / `ifft` with `norm`, on a list of any length -/
noncomputable def torchFft (inverse : Bool) (nm : Norm) (xs : List ℂ) : List ℂ :=
  if h : xs.length = 0 then xs else
    haveI : NeZero xs.length := ⟨h⟩
    ofFn (torchFftFn (n := xs.length) inverse nm (toFn xs))

theorem torchFft_length (inverse : Bool) (nm : Norm) (xs : List ℂ) : (torchFft inverse nm xs).length = xs.length := by
  unfold torchFft
  split
  · rfl
  · exact ofFn_length _

theorem toFn_torchFft {n : ℕ} [NeZero n] (inverse : Bool) (nm : Norm) (xs : List ℂ) (h : xs.length = n) :
    toFn (torchFft inverse nm xs) = torchFftFn (n := n) inverse nm (toFn xs) := by
  subst h
  unfold torchFft
  rw [dif_neg (NeZero.ne _)]
  exact toFn_ofFn _

theorem amounts_cast (n : ℕ) :
    ((ifftshiftAmount (n : ℤ) : ℤ) : ZMod n) = -((n / 2 : ℕ) : ZMod n) ∧
    ((fftshiftAmount (n : ℤ) : ℤ) : ZMod n) = ((n / 2 : ℕ) : ZMod n) := by
  have h2 : fftshiftAmount (n : ℤ) = ((n / 2 : ℕ) : ℤ) := by unfold fftshiftAmount; omega
  have h1 : ifftshiftAmount (n : ℤ) = (n : ℤ) - ((n / 2 : ℕ) : ℤ) := by unfold ifftshiftAmount; omega
  constructor
  · rw [h1, Int.cast_sub, Int.cast_natCast, Int.cast_natCast, ZMod.natCast_self, zero_sub]
  · rw [h2, Int.cast_natCast]

/-- `fft(x)_k = scale · Σ_j x_j · e^{∓2πi (j - c₀)(k - c₀)/n}`, `c₀ = n / 2`, for every `n ≥ 1` -/
theorem centered_eq_shifted_dft {n : ℕ} [NeZero n] (inverse : Bool) (nm : Norm) (xs : List ℂ) (h : xs.length = n)
    (k : ZMod n) :
    toFn (fftshift1 (torchFft inverse nm (ifftshift1 xs))) k =
      scale inverse nm n * ∑ j : ZMod n,
        (stdAddChar (if inverse then (j - ((n / 2 : ℕ) : ZMod n)) * (k - ((n / 2 : ℕ) : ZMod n))
          else -((j - ((n / 2 : ℕ) : ZMod n)) * (k - ((n / 2 : ℕ) : ZMod n)))) : ℂ) * toFn xs j := by
  have hI : (ifftshift1 xs).length = n := by rw [C01.ifftshift1_length, h]
  have hT : (torchFft inverse nm (ifftshift1 xs)).length = n := by rw [torchFft_length, hI]
  obtain ⟨ai, af⟩ := amounts_cast n
  unfold fftshift1
  rw [toFn_rollOne _ _ hT, hT, af, toFn_torchFft inverse nm _ hI]
  unfold torchFftFn kernelSum
  congr 1
  have hshift : ∀ j : ZMod n, toFn (ifftshift1 xs) j = toFn xs (j + ((n / 2 : ℕ) : ZMod n)) := by
    intro j
    unfold ifftshift1
    rw [toFn_rollOne _ _ h, h, ai, sub_neg_eq_add]
  simp only [hshift]
  refine Fintype.sum_equiv (Equiv.addRight ((n / 2 : ℕ) : ZMod n)) _ _ (fun j => ?_)
  simp only [Equiv.coe_addRight, add_sub_cancel_right]

/-- the norm the plan selects -/
def normOf (cfg : Cfg) : Norm := if cfg.normalized then .ortho else .backward

/-- **C01: the model's centred `fft2` is the textbook shifted DFT** `scale · Σ_j x_j ω^{-(j-c₀)(k-c₀)}`, `c₀ = n / 2`, for
every length, every `normalized` / `complex_input` -/
theorem fft2_eq_centered_dft {n : ℕ} [NeZero n] (cfg : Cfg) (hc : cfg.centered = true) (xs : List ℂ)
    (h : xs.length = n) (k : ZMod n) :
    toFn (fft2 (listBackend torchFft) cfg xs) k =
      scale false (normOf cfg) n * ∑ j : ZMod n,
        (stdAddChar (-((j - ((n / 2 : ℕ) : ZMod n)) * (k - ((n / 2 : ℕ) : ZMod n)))) : ℂ) * toFn xs j := by
  rw [C01.fft2_def, C01.runData_stdPlan_noViews _ rfl rfl, hc, if_pos rfl]
  exact centered_eq_shifted_dft false (normOf cfg) xs h k

theorem ifft2_eq_centered_dft {n : ℕ} [NeZero n] (cfg : Cfg) (hc : cfg.centered = true) (xs : List ℂ)
    (h : xs.length = n) (k : ZMod n) :
    toFn (ifft2 (listBackend torchFft) cfg xs) k =
      scale true (normOf cfg) n * ∑ j : ZMod n,
        (stdAddChar ((j - ((n / 2 : ℕ) : ZMod n)) * (k - ((n / 2 : ℕ) : ZMod n))) : ℂ) * toFn xs j := by
  rw [C01.ifft2_def, C01.runData_stdPlan_noViews _ rfl rfl, hc, if_pos rfl]
  exact centered_eq_shifted_dft true (normOf cfg) xs h k

theorem fft2_eq_dft {n : ℕ} [NeZero n] (cfg : Cfg) (hc : cfg.centered = false) (xs : List ℂ)
    (h : xs.length = n) (k : ZMod n) :
    toFn (fft2 (listBackend torchFft) cfg xs) k =
      scale false (normOf cfg) n * ∑ j : ZMod n, (stdAddChar (-(j * k)) : ℂ) * toFn xs j := by
  rw [C01.fft2_def, C01.runData_stdPlan_noViews _ rfl rfl, hc, if_neg Bool.false_ne_true]
  exact congrFun (toFn_torchFft false (normOf cfg) xs h) k

theorem kernelSum_false {n : ℕ} [NeZero n] (Φ : ZMod n → ℂ) : kernelSum false Φ = 𝓕 Φ := by
  funext k; simp [kernelSum, ZMod.dft_apply]

theorem kernelSum_true {n : ℕ} [NeZero n] (Ψ : ZMod n → ℂ) : kernelSum true Ψ = (n : ℂ) • 𝓕⁻ Ψ := by
  funext k
  simp only [kernelSum, if_true, ZMod.invDFT_apply, Pi.smul_apply, smul_eq_mul]
  rw [← mul_assoc, mul_inv_cancel₀ (NeZero.ne _), one_mul]

theorem torchFftFn_eq {n : ℕ} [NeZero n] (inverse : Bool) (nm : Norm) (Φ : ZMod n → ℂ) :
    torchFftFn inverse nm Φ = scale inverse nm n • kernelSum inverse Φ := rfl

theorem scale_mul (nm : Norm) (n : ℕ) [NeZero n] : scale true nm n * scale false nm n * (n : ℂ) = 1 := by
  have hn : (n : ℂ) ≠ 0 := NeZero.ne _
  cases nm
  · have hs : ((Real.sqrt n : ℝ) : ℂ) * ((Real.sqrt n : ℝ) : ℂ) = (n : ℂ) := by
      rw [← Complex.ofReal_mul, Real.mul_self_sqrt (Nat.cast_nonneg n)]; simp
    have h0 : ((Real.sqrt n : ℝ) : ℂ) ≠ 0 := fun e => hn (by rw [← hs, e, zero_mul])
    simp only [scale]
    rw [← hs]; field_simp
  · simp [scale, hn]
  · simp [scale, hn]

/-- both are a scalar times `𝓕` resp. `𝓕⁻¹`, and the scalars multiply to `1` -/
theorem torchFftFn_cancel {n : ℕ} [NeZero n] (inv : Bool) (nm : Norm) (Φ : ZMod n → ℂ) :
    torchFftFn (!inv) nm (torchFftFn inv nm Φ) = Φ := by
  have hs := scale_mul nm n
  cases inv
  · simp only [Bool.not_false, torchFftFn_eq, kernelSum_false, kernelSum_true, _root_.map_smul, smul_smul,
      LinearEquiv.symm_apply_apply]
    rw [show scale true nm n * (↑n * scale false nm n) = 1 by rw [← hs]; ring, one_smul]
  · simp only [Bool.not_true, torchFftFn_eq, kernelSum_false, kernelSum_true, _root_.map_smul, smul_smul,
      LinearEquiv.apply_symm_apply]
    rw [show scale false nm n * (scale true nm n * ↑n) = 1 by rw [← hs]; ring, one_smul]

theorem torchFft_cancel (inv : Bool) (nm : Norm) (xs : List ℂ) : torchFft (!inv) nm (torchFft inv nm xs) = xs := by
  by_cases h0 : xs.length = 0
  · have : xs = [] := List.eq_nil_of_length_eq_zero h0
    subst this; simp [torchFft]
  · have : NeZero xs.length := ⟨h0⟩
    have hl := torchFft_length inv nm xs
    rw [← ofFn_toFn (n := xs.length) (torchFft (!inv) nm (torchFft inv nm xs)) (by rw [torchFft_length, hl]),
      toFn_torchFft (!inv) nm _ hl, toFn_torchFft inv nm xs rfl, torchFftFn_cancel, ofFn_toFn xs rfl]

theorem torchFft_inv_fwd (nm : Norm) (xs : List ℂ) : torchFft true nm (torchFft false nm xs) = xs :=
  torchFft_cancel false nm xs

theorem torchFft_fwd_inv (nm : Norm) (xs : List ℂ) : torchFft false nm (torchFft true nm xs) = xs :=
  torchFft_cancel true nm xs

/-- **C01: inverse law with the concrete DFT, no hypotheses left** -/
theorem ifft2_fft2_id_dft (cfg : Cfg) (xs : List ℂ) :
    ifft2 (listBackend torchFft) cfg (fft2 (listBackend torchFft) cfg xs) = xs ∧
    fft2 (listBackend torchFft) cfg (ifft2 (listBackend torchFft) cfg xs) = xs :=
  ⟨C01.ifft2_fft2_id torchFft torchFft_inv_fwd torchFft_fwd_inv cfg xs,
   C01.fft2_ifft2_id torchFft torchFft_inv_fwd torchFft_fwd_inv cfg xs⟩

open scoped ComplexConjugate

/-- Plancherel for `ZMod.dft`: `⟪𝓕Φ, 𝓕Ψ⟫ = n ⟪Φ, Ψ⟫` -/
theorem dft_inner {n : ℕ} [NeZero n] (Φ Ψ : ZMod n → ℂ) :
    ∑ k, conj (𝓕 Φ k) * 𝓕 Ψ k = (n : ℂ) * ∑ j, conj (Φ j) * Ψ j := by
  have h1 : ∀ k, conj (𝓕 Φ k) = ∑ j, (stdAddChar (j * k) : ℂ) * conj (Φ j) := by
    intro k
    rw [ZMod.dft_apply, map_sum]
    refine Finset.sum_congr rfl fun j _ => ?_
    rw [smul_eq_mul, map_mul, ← AddChar.map_neg_eq_conj, neg_neg]
  have h2 : ∀ j, ∑ k, (stdAddChar (k * j) : ℂ) * 𝓕 Ψ k = (n : ℂ) * Ψ j := by
    intro j
    have := ZMod.invDFT_apply (𝓕 Ψ) j
    rw [LinearEquiv.symm_apply_apply, smul_eq_mul] at this
    rw [this, ← mul_assoc, mul_inv_cancel₀ (NeZero.ne _), one_mul]
    simp only [smul_eq_mul]
  simp only [h1, Finset.sum_mul]
  rw [Finset.sum_comm, Finset.mul_sum]
  refine Finset.sum_congr rfl fun j _ => ?_
  rw [mul_left_comm, ← h2 j, Finset.mul_sum]
  refine Finset.sum_congr rfl fun k _ => ?_
  rw [mul_comm j k]; ring

noncomputable def energyFn {n : ℕ} [NeZero n] (Φ : ZMod n → ℂ) : ℂ := ∑ k, conj (Φ k) * Φ k

theorem energyFn_smul {n : ℕ} [NeZero n] (c : ℂ) (Φ : ZMod n → ℂ) :
    energyFn (fun k => c * Φ k) = conj c * c * energyFn Φ := by
  simp only [energyFn, Finset.mul_sum, map_mul]
  exact Finset.sum_congr rfl fun k _ => by ring

theorem sqrt_scale (n : ℕ) [NeZero n] :
    conj (((Real.sqrt n : ℝ) : ℂ)⁻¹) * ((Real.sqrt n : ℝ) : ℂ)⁻¹ * (n : ℂ) = 1 := by
  rw [map_inv₀, Complex.conj_ofReal]
  exact scale_mul .ortho n

theorem energyFn_torchFftFn_ortho {n : ℕ} [NeZero n] (inverse : Bool) (Φ : ZMod n → ℂ) :
    energyFn (torchFftFn inverse .ortho Φ) = energyFn Φ := by
  have fwd : ∀ Ψ : ZMod n → ℂ, energyFn (torchFftFn false .ortho Ψ) = energyFn Ψ := fun Ψ => by
    show energyFn (fun k => scale false .ortho n * kernelSum false Ψ k) = _
    rw [energyFn_smul, kernelSum_false]
    show _ * (∑ k, conj (𝓕 Ψ k) * 𝓕 Ψ k) = _
    rw [dft_inner, ← mul_assoc]
    exact (congrArg (· * energyFn Ψ) (sqrt_scale n)).trans (one_mul _)
  cases inverse
  · exact fwd Φ
  · -- the backward transform inverts the forward one, which preserves the energy
    rw [← fwd (torchFftFn true .ortho Φ)]
    exact congrArg energyFn (torchFftFn_cancel true .ortho Φ)

theorem energy_eq_sum {M : Type} [AddCommMonoid M] {n : ℕ} [NeZero n] (w : ℂ → M) (xs : List ℂ) (h : xs.length = n) :
    C01.energy w xs = ∑ k : ZMod n, w (toFn xs k) := by
  obtain ⟨m, rfl⟩ := Nat.exists_eq_succ_of_ne_zero (NeZero.ne n)
  conv_lhs => rw [← ofFn_toFn (n := m + 1) xs h]
  unfold C01.energy ofFn
  rw [List.map_map, show ∀ g : ℕ → M, ((List.range (m + 1)).map g).sum = ∑ i ∈ Finset.range (m + 1), g i from fun _ => rfl,
    Finset.sum_range]
  refine Finset.sum_congr rfl fun i _ => ?_
  exact congrArg (fun z => w (toFn xs z)) (ZMod.natCast_zmod_val (n := m + 1) (show ZMod (m + 1) from i))

theorem energy_torchFft_ortho (inv : Bool) (ys : List ℂ) :
    C01.energy (fun z => conj z * z) (torchFft inv .ortho ys) = C01.energy (fun z => conj z * z) ys := by
  by_cases h0 : ys.length = 0
  · have : ys = [] := List.eq_nil_of_length_eq_zero h0
    subst this; simp [torchFft]
  · have : NeZero ys.length := ⟨h0⟩
    rw [energy_eq_sum (n := ys.length) _ _ (torchFft_length inv .ortho ys), energy_eq_sum (n := ys.length) _ ys rfl,
      toFn_torchFft inv .ortho ys rfl]
    exact energyFn_torchFftFn_ortho inv (toFn ys)

/-- **C01: `fft2_energy` with the concrete DFT, no hypotheses left**: `Σ_k |x_k|²` is preserved when `normalized` -/
theorem fft2_energy_dft (cfg : Cfg) (hn : cfg.normalized = true) (xs : List ℂ) :
    C01.energy (fun z => conj z * z) (fft2 (listBackend torchFft) cfg xs) = C01.energy (fun z => conj z * z) xs ∧
    C01.energy (fun z => conj z * z) (ifft2 (listBackend torchFft) cfg xs) = C01.energy (fun z => conj z * z) xs :=
  C01.fft2_energy (fun z => conj z * z) torchFft energy_torchFft_ortho cfg hn xs

/-- `stdAddChar` is the textbook root of unity: `stdAddChar (j : ℤ/n) = e^{2πi j/n}` -/
example {n : ℕ} [NeZero n] (j : ℤ) :
    (stdAddChar (j : ZMod n) : ℂ) = Complex.exp (2 * Real.pi * Complex.I * j / n) := ZMod.stdAddChar_coe j

end DirectVerif.C01Dft
