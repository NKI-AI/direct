import DirectVerif.Lemmas.C14Recon
import DirectVerif.Lemmas.C13Bvs
/-!
What `Engine.predict` puts around the assembly loop.  Ids and index ranges ascend along a rank's volume list, so the
`find?` behind `sampler.volume_indices[filename]` and behind an item's filename hits the intended volume
(`find?_of_pairwise`).  `write_output_to_h5` is a fold of file replacements: with distinct basenames every volume can
be read back.
-/
namespace DirectVerif.Recon
open DirectVerif DirectVerif.Sampler

theorem reconstructP_ok {β} (sizeOf : Nat → Option Nat) (zero : β) (bs : List (RBatch β)) :
    ∀ s : RState β, reconstructP sizeOf zero s (bs.map fun b => (b.fnames, Except.ok b.outs)) =
      reconstruct sizeOf zero s bs := by
  induction bs with
  | nil => intro s; rfl
  | cons b bs ih =>
    intro s
    rw [List.map_cons, reconstructP, reconstruct]
    cases rstep sizeOf zero s ⟨b.fnames, b.outs⟩ with
    | error e => rfl
    | ok r => simp only [ih]

theorem mapM_id_of_forall_some {α β} (f : α → Option β) (g : α → β) (l : List α)
    (h : ∀ a ∈ l, f a = some (g a)) : (l.map f).mapM id = some (l.map g) := by
  induction l with
  | nil => rfl
  | cons a l ih =>
    rw [List.map_cons, List.mapM_cons, id, h a List.mem_cons_self,
      ih fun b hb => h b (List.mem_cons_of_mem _ hb)]
    rfl

theorem processBatch_piece {α σ} (mul : α → σ → α) (key : CropKey) (fwd : Nat → Img α) (scale : Nat → σ)
    (recon : Nat → List Nat) (out : Nat → Img α) (p : List Nat) (hp : p ≠ []) (r0 : List Nat)
    (res : Option (Nat × Nat)) (hres : computeResolution key r0 = .ok res)
    (hrec : ∀ i ∈ p, recon i = r0)
    (hout : ∀ i ∈ p, processSlice mul res (fwd i) (scale i) = some (out i)) :
    processBatch mul key (p.map fwd) (p.map scale) (p.map recon) = .ok (p.map out) := by
  cases p with
  | nil => exact absurd rfl hp
  | cons i is =>
    have hhead : ((i :: is).map recon).headD [] = r0 := hrec i List.mem_cons_self
    rw [processBatch, hhead, hres]
    simp only [processOutput, zipWith_map_map, mapM_id_of_forall_some _ out _ hout]

theorem volsFrom_pairwise (id off : Nat) (ns : List Nat) :
    (volsFrom id off ns).Pairwise fun a b => a.id < b.id ∧ a.stop ≤ b.start := by
  induction ns generalizing id off with
  | nil => exact List.Pairwise.nil
  | cons n ns ih =>
    rw [volsFrom, List.pairwise_cons]
    exact ⟨fun v hv => ⟨(volsFrom_mem _ _ ns v hv).1, (volsFrom_mem _ _ ns v hv).2.1⟩, ih (id + 1) (off + n)⟩

theorem rankVols_pairwise (layout : List Nat) (world rank : Nat) :
    (rankVols layout world rank 0).Pairwise fun a b => a.id < b.id ∧ a.stop ≤ b.start := by
  rw [rankVols, applyLimit, if_pos rfl]
  by_cases hr : rank < world
  · rw [chunks_getD _ _ _ hr]
    exact ((volsFrom_pairwise 0 0 layout).sublist (List.take_sublist _ _)).sublist (List.drop_sublist _ _)
  · rw [chunks_getD_of_le _ _ _ (Nat.le_of_not_lt hr)]
    exact List.Pairwise.nil

theorem find?_of_pairwise {α} (R : α → α → Prop) (p : α → Bool) (l : List α) (h : l.Pairwise R) (v : α)
    (hv : v ∈ l) (hp : p v = true) (hR : ∀ w, R w v → ¬ p w = true) : l.find? p = some v := by
  induction l with
  | nil => cases hv
  | cons w ws ih =>
    rw [List.pairwise_cons] at h
    rcases List.mem_cons.mp hv with e | e
    · rw [← e, List.find?_cons_of_pos hp]
    · rw [List.find?_cons_of_neg (hR w (h.1 v e))]
      exact ih h.2 e

theorem lookupSize_of_mem (vols : List Vol) (h : vols.Pairwise fun a b => a.id < b.id ∧ a.stop ≤ b.start)
    (v : Vol) (hv : v ∈ vols) : lookupSize vols v.id = some v.size := by
  rw [lookupSize, find?_of_pairwise _ _ vols h v hv (beq_self_eq_true v.id)
    (fun w hw => by rw [beq_iff_eq]; exact Nat.ne_of_lt hw.1)]
  rfl

theorem fnameOfIndex_of_mem (vols : List Vol) (h : vols.Pairwise fun a b => a.id < b.id ∧ a.stop ≤ b.start)
    (v : Vol) (hv : v ∈ vols) (i : Nat) (hi : i ∈ v.indices) : fnameOfIndex vols i = v.id := by
  obtain ⟨h1, h2⟩ := List.mem_range'_1.mp hi
  have hstop : i < v.stop := by omega
  rw [fnameOfIndex, find?_of_pairwise _ _ vols h v hv (decide_eq_true ⟨h1, hstop⟩)
    (fun w hw => by rw [decide_eq_true_eq]; exact fun hc => Nat.not_lt_of_le (Nat.le_trans hw.2 h1) hc.2)]
  rfl

theorem readFile_writeFile_same {γ} (d : Dir γ) (n : Nat) (k : String) (x : γ) :
    readFile (writeFile d n k x) n = some (k, x) := by
  simp [readFile, writeFile]

theorem readFile_writeFile_other {γ} (d : Dir γ) (n m : Nat) (k : String) (x : γ) (h : n ≠ m) :
    readFile (writeFile d n k x) m = readFile d m := by
  rw [readFile, writeFile, List.find?_cons_of_neg (by rw [beq_iff_eq]; exact h), List.find?_filter, readFile]
  congr 2
  -- an entry named `m` is not one of those named `n` that were removed
  funext e
  by_cases he : e.1 = m
  · simp [he, Ne.symm h]
  · simp [he]

theorem writeOutput_cons {γ δ} (base : Nat → Nat) (chan0 : δ → γ) (key : String) (d : Dir γ) (o : δ × Nat)
    (os : List (δ × Nat)) :
    writeOutput base chan0 key d (o :: os) =
      writeOutput base chan0 key (writeFile d (base o.2) key (chan0 o.1)) os := rfl

theorem writeOutput_append {γ δ} (base : Nat → Nat) (chan0 : δ → γ) (key : String) (d : Dir γ)
    (a b : List (δ × Nat)) :
    writeOutput base chan0 key d (a ++ b) = writeOutput base chan0 key (writeOutput base chan0 key d a) b :=
  List.foldl_append

theorem writeOutput_read_untouched {γ δ} (base : Nat → Nat) (chan0 : δ → γ) (key : String)
    (output : List (δ × Nat)) :
    ∀ (d : Dir γ) (m : Nat), (∀ o ∈ output, base o.2 ≠ m) →
      readFile (writeOutput base chan0 key d output) m = readFile d m := by
  induction output with
  | nil => intro d m _; rfl
  | cons o os ih =>
    intro d m h
    rw [writeOutput_cons, ih _ m (fun o' ho' => h o' (List.mem_cons_of_mem _ ho')),
      readFile_writeFile_other _ _ _ _ _ (h o List.mem_cons_self)]

end DirectVerif.Recon
