import DirectVerif.Model.SslSplit
import Mathlib.Algebra.Order.Field.Rat
import Mathlib.Algebra.Order.Field.Basic
/-!
# C11 — the float32 product `S · ρ` behind the requested count, and its ceiling / floor

Fractions are pairs of naturals and are compared by cross-multiplication, so the error analysis of the two
roundings is linear arithmetic over a few products; `ℚ` enters only where a statement is about `qval`.
-/
namespace DirectVerif.C11
open DirectVerif DirectVerif.SslSplit

theorem ceil_le_iff {a b : Int} (hb : 0 < b) (n : Int) : -((-a) / b) ≤ n ↔ a ≤ n * b := by
  have h := Int.le_ediv_iff_mul_le (a := -n) (b := -a) hb
  rw [Int.neg_mul] at h
  omega

theorem lt_ceil_iff {a b : Int} (hb : 0 < b) (n : Int) : n < -((-a) / b) ↔ n * b < a := by
  have h := ceil_le_iff (a := a) hb n
  omega

theorem ratioCeil_le_iff {S p q : Int} (hq : 0 < q) (n : Int) : ratioCeil S p q ≤ n ↔ S * p ≤ n * q := ceil_le_iff hq n
theorem lt_ratioCeil_iff {S p q : Int} (hq : 0 < q) (n : Int) : n < ratioCeil S p q ↔ n * q < S * p := lt_ceil_iff hq n
theorem le_ratioFloor_iff {S p q : Int} (hq : 0 < q) (n : Int) : n ≤ ratioFloor S p q ↔ n * q ≤ S * p :=
  Int.le_ediv_iff_mul_le hq
theorem ratioFloor_lt_iff {S p q : Int} (hq : 0 < q) (n : Int) : ratioFloor S p q < n ↔ S * p < n * q :=
  Int.ediv_lt_iff_lt_mul hq

/-- `h`: `a / b` is less than `1 / q` below `X / q` -/
theorem lt_of_near {X q a b n : Int} (hq : 0 < q) (hb : 0 < b) (h : X * b - b < a * q) (hn : n * q ≤ X - 1) :
    n * b < a := by
  have hm := Int.mul_le_mul_of_nonneg_right hn (Int.le_of_lt hb)
  rw [Int.sub_mul, Int.one_mul, Int.mul_right_comm] at hm
  exact Int.lt_of_mul_lt_mul_right (Int.lt_of_le_of_lt hm h) (Int.le_of_lt hq)

theorem gt_of_near {X q a b n : Int} (hq : 0 < q) (hb : 0 < b) (h : a * q < X * b + b) (hn : X + 1 ≤ n * q) :
    a < n * b := by
  have hm := Int.mul_le_mul_of_nonneg_right hn (Int.le_of_lt hb)
  rw [Int.add_mul, Int.one_mul, Int.mul_right_comm] at hm
  exact Int.lt_of_mul_lt_mul_right (Int.lt_of_lt_of_le h hm) (Int.le_of_lt hq)

/-- `h1`, `h2`: `a / b` is closer than `1 / q` to `X / q` -/
theorem ceil_floor_near (X q a b : Int) (hq : 0 < q) (hb : 0 < b) (h1 : a * q < X * b + b) (h2 : X * b - b < a * q) :
    (¬ q ∣ X → -((-a) / b) = -((-X) / q) ∧ a / b = X / q) ∧
    (q ∣ X → (-((-a) / b) = -((-X) / q) ∨ -((-a) / b) = -((-X) / q) + 1) ∧ (a / b = X / q ∨ a / b = X / q - 1)) := by
  -- with `k = ⌊X / q⌋`, `c = ⌈X / q⌉`: `(c - 1) q < X < (k + 1) q`, both gaps at least 1, so `(c - 1) b < a < (k + 1) b`
  have hk := Int.lt_ediv_add_one_mul_self X hq
  have hc := (lt_ceil_iff (a := X) hq (-((-X) / q) - 1)).mp (by omega)
  have lo := lt_of_near hq hb h2 (by omega : (-((-X) / q) - 1) * q ≤ X - 1)
  have hi := gt_of_near hq hb h1 (by omega : X + 1 ≤ (X / q + 1) * q)
  have f1 := (Int.le_ediv_iff_mul_le hb).mpr (Int.le_of_lt lo)
  have f2 := (Int.ediv_lt_iff_lt_mul hb).mpr hi
  have c1 := (lt_ceil_iff hb _).mpr lo
  have c2 := (ceil_le_iff hb _).mpr (Int.le_of_lt hi)
  refine ⟨fun hnd => ?_, fun hd => ?_⟩
  -- `c = k + 1`
  · have hne : X / q * q ≠ X := fun h => hnd ⟨X / q, by rw [Int.mul_comm]; exact h.symm⟩
    have hk' := Int.ediv_mul_le X (Int.ne_of_gt hq)
    have d1 := (lt_ceil_iff (a := X) hq (X / q)).mpr (by omega)
    have d2 := (ceil_le_iff hq (X / q + 1)).mpr (Int.le_of_lt hk)
    omega
  -- `c = k`
  · have he : X / q * q = X := Int.ediv_mul_cancel hd
    have d1 := (ceil_le_iff hq (X / q)).mpr (Int.le_of_eq he.symm)
    have d2 := (lt_ceil_iff (a := X) hq (X / q - 1)).mpr (by rw [Int.sub_mul, Int.one_mul]; omega)
    omega

-- binary32 rounding: `|r - x| · 2^24 ≤ x`, cross-multiplied

/-- nearest-even significand: within 1/2 of `N / D ≥ 2^23`, hence within relative 2^-24 -/
theorem round_core (N D : Nat) (hD : 0 < D) (hN : 2 ^ 23 * D ≤ N) (m : Nat)
    (hm : m = if 2 * (N % D) > D ∨ (2 * (N % D) = D ∧ (N / D) % 2 = 1) then N / D + 1 else N / D) :
    N * 2 ^ 24 ≤ m * D * 2 ^ 24 + N ∧ m * D * 2 ^ 24 ≤ N * 2 ^ 24 + N := by
  have h1 := Nat.div_add_mod N D
  have h2 := Nat.mod_lt N hD
  rw [Nat.mul_comm] at h1
  generalize N / D = m0 at *
  generalize N % D = r at *
  subst hm
  split
  · rw [Nat.add_mul, Nat.one_mul]; omega
  · omega

theorem roundAt_spec (num den : Nat) (hd : 0 < den) (e : Int) (r : Nat × Nat) (h : roundAt num den e = some r) :
    0 < r.2 ∧ num * r.2 * 2 ^ 24 ≤ r.1 * den * 2 ^ 24 + num * r.2 ∧
      r.1 * den * 2 ^ 24 ≤ num * r.2 * 2 ^ 24 + num * r.2 := by
  unfold roundAt at h
  by_cases he : e ≥ 0
  · simp only [he, if_true] at h
    split at h
    · rename_i hc
      injection h with h
      subst h
      have core := round_core num (den * 2 ^ e.toNat) (Nat.mul_pos hd (Nat.pow_pos (by decide))) hc.1 _ rfl
      simp only [Nat.mul_one]
      rw [Nat.mul_right_comm _ (2 ^ e.toNat) den, Nat.mul_assoc _ den]
      exact ⟨Nat.one_pos, core⟩
    · cases h
  · simp only [he, if_false] at h
    split at h
    · rename_i hc
      injection h with h
      subst h
      exact ⟨Nat.pow_pos (by decide), round_core (num * 2 ^ (-e).toNat) den hd hc.1 _ rfl⟩
    · cases h

/-- relative error at most 2^-24; where no exponent guess normalises, `roundF32` returns the value as it is -/
theorem roundF32_spec (num den : Nat) (hd : 0 < den) :
    0 < (roundF32 num den).2 ∧
      num * (roundF32 num den).2 * 2 ^ 24 ≤ (roundF32 num den).1 * den * 2 ^ 24 + num * (roundF32 num den).2 ∧
      (roundF32 num den).1 * den * 2 ^ 24 ≤ num * (roundF32 num den).2 * 2 ^ 24 + num * (roundF32 num den).2 := by
  unfold roundF32
  split
  · exact ⟨hd, Nat.le_add_right _ _, Nat.le_add_right _ _⟩
  · simp only
    split
    · rename_i r h; exact roundAt_spec num den hd _ r h
    · split
      · rename_i r h; exact roundAt_spec num den hd _ r h
      · exact ⟨hd, Nat.le_add_right _ _, Nat.le_add_right _ _⟩

def qval (r : Nat × Nat) : ℚ := (r.1 : ℚ) / (r.2 : ℚ)

theorem abs_sub_le_of_cross {a b n d K : Nat} (hb : 0 < b) (hd : 0 < d)
    (h1 : n * b * K ≤ a * d * K + n * b) (h2 : a * d * K ≤ n * b * K + n * b) :
    |(a : ℚ) / b - (n : ℚ) / d| * K ≤ (n : ℚ) / d := by
  have hbq : (0 : ℚ) < b := by exact_mod_cast hb
  have hdq : (0 : ℚ) < d := by exact_mod_cast hd
  have h1' : (n * b * K : ℚ) ≤ a * d * K + n * b := by exact_mod_cast h1
  have h2' : (a * d * K : ℚ) ≤ n * b * K + n * b := by exact_mod_cast h2
  have e1 : (n : ℚ) / d = (n * b : ℚ) / (b * d) := by rw [mul_comm, mul_div_mul_left _ _ hbq.ne']
  have e2 : (a : ℚ) / b = (a * d : ℚ) / (b * d) := by rw [mul_div_mul_right _ _ hdq.ne']
  -- common denominator `b d`; then `|x| K = |x K|` and the two sides of `abs_le` are `h1`, `h2`
  rw [e1, e2, ← sub_div, abs_div, abs_of_pos (mul_pos hbq hdq), div_mul_eq_mul_div,
    div_le_div_iff_of_pos_right (mul_pos hbq hdq), ← abs_of_nonneg (Nat.cast_nonneg K : (0 : ℚ) ≤ K), ← abs_mul, abs_le,
    sub_mul, neg_le_sub_iff_le_add, sub_le_iff_le_add]
  exact ⟨h1', by rw [add_comm]; exact h2'⟩

/-- `fl(S · fl(p / q))`: `B / A` is the rounded ratio over the ratio, `D / C` the rounded product over the product.
The relative error is at most `(2^25 + 1) / 2^48`, so for `X < 2^22` the result `D q / W` is closer than 1 to `X`. -/
theorem two_roundings_near {A B C D T W X q : Nat}
    (h1a : A * 2 ^ 24 ≤ B * 2 ^ 24 + A) (h1b : B * 2 ^ 24 ≤ A * 2 ^ 24 + A)
    (h2a : C * 2 ^ 24 ≤ D * 2 ^ 24 + C) (h2b : D * 2 ^ 24 ≤ C * 2 ^ 24 + C)
    (hCB : C * q = T * B) (hTA : T * A = X * W) (hX : X < 2 ^ 22) (hW : 0 < W) :
    D * q < X * W + W ∧ X * W < D * q + W := by
  have g1a := Nat.mul_le_mul_left T h1a
  have g1b := Nat.mul_le_mul_left T h1b
  have g2a := Nat.mul_le_mul_right q h2a
  have g2b := Nat.mul_le_mul_right q h2b
  rw [Nat.mul_add, ← Nat.mul_assoc, ← Nat.mul_assoc, hTA, ← hCB] at g1a g1b
  rw [Nat.add_mul, Nat.mul_right_comm, Nat.mul_right_comm _ _ q] at g2a g2b
  have hXW : X * W ≤ (2 ^ 22 - 1) * W := Nat.mul_le_mul_right W (by omega)
  omega

theorem mulF32_near (S p q : Nat) (hq : 0 < q) (hsp : S * p < 2 ^ 22) :
    0 < (mulF32 S p q).2 ∧ (mulF32 S p q).1 * q < S * p * (mulF32 S p q).2 + (mulF32 S p q).2 ∧
      S * p * (mulF32 S p q).2 < (mulF32 S p q).1 * q + (mulF32 S p q).2 := by
  obtain ⟨hy, h1a, h1b⟩ := roundF32_spec p q hq
  obtain ⟨hz, h2a, h2b⟩ := roundF32_spec (S * (roundF32 p q).1) (roundF32 p q).2 hy
  unfold mulF32
  generalize roundF32 (S * (roundF32 p q).1) (roundF32 p q).2 = z at *
  generalize roundF32 p q = y at *
  have h := two_roundings_near (q := q) (T := S * z.2) (W := z.2 * y.2) (X := S * p) h1a h1b h2a h2b
    (by ac_rfl) (by ac_rfl) hsp (Nat.mul_pos hz hy)
  rw [Nat.mul_right_comm z.1, ← Nat.mul_assoc, ← Nat.add_mul, ← Nat.add_mul] at h
  exact ⟨hz, Nat.lt_of_mul_lt_mul_right h.1, Nat.lt_of_mul_lt_mul_right h.2⟩

end DirectVerif.C11
