import DirectVerif.Lemmas.C15Crash
/-!
# Crash safety of *every* well-formed save table — no Mathlib

A save commits twice: it works on temporaries, renames the checkpoint into place, works on temporaries again, renames the
pointer (`TwoCommits`).  Such an operation list is crash safe whatever it is made of (`TwoCommits.crash_safe`); every table
of `wfTables` instantiates to one (`twoCommits_of_wf`), because an interleaving keeps the order inside the two sequences it
merges and the content of a temporary depends only on the operations on that temporary.
-/
namespace DirectVerif.Ckpt

/-- the names `load('latest')` never reads -/
def isTmp (g : FName) : Prop := g ≠ .last ∧ ∀ j, g ≠ .model j

theorem isTmp_modelTmp (it : Int) : isTmp (.modelTmp it) := ⟨FName.noConfusion, fun _ => FName.noConfusion⟩
theorem isTmp_lastTmp : isTmp .lastTmp := ⟨FName.noConfusion, fun _ => FName.noConfusion⟩

theorem loadLatest_crash_tmp {S} (decode : Bytes → Option S) (d : Dir) {ops p : List FsOp}
    (h : ∀ o ∈ ops, ∀ g, touches o g → isTmp g) (hp : CrashOf ops p) :
    loadLatest decode (run d p) = loadLatest decode d :=
  loadLatest_congr decode d _ (hp.frame d _ fun o ho ht => (h o ho _ ht).1 rfl)
    fun j => hp.frame d _ fun o ho ht => (h o ho _ ht).2 j rfl

/-- `A`, then `model_<it>.pt.tmp` (holding the payload) is renamed into place, then `B`, then `last_model.txt.tmp`
(holding the label) is renamed into place -/
structure TwoCommits (it : Nat) (payload : Bytes) (A B : List FsOp) : Prop where
  tmpA : ∀ o ∈ A, ∀ g, touches o g → isTmp g
  tmpB : ∀ o ∈ B, ∀ g, touches o g → isTmp g
  payload : ∀ d, run d A (.modelTmp it) = some payload
  label : ∀ d, run d (A ++ .replace (.modelTmp it) (.model it) :: B) .lastTmp = some (strInt it)

namespace TwoCommits
variable {S : Type} (decode : Bytes → Option S) {it : Nat} {payload : Bytes} {A B : List FsOp} {s : S}

def ops (it : Nat) (A B : List FsOp) : List FsOp :=
  A ++ .replace (.modelTmp it) (.model it) :: (B ++ [.replace .lastTmp .last])

theorem load_mid (h : TwoCommits it payload A B) (hdec : decode payload = some s) (d : Dir) :
    let d1 := applyOp (run d A) (.replace (.modelTmp it) (.model it))
    d1 (.model it) = some payload ∧
    (loadLatest decode d1 = loadLatest decode d ∨ loadLatest decode d1 = .ok it s) := by
  intro d1
  have e : d1 = ((run d A).set (.model it) (some payload)).set (.modelTmp it) none := applyOp_replace (h.payload d)
  have keep : ∀ g, ¬ isTmp g → g ≠ .model it → d1 g = d g := fun g hg hne => by
    have hne' : g ≠ .modelTmp it := fun e' => hg (e' ▸ isTmp_modelTmp it)
    rw [e, set_other _ _ _ _ hne', set_other _ _ _ _ hne,
      run_frame _ _ _ fun o ho ht => hg (h.tmpA o ho g ht)]
  have hm : d1 (.model it) = some payload := by rw [e, set_other _ _ _ _ FName.noConfusion, set_same]
  refine ⟨hm, ?_⟩
  -- `load d1` differs from `load d` only if the pointer names the new label
  have hl : d1 .last = d .last := keep _ (fun h => h.1 rfl) FName.noConfusion
  unfold loadLatest
  rw [hl]
  cases d .last with
  | none => exact Or.inl rfl
  | some txt =>
    simp only
    cases parseInt (readline txt) with
    | none => exact Or.inl rfl
    | some j =>
      by_cases hj : j = (it : Int)
      · subst hj; right; simp only [hm, hdec]
      · left; simp only [keep (.model j) (fun h => h.2 j rfl) (fun e => hj (FName.model.inj e))]

theorem load_end (h : TwoCommits it payload A B) (hdec : decode payload = some s) (d : Dir) :
    loadLatest decode (run d (ops it A B)) = .ok it s := by
  have e : ops it A B = (A ++ .replace (.modelTmp it) (.model it) :: B) ++ [.replace .lastTmp .last] := by
    simp only [ops, List.append_assoc, List.cons_append]
  rw [e, run_append, run_cons, run_nil, applyOp_replace (h.label d)]
  refine loadLatest_ok_of (txt := strInt it) (b := payload) ?_ (parseInt_strInt it) ?_ hdec
  · rw [set_other _ _ _ _ FName.noConfusion, set_same]
  · rw [set_other _ _ _ _ FName.noConfusion, set_other _ _ _ _ FName.noConfusion, run_append, run_cons,
      run_frame _ B _ fun o ho ht => (h.tmpB o ho _ ht).2 _ rfl]
    exact (h.load_mid decode hdec d).1

/-- **at any crash point `load('latest')` gives what it gave before the save, or the new checkpoint** -/
theorem crash_safe (h : TwoCommits it payload A B) (hdec : decode payload = some s) (d : Dir) (p : List FsOp)
    (hp : CrashOf (ops it A B) p) :
    loadLatest decode (run d p) = loadLatest decode d ∨ loadLatest decode (run d p) = .ok it s := by
  rcases hp.rename_cases with h1 | ⟨q, rfl, hq⟩
  · exact Or.inl (loadLatest_crash_tmp decode d h.tmpA h1)
  · rcases hq.rename_cases with h2 | ⟨q', rfl, hq'⟩
    · rw [run_append, run_cons, loadLatest_crash_tmp decode _ h.tmpB h2]
      exact (h.load_mid decode hdec d).2
    · cases hq'
      exact Or.inr (h.load_end decode hdec d)

end TwoCommits

theorem interleave_filter {α} (p : α → Bool) {X Y A : List α} (h : A ∈ interleave X Y)
    (hX : ∀ x ∈ X, p x = true) (hY : ∀ y ∈ Y, p y = false) :
    A.filter p = X ∧ A.filter (fun a => !p a) = Y := by
  have none_of : ∀ {l : List α}, (∀ y ∈ l, p y = false) → l.filter p = [] ∧ l.filter (fun a => !p a) = l :=
    fun hl => ⟨List.filter_eq_nil_iff.mpr fun y hy => by simp [hl y hy],
      List.filter_eq_self.mpr fun y hy => by simp [hl y hy]⟩
  induction X generalizing Y A with
  | nil =>
    cases List.mem_singleton.mp h
    exact none_of hY
  | cons x xs ih =>
    simp only [interleave, List.mem_flatMap, List.mem_map] at h
    obtain ⟨i, _, r, hr, rfl⟩ := h
    have hx := hX x List.mem_cons_self
    obtain ⟨r1, r2⟩ := ih hr (fun a ha => hX a (List.mem_cons_of_mem _ ha)) (fun a ha => hY a (List.mem_of_mem_drop ha))
    obtain ⟨t1, t2⟩ := none_of (l := Y.take i) fun a ha => hY a (List.mem_of_mem_take ha)
    constructor
    · rw [List.filter_append, t1, List.filter_cons_of_pos hx, r1, List.nil_append]
    · rw [List.filter_append, t2, List.filter_cons_of_neg (by simp [hx]), r2, List.take_append_drop]

/-- the content of `g` after running the operations of a statement list: statements whose operations do not touch `g`
can be left out -/
theorem run_flatMap_filter {α} (f : α → List FsOp) (p : α → Bool) (g : FName) (l : List α)
    (hskip : ∀ a ∈ l, p a = false → ∀ o ∈ f a, ¬ touches o g)
    (hdst : ∀ a ∈ l, ∀ s t, FsOp.replace s t ∈ f a → t ≠ g) (d d' : Dir) (h : d g = d' g) :
    run d (l.flatMap f) g = run d' ((l.filter p).flatMap f) g := by
  induction l generalizing d d' with
  | nil => exact h
  | cons a l ih =>
    have ih' := ih (fun b hb => hskip b (List.mem_cons_of_mem _ hb)) (fun b hb => hdst b (List.mem_cons_of_mem _ hb))
    rw [List.flatMap_cons, run_append]
    cases hp : p a with
    | false =>
      rw [List.filter_cons_of_neg (by simp [hp])]
      exact ih' _ _ ((run_frame _ _ _ (hskip a List.mem_cons_self hp)).trans h)
    | true =>
      rw [List.filter_cons_of_pos hp, List.flatMap_cons, run_append]
      exact ih' _ _ (run_congr _ _ (hdst a List.mem_cons_self) _ _ h)

/-- the file a statement opens, writes or closes -/
def Stmt.file : Stmt → Option FKind
  | .openW f | .writePayload f | .writeLabel f | .closeF f => some f
  | _ => none

theorem instStmt_file (it : Int) (chunks : List Bytes) {st : Stmt} {f : FKind} (h : st.file = some f) :
    ∀ o ∈ instStmt it chunks st, (∀ g, touches o g → g = f.name it) ∧ ∀ s t, o ≠ .replace s t := by
  intro o ho
  cases st with
  | openW f' => cases h; cases List.mem_singleton.mp ho; exact ⟨fun _ hg => hg, fun _ _ => FsOp.noConfusion⟩
  | writePayload f' =>
    cases h; obtain ⟨c, _, rfl⟩ := List.mem_map.mp ho; exact ⟨fun _ hg => hg, fun _ _ => FsOp.noConfusion⟩
  | writeLabel f' => cases h; cases List.mem_singleton.mp ho; exact ⟨fun _ hg => hg, fun _ _ => FsOp.noConfusion⟩
  | closeF f' => cases h; cases List.mem_singleton.mp ho; exact ⟨fun _ hg => hg.elim, fun _ _ => FsOp.noConfusion⟩
  | replace a b => cases h
  | prune => cases h

theorem seqLast_file : ∀ st ∈ seqLast, st.file = some .lastTmp := by decide

theorem opsOf_tmp (it : Int) (chunks : List Bytes) (l : List Stmt)
    (hl : ∀ st ∈ l, st.file = some .modelTmp ∨ st.file = some .lastTmp) :
    ∀ o ∈ opsOf l it chunks, ∀ g, touches o g → isTmp g := by
  intro o ho g hg
  obtain ⟨st, hst, ho⟩ := List.mem_flatMap.mp ho
  rcases hl st hst with h | h
  · exact (instStmt_file it chunks h o ho).1 g hg ▸ isTmp_modelTmp it
  · exact (instStmt_file it chunks h o ho).1 g hg ▸ isTmp_lastTmp

/-- the content of the temporary `f` after a statement list: only the statements on `f` matter — when every statement works
on one file, or is the rename of the checkpoint while `f` is the temporary of the pointer -/
theorem run_opsOf_file (it : Int) (chunks : List Bytes) (f : FKind) (l : List Stmt)
    (hl : ∀ st ∈ l, st.file.isSome = true ∨ (st = .replace .modelTmp .model ∧ f = .lastTmp)) (d : Dir) :
    run d (opsOf l it chunks) (f.name it)
      = run d (opsOf (l.filter fun st => decide (st.file = some f)) it chunks) (f.name it) := by
  have name_inj : ∀ {f' : FKind}, f.name it = f'.name it → f = f' := fun {f'} h => by
    cases f <;> cases f' <;> first | rfl | cases h
  refine run_flatMap_filter _ _ _ l (fun st hst hp o ho ht => ?_) (fun st hst s t hm => ?_) d d rfl
  · rcases hl st hst with h | ⟨rfl, rfl⟩
    · obtain ⟨f', hf'⟩ := Option.isSome_iff_exists.mp h
      exact of_decide_eq_false hp (hf' ▸ congrArg some (name_inj ((instStmt_file it chunks hf' o ho).1 _ ht)).symm)
    · cases List.mem_singleton.mp ho
      rcases ht with ht | ht <;> cases ht
  · rcases hl st hst with h | ⟨rfl, rfl⟩
    · obtain ⟨f', hf'⟩ := Option.isSome_iff_exists.mp h
      exact absurd rfl ((instStmt_file it chunks hf' _ hm).2 s t)
    · cases List.mem_singleton.mp hm
      exact FName.noConfusion

theorem twoCommits_of_wf {t : List Stmt} (hwf : wfSave t = true) (it : Nat) (chunks : List Bytes) :
    ∃ A B, TwoCommits it chunks.flatten A B ∧ opsOf t it chunks = TwoCommits.ops it A B := by
  have hmem := List.contains_iff_mem.mp hwf
  simp only [wfTables, List.mem_flatMap, List.mem_map] at hmem
  obtain ⟨i, _, a, ha, rfl⟩ := hmem
  have hne : some FKind.lastTmp ≠ some FKind.modelTmp := by decide
  -- `a` merges `seqModel` with the first `i` statements of `seqLast`; the other statements of `seqLast` follow the rename
  obtain ⟨aM, aL⟩ := interleave_filter (fun st : Stmt => decide (st.file = some .modelTmp)) ha
    (fun st hs => decide_eq_true ((by decide : ∀ st ∈ seqModel, st.file = some .modelTmp) st hs))
    (fun st hs => decide_eq_false (seqLast_file st (List.mem_of_mem_take hs) ▸ hne))
  have hfile : ∀ st ∈ a, st.file = some .modelTmp ∨ st.file = some .lastTmp := fun st hst => by
    by_cases hp : st.file = some .modelTmp
    · exact Or.inl hp
    · have : st ∈ seqLast.take i := aL ▸ List.mem_filter.mpr ⟨hst, by simp only [hp, decide_false, Bool.not_false]⟩
      exact Or.inr (seqLast_file st (List.mem_of_mem_take this))
  have hsome : ∀ st ∈ a, st.file.isSome = true := fun st hst => by
    rcases hfile st hst with h | h <;> rw [h] <;> rfl
  have hdrop : ∀ st ∈ seqLast.drop i, st.file = some .lastTmp := fun st hst => seqLast_file st (List.mem_of_mem_drop hst)
  refine ⟨opsOf a it chunks, opsOf (seqLast.drop i) it chunks,
    ⟨opsOf_tmp it chunks a hfile, opsOf_tmp it chunks _ fun st hst => Or.inr (hdrop st hst), fun d => ?_, fun d => ?_⟩, ?_⟩
  · -- the temporary of the checkpoint: `seqModel` opens it, writes the chunks, closes it
    refine (run_opsOf_file it chunks .modelTmp a (fun st hst => Or.inl (hsome st hst)) d).trans ?_
    rw [aM]
    show run d ((.openTrunc (.modelTmp it) :: chunks.map (.write (.modelTmp it))) ++ [.close (.modelTmp it)]) _ = _
    rw [run_append, run_cons, run_nil]
    exact run_open_writes d _ chunks
  · -- the temporary of the pointer: the statements of `seqLast`, wherever they stand
    have e : opsOf a it chunks ++ .replace (.modelTmp it) (.model it) :: opsOf (seqLast.drop i) it chunks
        = opsOf (a ++ .replace .modelTmp .model :: seqLast.drop i) it chunks := by
      rw [opsOf, opsOf, opsOf, List.flatMap_append, List.flatMap_cons]; rfl
    have hl : (a ++ .replace .modelTmp .model :: seqLast.drop i).filter (fun st : Stmt => decide (st.file = some .lastTmp))
        = seqLast := by
      have hflip : a.filter (fun st : Stmt => decide (st.file = some .lastTmp))
          = a.filter (fun st : Stmt => !decide (st.file = some .modelTmp)) :=
        List.filter_congr fun st hst => by rcases hfile st hst with h | h <;> rw [h] <;> rfl
      rw [List.filter_append, hflip, aL, List.filter_cons_of_neg (by decide),
        List.filter_eq_self.mpr fun st hst => decide_eq_true (hdrop st hst), List.take_append_drop]
    rw [e]
    refine (run_opsOf_file it chunks .lastTmp _ (fun st hst => ?_) d).trans ?_
    · rcases List.mem_append.mp hst with h | h
      · exact Or.inl (hsome st h)
      · rcases List.mem_cons.mp h with rfl | h
        · exact Or.inr ⟨rfl, rfl⟩
        · exact Or.inl (by rw [hdrop st h]; rfl)
    · rw [hl]; rfl
  · rw [TwoCommits.ops, opsOf, opsOf, opsOf, List.flatMap_append, List.flatMap_append, List.flatMap_append,
      List.append_assoc, List.append_assoc]
    rfl

theorem saveTable_wf : wfSave saveTable = true := by decide

/-- **`wfSave t` ⇒ one save by table `t` is crash safe**, from any directory, at any crash point -/
theorem crash_safe_of_wf {S} (decode : Bytes → Option S) (t : List Stmt) (hwf : wfSave t = true)
    (d : Dir) (it : Nat) (chunks : List Bytes) (s : S) (hdec : decode chunks.flatten = some s)
    (p : List FsOp) (hp : CrashOf (opsOf t it chunks) p) :
    loadLatest decode (run d p) = loadLatest decode d ∨ loadLatest decode (run d p) = .ok it s := by
  obtain ⟨A, B, h, e⟩ := twoCommits_of_wf hwf it chunks
  exact h.crash_safe decode hdec d p (e ▸ hp)

theorem save_then_load_of_wf {S} (decode : Bytes → Option S) (t : List Stmt) (hwf : wfSave t = true)
    (d : Dir) (it : Nat) (chunks : List Bytes) (s : S) (hdec : decode chunks.flatten = some s) :
    loadLatest decode (run d (opsOf t it chunks)) = .ok it s := by
  obtain ⟨A, B, h, e⟩ := twoCommits_of_wf hwf it chunks
  exact e ▸ h.load_end decode hdec d

end DirectVerif.Ckpt
