import DirectVerif.Lemmas.C11Fill
/-!
# C11 — every splitter is `finish` on a raw target inside the free cells

`_gaussian_split`, `_uniform_split` and (after rearranging) `_half_split` all end in `input = mask' & ~target`,
`| acs` on both (`finish`), applied to a raw target `t0 ⊆ freeMask`.  So union, disjointness, protected region and
kept ACS are proved once, about `finish`, by one truth table; each splitter only has to exhibit its `t0`.
-/
namespace DirectVerif.C11
open DirectVerif DirectVerif.SslSplit

-- the protected region is `temp_mask[cx - a0//2 : cx + a0//2, cy - a1//2 : cy + a1//2]`, Python slices

theorem mem_slice_range (n lo hi i : Nat) : i ∈ slice (List.range n) lo hi ↔ lo ≤ i ∧ i < hi ∧ i < n := by
  unfold slice
  rw [List.take_range, List.range_eq_range', List.drop_range', List.mem_range'_1]
  omega

theorem mem_pySlice_range (n : Nat) (lo hi : Int) (i : Nat) :
    i ∈ pySlice (List.range n) lo hi ↔
      (if lo < 0 then max (lo + n) 0 else min lo n) ≤ i ∧ (i : Int) < (if hi < 0 then max (hi + n) 0 else min hi n) ∧
        i < n := by
  unfold pySlice
  simp only [List.length_range]
  rw [mem_slice_range]
  generalize (if lo < 0 then max (lo + (n : Int)) 0 else min lo n) = L
  generalize (if hi < 0 then max (hi + (n : Int)) 0 else min hi n) = H
  omega

/-- `hw` (no wrap-around) holds in particular for every `a ≤ n` -/
theorem mem_regionIdx (n : Nat) (a : Int) (i : Nat) (ha : 0 ≤ a) (hw : a / 2 ≤ (n : Int) / 2) :
    i ∈ regionIdx n a ↔ (n : Int) / 2 - a / 2 ≤ i ∧ (i : Int) < (n : Int) / 2 + a / 2 ∧ i < n := by
  unfold regionIdx regionLo regionHi centre
  rw [mem_pySlice_range, if_neg (by omega), if_neg (by omega)]
  omega

/-- beyond the mask the start of the Python slice is negative and wraps around -/
theorem mem_regionIdx_wrap (n : Nat) (a : Int) (i : Nat) (hw : (n : Int) / 2 < a / 2) :
    i ∈ regionIdx n a ↔ max ((n : Int) / 2 - a / 2 + n) 0 ≤ i ∧ (i : Int) < (n : Int) / 2 + a / 2 ∧ i < n := by
  unfold regionIdx regionLo regionHi centre
  rw [mem_pySlice_range, if_pos (by omega), if_neg (by omega)]
  omega

theorem length_clearProtected (nrow ncol : Nat) (a0 a1 : Int) (g : Grid) :
    (clearProtected nrow ncol a0 a1 g).length = g.length := by simp [clearProtected]

theorem cell_clearProtected (nrow ncol : Nat) (a0 a1 : Int) (g : Grid) (k : Nat) :
    cell (clearProtected nrow ncol a0 a1 g) k = (cell g k && !protectedCell nrow ncol a0 a1 k) := by
  unfold clearProtected protectedCell
  exact cell_mapIdx g _ (fun _ => by simp) k

theorem length_protectedGrid (nrow ncol : Nat) (a0 a1 : Int) (len : Nat) :
    (protectedGrid nrow ncol a0 a1 len).length = len := by simp [protectedGrid]

theorem cell_protectedGrid {nrow ncol : Nat} {a0 a1 : Int} {len k : Nat} (hk : k < len) :
    cell (protectedGrid nrow ncol a0 a1 len) k = protectedCell nrow ncol a0 a1 k := by
  rw [cell_eq_getElem _ k (by simpa [protectedGrid] using hk)]
  simp [protectedGrid, protectedCell]

theorem length_reducedMask {keep : Bool} {mask acs : Grid} (hl : acs.length = mask.length) :
    (reducedMask keep mask acs).length = mask.length := by
  cases keep <;> simp [reducedMask, hl]

theorem cell_reducedMask {keep : Bool} {mask acs : Grid} (hl : acs.length = mask.length) (k : Nat) :
    cell (reducedMask keep mask acs) k = (cell mask k && !(keep && cell acs k)) := by
  cases keep
  · simp [reducedMask]
  · simp only [reducedMask, if_true, Bool.true_and]
    exact cell_gAndNot mask acs hl.symm k

theorem length_freeMask {keep : Bool} {a0 a1 : Int} {nrow ncol : Nat} {mask acs : Grid}
    (hl : acs.length = mask.length) : (freeMask keep a0 a1 nrow ncol mask acs).length = mask.length := by
  cases keep
  · simp [freeMask, length_clearProtected, length_reducedMask hl]
  · simp [freeMask, length_reducedMask hl]

theorem cell_freeMask {keep : Bool} {a0 a1 : Int} {nrow ncol : Nat} {mask acs : Grid}
    (hl : acs.length = mask.length) (k : Nat) :
    cell (freeMask keep a0 a1 nrow ncol mask acs) k =
      (cell mask k && !(keep && cell acs k) && !(!keep && protectedCell nrow ncol a0 a1 k)) := by
  cases keep
  · simp [freeMask, cell_clearProtected, cell_reducedMask hl]
  · simp [freeMask, cell_reducedMask hl]

theorem free_sub_reduced (keep : Bool) (a0 a1 : Int) (nrow ncol : Nat) (mask acs : Grid)
    (hl : acs.length = mask.length) : Sub (freeMask keep a0 a1 nrow ncol mask acs) (reducedMask keep mask acs) := by
  intro k hk
  rw [cell_freeMask hl] at hk
  rw [cell_reducedMask hl]
  exact (Bool.and_eq_true_iff.mp hk).1

section Finish
variable {keep : Bool} {a0 a1 : Int} {nrow ncol : Nat} {mask acs t0 i t : Grid}
  (hl : acs.length = mask.length) (ht : t0.length = mask.length)
  (hs : Sub t0 (freeMask keep a0 a1 nrow ncol mask acs))
  (hf : finish keep (reducedMask keep mask acs) acs t0 = (i, t))
include hl ht hs hf

theorem finish_cells (k : Nat) :
    (i.length = mask.length ∧ t.length = mask.length) ∧
    cell i k = (cell mask k && !(keep && cell acs k) && !cell t0 k || keep && cell acs k) ∧
    cell t k = (cell t0 k || keep && cell acs k) ∧
    (cell t0 k = true →
      (cell mask k && !(keep && cell acs k) && !(!keep && protectedCell nrow ncol a0 a1 k)) = true) := by
  have hr := length_reducedMask (keep := keep) hl
  have hc := cell_reducedMask (keep := keep) hl k
  have hk := hs k
  rw [cell_freeMask hl] at hk
  cases keep
  · obtain ⟨rfl, rfl⟩ := Prod.mk.inj hf
    refine ⟨⟨by simp [hr, ht], ht⟩, ?_, (Bool.or_false _).symm, hk⟩
    rw [cell_gAndNot _ _ (hr.trans ht.symm), hc]
    exact (Bool.or_false _).symm
  · obtain ⟨rfl, rfl⟩ := Prod.mk.inj hf
    refine ⟨⟨by simp [hr, ht, hl], by simp [ht, hl]⟩, ?_, cell_gOr _ _ (ht.trans hl.symm) k, hk⟩
    rw [cell_gOr _ _ (by simp [hr, ht, hl]), cell_gAndNot _ _ (hr.trans ht.symm), hc]
    rfl

omit hl ht hs hf in
/-- cells `m` of the mask, `a` of the ACS mask, `x` of the raw target, `p` of the protected region -/
theorem split_bool : ∀ (keep m a x p : Bool), (x = true → (m && !(keep && a) && !(!keep && p)) = true) →
    ((m && !(keep && a) && !x || keep && a) || (x || keep && a)) = (m || keep && a) ∧
    ((m && !(keep && a) && !x || keep && a) && (x || keep && a)) = (keep && a) ∧
    x = ((x || keep && a) && !(keep && a)) ∧
    (keep = false → p = true → m = true → (m && !(keep && a) && !x || keep && a) = true ∧ (x || keep && a) = false) := by
  decide +kernel

theorem finish_union : gOr i t = if keep then gOr mask acs else mask := by
  obtain ⟨li, lt⟩ := (finish_cells hl ht hs hf 0).1
  apply eq_of_cells
  · cases keep <;> simp [li, lt, hl]
  · intro k
    obtain ⟨_, ci, ct, hk⟩ := finish_cells hl ht hs hf k
    rw [cell_gOr i t (li.trans lt.symm), ci, ct, (split_bool _ _ _ _ _ hk).1]
    cases keep
    · exact Bool.or_false _
    · exact (cell_gOr mask acs hl.symm k).symm

theorem finish_disjoint : gAnd i t = if keep then acs else zeros mask.length := by
  obtain ⟨li, lt⟩ := (finish_cells hl ht hs hf 0).1
  apply eq_of_cells
  · cases keep <;> simp [li, lt, hl]
  · intro k
    obtain ⟨_, ci, ct, hk⟩ := finish_cells hl ht hs hf k
    rw [cell_gAnd i t (li.trans lt.symm), ci, ct, (split_bool _ _ _ _ _ hk).2.1]
    cases keep
    · exact (cell_zeros _ k).symm
    · rfl

theorem finish_target (k : Nat) : cell t0 k = (cell t k && !(keep && cell acs k)) := by
  obtain ⟨_, -, ct, hk⟩ := finish_cells hl ht hs hf k
  rw [ct]
  exact (split_bool _ _ _ _ _ hk).2.2.1

theorem finish_protected (hkeep : keep = false) (k : Nat) (hp : protectedCell nrow ncol a0 a1 k = true)
    (hm : cell mask k = true) : cell i k = true ∧ cell t k = false := by
  obtain ⟨_, ci, ct, hk⟩ := finish_cells hl ht hs hf k
  rw [ci, ct]
  exact (split_bool _ _ _ _ _ hk).2.2.2 hkeep hp hm

theorem finish_acs_kept (hkeep : keep = true) (k : Nat) (ha : cell acs k = true) :
    cell i k = true ∧ cell t k = true := by
  obtain ⟨_, ci, ct, -⟩ := finish_cells hl ht hs hf k
  rw [ci, ct, ha, hkeep]
  exact ⟨Bool.or_true _, Bool.or_true _⟩

end Finish

theorem target_cell_free {keep : Bool} {a0 a1 : Int} {nrow ncol : Nat} {mask acs t0 t : Grid}
    (hl : acs.length = mask.length) (h1 : ∀ k, cell t0 k = (cell t k && !(keep && cell acs k)))
    (hs : Sub t0 (freeMask keep a0 a1 nrow ncol mask acs)) (k : Nat)
    (hk : cell t k = true) (ha : (keep && cell acs k) = false) :
    cell mask k = true ∧ (keep = false → protectedCell nrow ncol a0 a1 k = false) := by
  have h := hs k (by rw [h1 k, hk, ha]; rfl)
  rw [cell_freeMask hl, ha] at h
  simp only [Bool.not_false, Bool.and_true, Bool.and_eq_true, Bool.not_eq_true', Bool.and_eq_false_imp] at h
  exact ⟨h.1, fun hkeep => h.2 (by rw [hkeep])⟩

-- `uniform_fill` (`direct/ssl/mask_fillers.py`)

theorem setAll_spec (chosen : List Nat) : ∀ (out : Grid), chosen.Nodup →
    (∀ k ∈ chosen, k < out.length ∧ cell out k = false) →
    (setAll out chosen).length = out.length ∧ cnt (setAll out chosen) = cnt out + chosen.length ∧
      ∀ j, cell (setAll out chosen) j = true → cell out j = true ∨ j ∈ chosen := by
  induction chosen with
  | nil => intro out _ _; exact ⟨rfl, rfl, fun j h => Or.inl h⟩
  | cons k ks ih =>
    intro out hn h
    obtain ⟨hk, hc⟩ := h k List.mem_cons_self
    obtain ⟨hnk, hn'⟩ := List.nodup_cons.mp hn
    obtain ⟨i1, i2, i3⟩ := ih (out.set k true) hn' fun k' hk' => by
      obtain ⟨h1, h2⟩ := h k' (List.mem_cons_of_mem _ hk')
      have hne : k ≠ k' := fun e => hnk (e ▸ hk')
      exact ⟨by simpa using h1, by rw [cell_set_true _ _ _ hk, h2]; simp [hne]⟩
    refine ⟨by rw [setAll, List.foldl_cons, ← setAll, i1, List.length_set], ?_, fun j hj => ?_⟩
    · rw [setAll, List.foldl_cons, ← setAll, i2, cnt_set_true _ _ hk hc, List.length_cons]; omega
    · rw [setAll, List.foldl_cons, ← setAll] at hj
      rcases i3 j hj with h' | h'
      · rw [cell_set_true _ _ _ hk, Bool.or_eq_true, decide_eq_true_eq] at h'
        exact h'.elim (fun e => Or.inr (e ▸ List.mem_cons_self)) Or.inl
      · exact Or.inr (List.mem_cons_of_mem _ h')

theorem validChoice_spec {count : Nat} {free : Grid} {chosen : List Nat} (h : validChoice count free chosen = true) :
    chosen.length = count ∧ chosen.Nodup ∧ ∀ k ∈ chosen, cell free k = true := by
  simp only [validChoice, Bool.and_eq_true, beq_iff_eq, decide_eq_true_eq, List.all_eq_true] at h
  exact ⟨h.1.1, h.1.2, fun k hk => h.2 k hk⟩

/-- the `if` is the early return of `uniform_fill` (zeros, no draw) -/
theorem uniformFill_ok {count : Nat} {free : Grid} {chosen : List Nat} {t : Grid}
    (h : uniformFill count free chosen = .ok t) :
    t.length = free.length ∧ Sub t free ∧ cnt t = (if count = 0 ∨ cnt free = 0 then 0 else count) := by
  unfold uniformFill at h
  split at h
  · rename_i h0
    injection h with h; subst h
    refine ⟨by simp, ?_, by simp [cnt_zeros, h0]⟩
    intro k hk
    rw [cell_zeros] at hk; cases hk
  · rename_i h0
    split at h
    · cases h
    · rename_i hv
      injection h with h; subst h
      obtain ⟨h1, h2, h3⟩ := validChoice_spec (by simpa using hv)
      obtain ⟨s1, s2, s3⟩ := setAll_spec chosen (zeros free.length) h2 fun k hk =>
        ⟨by simpa using cell_true_lt _ _ (h3 k hk), cell_zeros _ _⟩
      refine ⟨by rw [s1, length_zeros], fun k hk => ?_, ?_⟩
      · rcases s3 k hk with h' | h'
        · rw [cell_zeros] at h'; cases h'
        · exact h3 k h'
      · rw [s2, cnt_zeros, h1, if_neg h0, Nat.zero_add]

theorem uniformFill_total {count : Nat} {free : Grid} {chosen : List Nat}
    (hv : validChoice count free chosen = true) : ∃ t, uniformFill count free chosen = .ok t := by
  unfold uniformFill
  split
  · exact ⟨_, rfl⟩
  · rw [hv]; exact ⟨_, rfl⟩

theorem cell_halfParts {d : Dir} {xs ys : List Int} {nrow ncol : Nat} {mask : Grid} (k : Nat) :
    cell (halfParts d xs ys nrow ncol mask).1 k = (cell mask k && inputSideC d xs ys nrow ncol (k / ncol) (k % ncol)) ∧
    cell (halfParts d xs ys nrow ncol mask).2 k = (cell mask k && !inputSideC d xs ys nrow ncol (k / ncol) (k % ncol)) := by
  unfold halfParts
  exact ⟨cell_mapIdx mask _ (fun _ => by simp) k, cell_mapIdx mask _ (fun _ => by simp) k⟩

theorem length_halfParts (d : Dir) (xs ys : List Int) (nrow ncol : Nat) (mask : Grid) :
    (halfParts d xs ys nrow ncol mask).1.length = mask.length ∧ (halfParts d xs ys nrow ncol mask).2.length = mask.length := by
  simp [halfParts]

/-- cells `m` of the mask, `s` input side, `a` ACS, `p` protected region; without `keep_acs`, then with it -/
theorem half_bool : ∀ (m s a p : Bool),
    (m && !(m && !(false && a) && !(!false && p) && !s)) = (m && s || m && p) ∧
    (m && !(false && a) && !(!false && p) && !s) = (m && !s && !p) ∧
    (m && !a && !(m && !(true && a) && !(!true && p) && !s) || a) = (m && s || a) ∧
    (m && !(true && a) && !(!true && p) && !s || a) = (m && !s || a) := by
  decide

/-- `t0` is the free cells on the target side; `_half_split` computes `input | (mask & protected)`,
`target & ~protected` (resp. `| acs`) instead, equal cell by cell -/
theorem halfSplit_some (d : Dir) (xs ys : List Int) (keep : Bool) (a0 a1 : Int) (nrow ncol : Nat) {mask acs : Grid}
    (hl : acs.length = mask.length) :
    ∃ t0, t0.length = mask.length ∧ Sub t0 (freeMask keep a0 a1 nrow ncol mask acs) ∧
      finish keep (reducedMask keep mask acs) acs t0 = halfSplit d xs ys keep a0 a1 nrow ncol mask acs := by
  have hlen : (freeMask keep a0 a1 nrow ncol mask acs).length = mask.length := length_freeMask hl
  have hp := length_halfParts d xs ys nrow ncol mask
  have hg := length_protectedGrid nrow ncol a0 a1 mask.length
  obtain ⟨t0, e⟩ : ∃ t0, t0 = (freeMask keep a0 a1 nrow ncol mask acs).mapIdx fun k b =>
    b && !inputSideC d xs ys nrow ncol (k / ncol) (k % ncol) := ⟨_, rfl⟩
  have len : t0.length = mask.length := by rw [e, List.length_mapIdx, hlen]
  have cells : ∀ k, cell t0 k = (cell (freeMask keep a0 a1 nrow ncol mask acs) k &&
      !inputSideC d xs ys nrow ncol (k / ncol) (k % ncol)) := fun k => by rw [e, cell_mapIdx _ _ (fun _ => rfl)]
  refine ⟨t0, len, fun k hk => ?_, ?_⟩
  · rw [cells] at hk
    exact (Bool.and_eq_true_iff.mp hk).1
  · cases keep
    · simp only [finish, halfSplit, reducedMask, Bool.false_eq_true, if_false]
      congr 1
      · apply eq_of_cells _ _ (by simp [len, hp.1, hg])
        intro k
        rw [cell_gAndNot _ _ len.symm, cells, cell_freeMask hl, cell_gOr _ _ (by simp [hp.1, hg]),
          cell_gAnd _ _ hg.symm, (cell_halfParts k).1]
        cases hm : cell mask k
        · rfl
        · rw [cell_protectedGrid (cell_true_lt _ _ hm)]
          exact (half_bool _ _ _ _).1
      · apply eq_of_cells _ _ (by simp [len, hp.2, hg])
        intro k
        rw [cells, cell_freeMask hl, cell_gAndNot _ _ (hp.2.trans hg.symm), (cell_halfParts k).2]
        cases hm : cell mask k
        · rfl
        · rw [cell_protectedGrid (cell_true_lt _ _ hm)]
          exact (half_bool _ _ _ _).2.1
    · simp only [finish, halfSplit, reducedMask, if_true]
      congr 1
      · apply eq_of_cells _ _ (by simp [len, hl, hp.1])
        intro k
        rw [cell_gOr _ _ (by simp [len, hl]), cell_gAndNot _ _ (by simp [len, hl]), cell_gAndNot _ _ hl.symm, cells,
          cell_freeMask hl, cell_gOr _ _ (hp.1.trans hl.symm),
          (cell_halfParts k).1]
        exact (half_bool _ _ _ _).2.2.1
      · apply eq_of_cells _ _ (by simp [len, hl, hp.2])
        intro k
        rw [cell_gOr _ _ (len.trans hl.symm), cells, cell_freeMask hl,
          cell_gOr _ _ (hp.2.trans hl.symm), (cell_halfParts k).2]
        exact (half_bool _ _ _ _).2.2.2

theorem getD_applyMaskK (cells : Nat) (m : Grid) (k : List Int) (idx : Nat) :
    (applyMaskK cells m k).getD idx 0 = if cell m ((idx / 2) % cells) then k.getD idx 0 else 0 := by
  simp only [applyMaskK, cell, List.getD_eq_getElem?_getD, List.getElem?_mapIdx]
  cases k[idx]? <;> simp

theorem length_applyMaskK (cells : Nat) (m : Grid) (k : List Int) : (applyMaskK cells m k).length = k.length := by
  simp [applyMaskK]

theorem getD_zipWith_add (a b : List Int) (h : a.length = b.length) (idx : Nat) :
    (List.zipWith (fun x y => x + y) a b).getD idx 0 = a.getD idx 0 + b.getD idx 0 :=
  getD_zipWith _ a b 0 0 0 rfl h idx

end DirectVerif.C11
