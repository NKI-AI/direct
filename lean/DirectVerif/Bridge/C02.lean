import DirectVerif.Gen.C02
import DirectVerif.Model.Complex
/-!
# Bridge C02 — the formulas / tensor expressions translated from `/repo` equal the hand-written model

* component formulas of `complex_multiplication` and of the numerators / denominator of
  `complex_division`, the sign in `conjugate` (over `Int`; they agree with the model up to unfolding);
* `safe_divide` (generic scalar);
* the tensor expressions of `complex_dot_product`, `reduce_operator` (which operand is conjugated,
  which axis is summed), `expand_operator` (which operand is unsqueezed, where), `modulus`,
  `root_sum_of_squares` — definitional equalities;
* the order `[real, imaginary]` in which the two parts are concatenated on the last axis.
-/
namespace DirectVerif.Bridge.C02
open DirectVerif DirectVerif.Cx DirectVerif.Gen.C02

theorem complex_multiplication_eq (a b c d : Int) :
    (⟨complex_multiplication_re a b c d, complex_multiplication_im a b c d⟩ : Cpx Int) = cmul ⟨a, b⟩ ⟨c, d⟩ := by
  simp only [complex_multiplication_re, complex_multiplication_im, cmul]

theorem complex_division_num_eq (a b c d : Int) :
    (⟨complex_division_num_re a b c d, complex_division_num_im a b c d⟩ : Cpx Int) = cdivNum ⟨a, b⟩ ⟨c, d⟩ := by
  simp only [complex_division_num_re, complex_division_num_im, cdivNum]

theorem complex_division_den_eq (a b c d : Int) :
    complex_division_den_re a b c d = cdivDen (⟨c, d⟩ : Cpx Int) ∧
    complex_division_den_im a b c d = cdivDen (⟨c, d⟩ : Cpx Int) := by
  simp only [complex_division_den_re, complex_division_den_im, cdivDen, and_self]

theorem conjugate_eq (re im : Int) : (⟨re, conjugate_im im⟩ : Cpx Int) = conj ⟨re, im⟩ := by
  simp only [conjugate_im, conj, Int.mul_neg, Int.mul_one]

/-- *zero*, not the numerator, where the divisor is zero -/
theorem safe_divide_eq {R : Type} [Zero R] [One R] [Add R] [Mul R] [Div R] [DecidableEq R] (a b : R) :
    safe_divide a b = safeDiv a b := rfl

/-- over `Rat`, the scalars the driver executes with -/
theorem complex_division_eq (a b : Cpx Rat) :
    (⟨safe_divide (cdivNum a b).re (cdivDen b), safe_divide (cdivNum a b).im (cdivDen b)⟩ : Cpx Rat) = cdiv a b := rfl

section
variable {R : Type} [Add R] [Sub R] [Mul R] [Neg R] [Zero R] [Inhabited R]

theorem complex_dot_product_eq (a b : Tensor (Cpx R)) (dim : List Int) : complex_dot_product a b dim = cdotT a b dim := rfl

theorem reduce_operator_eq (y s : Tensor (Cpx R)) (dim : Int) : reduce_operator y s dim = reduceOp y s dim := rfl

theorem expand_operator_eq (x s : Tensor (Cpx R)) (dim : Int) : expand_operator x s dim = expandOp x s dim := rfl

theorem modulus_sq_eq (t : Tensor R) (ax : Int) : modulus_sq t ax = modSqAxis t ax := rfl

theorem root_sum_of_squares_sq_eq (t : Tensor R) (dim cdim : Int) :
    root_sum_of_squares_sq t dim cdim = rssSqReal t dim cdim := rfl
end

theorem complex_multiplication_cat_eq : complex_multiplication_cat = ["real_part", "imaginary_part"] := rfl
theorem complex_division_cat_eq : complex_division_cat = ["real_part", "imaginary_part"] := rfl

/-- every call of `reduce_operator` / `expand_operator` / `root_sum_of_squares` and every inline re-implementation under
`direct/`: the axis is the class's coil-dimension attribute / a `coil_dim` parameter (or a literal equal to the declared
value), an inline reduce conjugates the sensitivity map and not the data, an inline expand unsqueezes the image and not
the sensitivity map, an inline rss sums the complex axis first -/
theorem coil_sites_wf : coil_sites.all CoilSite.wf = true := by decide +kernel

/-- no method the oracle runs on the real classes has lost its coil-operator site -/
theorem coil_sites_methods_present :
    coil_sites = [] ∨ oracleMethods.all (fun f => coil_sites.any (fun s => s.func == f)) = true := by decide +kernel

/-- the helpers reachable from the C02 operators (call-graph closure `helper_closure`) keep no state that survives a call:
no caching decorator, no `global` / `nonlocal`, no module-level non-constant binding, no function attribute, no mutable
default argument — which is what the per-line driver presupposes -/
theorem helper_state_uses_none : helper_state_uses = [] := by decide

/-- the closure was computed from the operators the property names -/
theorem helper_closure_covers :
    ["complex_multiplication", "complex_division", "safe_divide", "conjugate", "modulus", "complex_dot_product", "complex_mm",
     "complex_bmm", "root_sum_of_squares", "reduce_operator", "expand_operator"].all (helper_closure.contains ·) = true := by decide +kernel

/-- the same functions are size-uniform: no test on a shape, size, numel, len or ndim, no loop, no call that cuts a tensor
into pieces — one formula for every shape, as `expandOp_spec` / `reduceOp_spec` describe; a coil-count threshold or a
chunked accumulation is a different algorithm per size class (`Props/C02.grouped_reduce_drops_tail`) -/
theorem helper_size_branches_none : helper_size_branches = [] := by decide

end DirectVerif.Bridge.C02
