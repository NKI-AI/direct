import DirectVerif.Model.C14Loop
/-!
The assembly loop of `reconstruct_volumes`.  The invariant is stated once, for the loop that also carries the loss
list (`reconstructL`): in the middle of a volume the state is `midState` (what has been delivered, then zeros),
a batch of the same file extends it, the batch that completes the volume yields it.  The loop without the loss
list (`reconstruct`) is the erasure of `reconstructL`, so its specification is the special case `ℓ = Unit`.
-/
namespace DirectVerif.Recon
open DirectVerif

theorem filenameOf_replicate (n f : Nat) (h : 0 < n) : filenameOf (List.replicate n f) = some f := by
  cases n with
  | zero => exact absurd h (Nat.lt_irrefl 0)
  | succ n => rw [List.replicate_succ, filenameOf, if_pos (List.all_eq_true.mpr fun x hx => by
      rw [List.eq_of_mem_replicate hx]; exact beq_self_eq_true f)]

/-- the loop state in the middle of volume `f` of size `N`: the slices `done` written, the rest of `curr_volume`
still zero, `slice_counter = |done|` -/
def midState {β} (zero : β) (f N : Nat) (done : List β) : RState β :=
  ⟨some f, some (done ++ List.replicate (N - done.length) zero), done.length, N⟩

theorem writeSlice_fill {β} (zero : β) (done p : List β) (N : Nat) (h : done.length + p.length ≤ N) :
    writeSlice (done ++ List.replicate (N - done.length) zero) done.length p =
      some ((done ++ p) ++ List.replicate (N - (done ++ p).length) zero) := by
  have hd : done.length ≤ N := Nat.le_trans (Nat.le_add_right _ _) h
  have hl : (done ++ List.replicate (N - done.length) zero).length = N := by
    rw [List.length_append, List.length_replicate, Nat.add_sub_of_le hd]
  unfold writeSlice
  simp only [hl]
  rw [Nat.min_eq_left hd, Nat.min_eq_left h, Nat.add_sub_cancel_left, if_pos rfl,
    List.take_left' rfl, List.drop_append, List.drop_eq_nil_of_le (Nat.le_add_right _ _), List.nil_append,
    Nat.add_sub_cancel_left, List.drop_replicate, List.length_append, Nat.sub_sub]

theorem rstep_mid {β} (sizeOf : Nat → Option Nat) (zero : β) (f N : Nat) (done : List β) (b : RBatch β)
    (hf : b.fnames = List.replicate b.outs.length f) (hp : b.outs ≠ [])
    (h : done.length + b.outs.length ≤ N) :
    rstep sizeOf zero (midState zero f N done) b =
      .ok (midState zero f N (done ++ b.outs),
        if (done ++ b.outs).length = N then
          some ((done ++ b.outs) ++ List.replicate (N - (done ++ b.outs).length) zero, f) else none) := by
  rw [rstep, hf, filenameOf_replicate _ _ (List.length_pos_iff.mpr hp)]
  simp only [midState, Option.getD_some, ne_eq, not_true_eq_false, if_false, writeSlice_fill zero done b.outs N h,
    List.length_append]

/-- states in which the next batch of a *new* filename `f` starts a fresh volume -/
def Fresh {β} (s : RState β) (f : Nat) : Prop :=
  (s.last = none ∧ s.cur = none ∧ s.counter = 0) ∨ (∃ g, s.last = some g ∧ g ≠ f)

theorem rstep_fresh {β} (sizeOf : Nat → Option Nat) (zero : β) (s : RState β) (f N : Nat) (b : RBatch β)
    (hs : Fresh s f) (hsz : sizeOf f = some N) (hb : filenameOf b.fnames = some f) :
    rstep sizeOf zero s b = rstep sizeOf zero (midState zero f N []) b := by
  unfold rstep midState
  simp only [hb]
  rcases hs with ⟨h1, h2, h3⟩ | ⟨g, h1, h2⟩
  · simp [h1, h2, h3, hsz]
  · simp [h1, h2, hsz]

theorem allocates_mid {β} (zero : β) (f N n : Nat) (done : List β) (hn : 0 < n) :
    allocates (midState zero f N done) (List.replicate n f) = false := by
  rw [allocates, filenameOf_replicate _ _ hn]
  simp [midState]

theorem allocates_fresh {β} (s : RState β) (f n : Nat) (hn : 0 < n) (hs : Fresh s f) :
    allocates s (List.replicate n f) = true := by
  rw [allocates, filenameOf_replicate _ _ hn]
  rcases hs with ⟨_, h2, _⟩ | ⟨g, h1, h2⟩
  · simp [h2]
  · simp [h1, h2]

theorem rstepL_mid {β ℓ} (sizeOf : Nat → Option Nat) (zero : β) (f N : Nat) (done : List β) (ls : List ℓ)
    (b : LBatch β ℓ) (hf : b.fnames = List.replicate b.outs.length f) (hp : b.outs ≠ [])
    (h : done.length + b.outs.length ≤ N) :
    rstepL sizeOf zero ⟨midState zero f N done, ls⟩ b =
      .ok (⟨midState zero f N (done ++ b.outs), ls⟩,
        if (done ++ b.outs).length = N then
          some ((done ++ b.outs) ++ List.replicate (N - (done ++ b.outs).length) zero, ls, f) else none) := by
  rw [rstepL, rstep_mid sizeOf zero f N done b.erase hf hp h]
  simp only [hf, allocates_mid zero f N _ done (List.length_pos_iff.mpr hp), Bool.false_eq_true, if_false,
    LBatch.erase]
  split <;> rfl

theorem rstepL_fresh {β ℓ} (sizeOf : Nat → Option Nat) (zero : β) (s : RState β) (ls : List ℓ) (f N : Nat)
    (b : LBatch β ℓ) (hs : Fresh s f) (hsz : sizeOf f = some N)
    (hf : b.fnames = List.replicate b.outs.length f) (hp : b.outs ≠ []) :
    rstepL sizeOf zero ⟨s, ls⟩ b = rstepL sizeOf zero ⟨midState zero f N [], ls ++ [b.loss]⟩ b := by
  have hn : 0 < b.outs.length := List.length_pos_iff.mpr hp
  have hfn : filenameOf b.erase.fnames = some f := by rw [LBatch.erase, hf, filenameOf_replicate _ _ hn]
  rw [rstepL, rstepL, rstep_fresh sizeOf zero s f N b.erase hs hsz hfn, hf, allocates_fresh s f _ hn hs,
    allocates_mid zero f N _ [] hn]
  rfl

theorem reconstructL_cons_ok {β ℓ} {sizeOf : Nat → Option Nat} {zero : β} {s s' : LState β ℓ} {b : LBatch β ℓ}
    {y : Option (List β × List ℓ × Nat)} (h : rstepL sizeOf zero s b = .ok (s', y)) (bs : List (LBatch β ℓ)) :
    reconstructL sizeOf zero s (b :: bs) =
      (y.toList ++ (reconstructL sizeOf zero s' bs).1, (reconstructL sizeOf zero s' bs).2) := by
  rw [reconstructL, h]

def piecesOuts {β ℓ} (ps : List (List (β × Int) × ℓ)) : List β := ps.flatMap fun p => p.1.map (·.1)

theorem piecesOuts_cons {β ℓ} (p : List (β × Int) × ℓ) (ps : List (List (β × Int) × ℓ)) :
    piecesOuts (p :: ps) = p.1.map (·.1) ++ piecesOuts ps :=
  List.flatMap_cons

/-- **Loop invariant.**  From `midState` the remaining non-empty pieces, which complete the volume, produce exactly
one yield, after the last of them; no further loss dict is appended. -/
theorem reconstructL_volume_rest {β ℓ} (sizeOf : Nat → Option Nat) (zero : β) (f N : Nat)
    (tail : List (LBatch β ℓ)) (ls : List ℓ) :
    ∀ (ps : List (List (β × Int) × ℓ)) (done : List β), ps ≠ [] → (∀ p ∈ ps, p.1 ≠ []) →
      done.length + (piecesOuts ps).length = N →
      reconstructL sizeOf zero ⟨midState zero f N done, ls⟩ (volBatchesL f ps ++ tail) =
        ((done ++ piecesOuts ps, ls, f) ::
            (reconstructL sizeOf zero ⟨midState zero f N (done ++ piecesOuts ps), ls⟩ tail).1,
          (reconstructL sizeOf zero ⟨midState zero f N (done ++ piecesOuts ps), ls⟩ tail).2) := by
  intro ps
  induction ps with
  | nil => intro done h; exact absurd rfl h
  | cons p ps ih =>
    intro done _ hne hlen
    rw [piecesOuts_cons, List.length_append, ← Nat.add_assoc, ← List.length_append] at hlen
    have hstep := rstepL_mid sizeOf zero f N done ls ⟨_, p.1.map (·.2), p.1.map (·.1), p.2⟩
      (by rw [List.length_map]) (fun e => hne p List.mem_cons_self (List.map_eq_nil_iff.mp e))
      (by rw [← List.length_append, ← hlen]; exact Nat.le_add_right _ _)
    dsimp only at hstep
    rw [volBatchesL, List.map_cons, List.cons_append, reconstructL_cons_ok hstep, piecesOuts_cons,
      ← List.append_assoc]
    cases ps with
    | nil =>
      -- the last piece completes the volume
      rw [piecesOuts, List.flatMap_nil, List.length_nil, Nat.add_zero] at hlen
      rw [if_pos hlen, hlen, Nat.sub_self, List.replicate_zero, piecesOuts, List.flatMap_nil, List.append_nil]
      rfl
    | cons q qs =>
      have hq : 0 < (piecesOuts (q :: qs)).length := by
        rw [piecesOuts_cons, List.length_append, List.length_map]
        exact Nat.lt_of_lt_of_le (List.length_pos_iff.mpr (hne q (List.mem_cons_of_mem _ List.mem_cons_self)))
          (Nat.le_add_right _ _)
      rw [if_neg (Nat.ne_of_lt (by rw [← hlen]; exact Nat.lt_add_of_pos_right hq))]
      exact ih _ (List.cons_ne_nil _ _) (fun r hr => hne r (List.mem_cons_of_mem _ hr)) hlen

theorem reconstructL_volume {β ℓ} (sizeOf : Nat → Option Nat) (zero : β) (f : Nat) (s : RState β)
    (ls : List ℓ) (d : ℓ) (ps : List (List (β × Int) × ℓ)) (tail : List (LBatch β ℓ)) (hs : Fresh s f)
    (hps : ps ≠ []) (hne : ∀ p ∈ ps, p.1 ≠ []) (hsz : sizeOf f = some (piecesOuts ps).length) :
    reconstructL sizeOf zero ⟨s, ls⟩ (volBatchesL f ps ++ tail) =
      ((piecesOuts ps, ls ++ [(ps.head?.map (·.2)).getD d], f) ::
          (reconstructL sizeOf zero ⟨midState zero f (piecesOuts ps).length (piecesOuts ps),
            ls ++ [(ps.head?.map (·.2)).getD d]⟩ tail).1,
        (reconstructL sizeOf zero ⟨midState zero f (piecesOuts ps).length (piecesOuts ps),
            ls ++ [(ps.head?.map (·.2)).getD d]⟩ tail).2) := by
  cases ps with
  | nil => exact absurd rfl hps
  | cons p ps' =>
    have key := reconstructL_volume_rest sizeOf zero f (piecesOuts (p :: ps')).length tail (ls ++ [p.2])
      (p :: ps') [] hps hne (Nat.zero_add _)
    rw [List.nil_append] at key
    rw [List.head?_cons, Option.map_some, Option.getD_some, ← key, volBatchesL, List.map_cons, List.cons_append,
      reconstructL, reconstructL,
      rstepL_fresh sizeOf zero s ls f _ _ hs hsz (by rw [List.length_map])
        (fun e => hne p List.mem_cons_self (List.map_eq_nil_iff.mp e))]

theorem reconstructL_volumes_spec {β ℓ} (sizeOf : Nat → Option Nat) (zero : β) (d : ℓ) :
    ∀ (vs : List (Nat × List (List (β × Int) × ℓ))) (s : RState β) (ls : List ℓ),
      (∀ v ∈ vs, v.2 ≠ [] ∧ (∀ p ∈ v.2, p.1 ≠ []) ∧ sizeOf v.1 = some (piecesOuts v.2).length) →
      vs.Pairwise (fun a b => a.1 ≠ b.1) →
      (∀ v ∈ vs.head?, Fresh s v.1) →
      reconstructL sizeOf zero ⟨s, ls⟩ (vs.flatMap fun v => volBatchesL v.1 v.2) =
        (yieldsFrom ls vs d, none) := by
  intro vs
  induction vs with
  | nil => intro s ls _ _ _; rfl
  | cons v vs ih =>
    intro s ls hv hpw hfresh
    obtain ⟨h1, h2, h3⟩ := hv v List.mem_cons_self
    rw [List.pairwise_cons] at hpw
    -- after volume `v` the state is fresh for the next one: its filename differs from `v`'s
    rw [List.flatMap_cons, reconstructL_volume sizeOf zero v.1 s ls d v.2 _ (hfresh v rfl) h1 h2 h3,
      ih _ _ (fun w hw => hv w (List.mem_cons_of_mem _ hw)) hpw.2
        (fun w hw => Or.inr ⟨v.1, rfl, hpw.1 w (List.mem_of_mem_head? hw)⟩)]
    rfl

theorem yieldsFrom_volumes {β ℓ} (d : ℓ) :
    ∀ (vs : List (Nat × List (List (β × Int) × ℓ))) (ls : List ℓ),
      (yieldsFrom ls vs d).map (fun y => (y.1, y.2.2)) = vs.map fun v => (piecesOuts v.2, v.1) := by
  intro vs
  induction vs with
  | nil => intro ls; rfl
  | cons v vs ih => intro ls; rw [yieldsFrom, List.map_cons, ih, List.map_cons]; rfl

theorem yieldsFrom_losses {β ℓ} (d : ℓ) :
    ∀ (vs : List (Nat × List (List (β × Int) × ℓ))) (ls : List ℓ) (k : Nat) (_hk : k < vs.length),
      ((yieldsFrom ls vs d)[k]?).map (·.2.1) =
        some (ls ++ (vs.take (k + 1)).map fun v => (v.2.head?.map (·.2)).getD d) := by
  intro vs
  induction vs with
  | nil => intro ls k hk; exact absurd hk (Nat.not_lt_zero k)
  | cons v vs ih =>
    intro ls k hk
    cases k with
    | zero => rfl
    | succ k =>
      rw [yieldsFrom, List.getElem?_cons_succ, ih _ k (Nat.lt_of_succ_lt_succ hk), List.take_succ_cons,
        List.map_cons, List.append_assoc]
      rfl

theorem reconstructL_erase {β ℓ} (sizeOf : Nat → Option Nat) (zero : β) :
    ∀ (bs : List (LBatch β ℓ)) (s : LState β ℓ),
      ((reconstructL sizeOf zero s bs).1.map fun y => (y.1, y.2.2)) =
          (reconstruct sizeOf zero s.st (bs.map LBatch.erase)).1 ∧
        (reconstructL sizeOf zero s bs).2 = (reconstruct sizeOf zero s.st (bs.map LBatch.erase)).2 := by
  intro bs
  induction bs with
  | nil => intro s; exact ⟨rfl, rfl⟩
  | cons b bs ih =>
    intro s
    rw [reconstructL, rstepL, List.map_cons, reconstruct]
    cases rstep sizeOf zero s.st b.erase with
    | error e => exact ⟨rfl, rfl⟩
    | ok r =>
      obtain ⟨h1, h2⟩ := ih ⟨r.1, if allocates s.st b.fnames then s.losses ++ [b.loss] else s.losses⟩
      refine ⟨?_, h2⟩
      show List.map _ (_ ++ _) = _ ++ _
      rw [List.map_append, h1]
      cases r.2 <;> rfl

/-- no definition reads `sliceNos`, so the equation is definitional per step -/
theorem reconstructL_sliceNos_irrelevant {β ℓ} (sizeOf : Nat → Option Nat) (zero : β)
    (g : LBatch β ℓ → List Int) :
    ∀ (bs : List (LBatch β ℓ)) (s : LState β ℓ),
      reconstructL sizeOf zero s (bs.map fun b => { b with sliceNos := g b }) =
        reconstructL sizeOf zero s bs := by
  intro bs
  induction bs with
  | nil => intro s; rfl
  | cons b bs ih =>
    intro s
    have : rstepL sizeOf zero s { b with sliceNos := g b } = rstepL sizeOf zero s b := rfl
    rw [List.map_cons, reconstructL, reconstructL, this]
    cases rstepL sizeOf zero s b with
    | error e => rfl
    | ok r => simp only [ih]

theorem volBatches_eq_erase {β} (f : Nat) (ps : List (List β)) :
    volBatches f ps = (volBatchesL f (ps.map fun p => (p.map (·, (0 : Int)), ()))).map LBatch.erase := by
  rw [volBatches, volBatchesL, List.map_map, List.map_map]
  apply List.map_congr_left
  intro p _
  simp only [Function.comp_def, LBatch.erase, List.length_map, List.map_map, List.map_id']

theorem piecesOuts_plain {β} (ps : List (List β)) :
    piecesOuts (ps.map fun p => (p.map (·, (0 : Int)), ())) = ps.flatten := by
  simp only [piecesOuts, List.flatMap_map, List.map_map, Function.comp_def, List.map_id', List.flatMap_id']

end DirectVerif.Recon
