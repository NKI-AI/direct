import DirectVerif.Gen.C12
import DirectVerif.Model.Dataset
/-!
# Bridge C12 — what the translator read off `/repo` equals the hand-written model

Arithmetic kernels of `Gen/C12.lean` against their counterparts in `Model/Dataset.lean`: unfold both sides, then
`first | done | omega` — the goal is closed already when the two texts coincide and is linear arithmetic otherwise, so
the proofs survive a re-translation that spells the same arithmetic differently.  Structural tables: every entry must
be `true` (`decide`); the seed-plumbing tables of `FakeMRIData` and `SheppLoganDataset` must be all-true, which is the
hypothesis of `C12.item_deterministic` / `C12.shepp_item_deterministic`.
-/
namespace DirectVerif.Bridge.C12
open DirectVerif DirectVerif.Dataset DirectVerif.Gen.C12

theorem window_lo_eq (s c n len : Int) : window_lo s c n len = windowLo s c := by
  simp only [window_lo, windowLo, pyMax]; first | done | omega

theorem window_hi_eq (s c n len : Int) : window_hi s c n len = windowHi s c n := by
  simp only [window_hi, windowHi, pyMin]; first | done | omega

theorem window_short_eq (s c n len : Int) : window_short s c n len = windowShort len c := by
  simp only [window_short, windowShort]

theorem fill_before_guard_eq (s c n len : Int) : fill_before_guard s c n len = fillBeforeGuard s c := by
  simp only [fill_before_guard, fillBeforeGuard]

theorem fill_before_len_eq (s c n len : Int) : fill_before_len s c n len = fillBeforeLen s c := by
  simp only [fill_before_len, fillBeforeLen]

theorem fill_after_guard_eq (s c n len : Int) : fill_after_guard s c n len = fillAfterGuard s c n := by
  simp only [fill_after_guard, fillAfterGuard]

theorem fill_after_len_eq (s c n len : Int) : fill_after_len s c n len = fillAfterLen s c n := by
  simp only [fill_after_len, fillAfterLen]

/-- the condition under which `ValueError` is raised, whether the guard is nested in `if idx < 0:` (`-idx > len`) or stands
before it (`idx < -len`): for every length `len ≥ 0` it is `idx < 0 ∧ -idx > len`, the test `locate` makes -/
theorem concat_neg_reject_eq (idx len : Int) (h : 0 ≤ len) :
    concat_neg_reject idx len = (decide (idx < 0) && concatNegReject idx len) := by
  rw [Bool.eq_iff_iff]
  simp only [concat_neg_reject, concatNegReject, Bool.and_eq_true, decide_eq_true_eq]
  first | done | omega

theorem concat_neg_idx_eq (idx len : Int) : concat_neg_idx idx len = concatNegIdx idx len := by
  simp only [concat_neg_idx, concatNegIdx]
  first | done | omega

/-- the local index: `idx if d == 0 else idx - prev`, or `idx - (prev if d > 0 else 0)` through the start offset of the
selected member — equal for every member number `d ≥ 0` (the bisection result) -/
theorem concat_sample_idx_eq (idx d prev curc : Int) (hd : 0 ≤ d) :
    concat_sample_idx idx d prev curc = concatSampleIdx idx d prev := by
  unfold concat_sample_idx concatSampleIdx
  by_cases h0 : d = 0 <;> by_cases h1 : d > 0 <;> simp [h0, h1] <;> omega

/-- `out_sequence.append(length + total); total += length` is the step of `cumsumFrom` -/
theorem cumsum_step_eq (l t : Nat) (ls : List Nat) :
    cumsumFrom t (l :: ls) = (cumsum_append l t).toNat :: cumsumFrom (cumsum_total l t).toNat ls := by
  simp only [cumsumFrom, cumsum_append, cumsum_total]
  congr 1 <;> omega

/-- `volume_indices[filename] = range(cur, cur + num)` (a `dict` assignment), `cur += num` is the step of
`parseStep` -/
theorem parse_step_eq {φ : Type} [DecidableEq φ] (filt : Option PySliceT) (st : Parsed φ) (f : φ) (n : Nat) :
    (parseStep filt st (f, some n)).vols =
        dictSet st.vols f ((parse_vol_start st.cur (numSlices filt n)).toNat,
                           (parse_vol_stop st.cur (numSlices filt n)).toNat) ∧
    (parseStep filt st (f, some n)).cur = (parse_next_cur st.cur (numSlices filt n)).toNat := by
  simp only [parseStep, parse_vol_start, parse_vol_stop, parse_next_cur]
  constructor
  · congr 2 <;> omega
  · omega

theorem parse_table_ok : parseTable.all (·.2) = true := by decide
theorem window_table_ok : windowTable.all (·.2) = true := by decide
theorem concat_table_ok : concatTable.all (·.2) = true := by decide
/-- per-sample seeds come from a private stream seeded with the dataset seed (`temp_seed`) -/
theorem init_seed_table_ok : initSeedTable.all (·.2) = true := by decide

/-- file selection of `H5SliceData.__init__` / `CMRxReconDataset.__init__` is `selectFiles`; the listing is sorted iff the
model says so -/
theorem select_table_ok : selectTable.all (·.2) = true := by decide
theorem cmr_select_table_ok : cmrSelectTable.all (·.2) = true := by decide
theorem listing_sorted_eq : listingSorted = listingSortedCurrent ∧ cmrListingSorted = cmrListingSortedCurrent := by decide
/-- repeated names are dropped keeping the first (`list(dict.fromkeys(...))`) iff the model does -/
theorem dedup_eq : dedupNames = dedupCurrent ∧ cmrDedupNames = dedupCurrent := by decide
/-- … and they are recognised on the `pathlib.Path` objects, not on the entries as given (`selectFilesRaw … onNorm`) -/
theorem dedup_on_normalised_eq :
    dedupOnNormalised = dedupOnNormalisedCurrent ∧ cmrDedupOnNormalised = dedupOnNormalisedCurrent := by decide
/-- what the subclasses forward is `classParams`; `CMRxReconDataset` is `cmrParse` / `cmrBlock` -/
theorem class_table_ok : classTable.all (·.2) = true := by decide
theorem cmr_table_ok : cmrTable.all (·.2) = true := by decide

/-- dataset objects share no state: the item functions of the model take no argument for "what other objects did" -/
theorem shared_state_table_ok : sharedStateTable.all (·.2) = true := by decide

/-- the seed reaches `make_blobs(random_state=…)` and `simulate_sensitivity_maps(seed=…)`, which seeds
for every seed that is not `None` -/
theorem fake_table_ok : fakeTable.allTrue = true := by decide

/-- `SheppLoganDataset.__getitem__` hands the slice's seed to `simulate_sensitivity_maps` and draws the
noise of all-zero slices from a stream seeded with it -/
theorem shepp_table_ok : sheppTable.allTrue = true := by decide

/-- `n_samples = self.blobs_n_samples if self.blobs_n_samples else np.prod(list(spatial_shape)) // self.ndim` -/
theorem blobs_n_samples_eq (given total ndim : Int) : blobs_n_samples given total ndim = blobsNSamples given total ndim := by
  simp only [blobs_n_samples, blobsNSamples, bne_iff_ne]

/-- `num_slices = self.spatial_shape[0] if len(self.spatial_shape) == 3 else 1` -/
theorem fake_num_slices_eq (ndim shape0 : Int) : fake_num_slices ndim shape0 = fakeNumSlices ndim shape0 := by
  simp only [fake_num_slices, fakeNumSlices, beq_iff_eq]

/-- `FakeMRIBlobsDataset`: names / ranges / `(filename, slice_no, seed)` list / item plumbing are `fakeNames` / `fakeBuild` /
`fakeIndex` -/
theorem fake_index_table_ok : fakeIndexTable.all (·.2) = true := by decide
/-- `SheppLoganDataset.__getitem__` is `sheppIndex`; the reported `slice_no` is the index as given iff the model says so -/
theorem shepp_index_table_ok : sheppIndexTable.all (·.2) = true := by decide
theorem shepp_slice_no_eq : sheppSliceNoIsIndexAsGiven = sheppReportsIndexAsGiven := by decide
/-- the `make_blobs` call is `blobArgs` (centres = coils, features = ndim, default shuffle); `simulate_sensitivity_maps`
draws one `uniform(0, 2π, 1)` and nothing for a single coil -/
theorem blob_call_table_ok : blobCallTable.all (·.2) = true := by decide
/-- loading an item writes no attribute of the dataset object (the item functions of the model return no new dataset) -/
theorem instance_state_table_ok : instanceStateTable.all (·.2) = true := by decide
/-- no dataset is constructed outside the data modules except through `build_dataset(_from_input)` / direct's
`ConcatDataset` -/
theorem callers_table_ok : callersTable.all (·.2) = true := by decide
theorem build_table_ok : buildTable.all (·.2) = true := by decide

end DirectVerif.Bridge.C12
