import DirectVerif.Model.Shift
/-!
# C01 — index form of `rollOne` (core Lean only)

`rollOne s xs` is `xs.drop (n - k) ++ xs.take (n - k)` with `k = s mod n` (Python `%`), the `narrow`/`cat` the code
performs: a rotation whose entry `i` is entry `(i + (n - k)) mod n` of `xs`.  Everything else follows from that.
-/
namespace DirectVerif.C01L
open DirectVerif DirectVerif.Shift

theorem getElem?_drop_append_take {α} (xs : List α) (m i : Nat) (hm : m ≤ xs.length) (hi : i < xs.length) :
    (xs.drop m ++ xs.take m)[i]? = xs[(i + m) % xs.length]? := by
  rw [List.getElem?_append]
  simp only [List.length_drop, List.getElem?_drop, List.getElem?_take]
  by_cases h : i < xs.length - m
  · rw [if_pos h, Nat.mod_eq_of_lt (by omega), Nat.add_comm]
  · rw [if_neg h, if_pos (by omega), Nat.mod_eq_sub_mod (by omega), Nat.mod_eq_of_lt (by omega)]
    congr 1; omega

theorem rollOne_length {α} (s : Int) (xs : List α) : (rollOne s xs).length = xs.length := by
  simp only [rollOne]
  split
  · rfl
  · split
    · rfl
    · simp only [List.length_append, List.length_drop, List.length_take]; omega

/-- for every shift, also negative and larger than `n` -/
theorem rollOne_getElem? {α} (s : Int) (xs : List α) (i : Nat) (hi : i < xs.length) :
    (rollOne s xs)[i]? = xs[(i + xs.length - (s % (xs.length : Int)).toNat) % xs.length]? := by
  have hkn : s % (xs.length : Int) < xs.length := Int.emod_lt_of_pos _ (by omega)
  simp only [rollOne]
  rw [if_neg (by omega), Int.fmod_eq_emod_of_nonneg _ (by omega)]
  split
  · next hz => rw [hz, Nat.sub_zero, Nat.add_mod_right, Nat.mod_eq_of_lt hi]
  · rw [getElem?_drop_append_take xs _ i (by omega) hi]
    congr 2; omega

theorem srcIdx_nat (s : Int) (n i : Nat) (hi : i < n) :
    (((i : Int) - s) % (n : Int)).toNat = (i + n - (s % (n : Int)).toNat) % n := by
  have hk0 : 0 ≤ s % (n : Int) := Int.emod_nonneg _ (by omega)
  have hkn : s % (n : Int) < n := Int.emod_lt_of_pos _ (by omega)
  have e : ((i : Int) - s) % n = (i - s % n) % n := by rw [Int.sub_emod i s, Int.sub_emod i (s % n), Int.emod_emod]
  rw [e, ← Int.add_emod_right, show (i : Int) - s % n + n = ((i + n - (s % (n : Int)).toNat : Nat) : Int) by omega,
    ← Int.natCast_emod, Int.toNat_natCast]

theorem srcIdx_lt (s : Int) (n i : Nat) (hn : 0 < n) : (((i : Int) - s) % (n : Int)).toNat < n := by
  have h0 : 0 ≤ ((i : Int) - s) % (n : Int) := Int.emod_nonneg _ (by omega)
  have h1 : ((i : Int) - s) % (n : Int) < n := Int.emod_lt_of_pos _ (by omega)
  omega

/-- integer version: output position `i` reads input position `(i - s) mod n` -/
theorem rollOne_getElem?_int {α} (s : Int) (xs : List α) (i : Nat) (hi : i < xs.length) :
    (rollOne s xs)[i]? = xs[(((i : Int) - s) % (xs.length : Int)).toNat]? := by
  rw [rollOne_getElem? s xs i hi, srcIdx_nat s xs.length i hi]

end DirectVerif.C01L
