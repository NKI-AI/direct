import DirectVerif.Model.Crop
import DirectVerif.Model.C10Modules
import DirectVerif.Props.C10
/-!
# C10 — k-space modules: key plumbing, call histories, argument forms of `CropKspace(crop=…)`

About the definitions of `Model/C10Modules.lean` the driver executes and the predicates the translated tables are
`decide`d against.
-/
namespace DirectVerif.C10
open DirectVerif DirectVerif.Crop

theorem KSample.get_set_self {α} (s : KSample α) (k : KKey) (x : α) : (s.set k x).get k = some x := by
  cases k <;> rfl

theorem KSample.get_set_ne {α} (s : KSample α) (k k' : KKey) (x : α) (h : k' ≠ k) : (s.set k x).get k' = s.get k' := by
  cases k <;> cases k' <;> first | rfl | exact absurd rfl h

/-- `PadKspace` / `RescaleKspace` with any `kspace_key` -/
theorem self_key_call_eq {α} (cfg : KKey) (f : α → α) (s : KSample α) :
    moduleCall padKspaceIO cfg f s = (s.get cfg).map fun x => s.set cfg (f x) := by
  simp only [moduleCall, padKspaceIO, KeyRef.resolve]
  cases s.get cfg <;> rfl

theorem self_key_call_get {α} (cfg : KKey) (f : α → α) (s s' : KSample α) (x : α) (h : s.get cfg = some x)
    (hc : moduleCall padKspaceIO cfg f s = some s') : s'.get cfg = some (f x) := by
  rw [self_key_call_eq, h] at hc
  cases hc
  exact KSample.get_set_self s cfg (f x)

/-- the other k-space key is untouched -/
theorem self_key_call_frame {α} (cfg : KKey) (f : α → α) (s s' : KSample α)
    (hc : moduleCall padKspaceIO cfg f s = some s') (k : KKey) (hk : k ≠ cfg) : s'.get k = s.get k := by
  rw [self_key_call_eq] at hc
  cases hx : s.get cfg with
  | none => rw [hx] at hc; cases hc
  | some x =>
    rw [hx] at hc
    cases hc
    exact KSample.get_set_ne s cfg k (f x) hk

/-- `CropKspace` always works on `sample["kspace"]`; `masked_kspace` is untouched -/
theorem crop_kspace_call_frame {α} (cfg : KKey) (f : α → α) (s s' : KSample α)
    (hc : moduleCall cropKspaceIO cfg f s = some s') : s'.masked = s.masked ∧ s'.kspace = s.kspace.map f := by
  cases hx : s.kspace with
  | none => simp [moduleCall, cropKspaceIO, KeyRef.resolve, KSample.get, hx] at hc
  | some x =>
    simp only [moduleCall, cropKspaceIO, KeyRef.resolve, KSample.get, hx, Option.some.injEq] at hc
    subst hc
    exact ⟨rfl, rfl⟩

theorem KeyRef.eq_selfKey_of_resolve {r : KeyRef} (h : ∀ cfg, r.resolve cfg = some cfg) : r = .selfKey := by
  have h1 := h .kspace
  have h2 := h .masked
  cases r <;> simp_all [KeyRef.resolve]

/-- a read/write key pair honours the `kspace_key` option exactly when both are `self.kspace_key` — a literal, or an enum
default reached through a helper's omitted keyword, cannot -/
theorem io_honours_key_iff (io : KIO) :
    (∀ cfg, io.read.resolve cfg = some cfg ∧ io.write.resolve cfg = some cfg) ↔ io = padKspaceIO := by
  constructor
  · intro h
    obtain ⟨r, w⟩ := io
    have hr : r = .selfKey := KeyRef.eq_selfKey_of_resolve fun cfg => (h cfg).1
    have hw : w = .selfKey := KeyRef.eq_selfKey_of_resolve fun cfg => (h cfg).2
    rw [hr, hw]
    rfl
  · rintro rfl cfg
    exact ⟨rfl, rfl⟩

/-- regression witness (seeded C10-6): the key falls back to the helper's default `KspaceKey.KSPACE`; with
`kspace_key = masked_kspace` the full k-space is overwritten instead -/
theorem default_key_io_violates :
    moduleCall ⟨.enumKspace, .enumKspace⟩ .masked (fun x : Int => x + 100) ⟨some 1, some 2⟩ = some ⟨some 101, some 2⟩ := by
  decide

example : moduleCall padKspaceIO .masked (fun x : Int => x + 100) ⟨some 1, some 2⟩ = some ⟨some 1, some 102⟩ := by decide
example : ∃ s : KSample Int, s.get .masked = some 2 := ⟨⟨some 1, some 2⟩, rfl⟩

theorem stateless_history_independent {σ ι ο} (m : Module σ ι ο) (h : ∀ s x, (m.step s x).1 = s) (xs : List ι) :
    m.run m.init xs = m.fresh xs := by
  unfold Module.fresh
  induction xs with
  | nil => rfl
  | cons x xs ih =>
    simp only [Module.run, List.map_cons, h m.init x]
    exact congrArg _ ih

theorem kspace_module_history_independent {α} (io : KIO) (cfg : KKey) (f : α → α) (xs : List (KSample α)) :
    (kspaceModule io cfg f).run () xs = xs.map (moduleCall io cfg f) :=
  stateless_history_independent (kspaceModule io cfg f) (fun _ _ => rfl) xs

/-- regression witness (seeded C10-5): the crop shape kept in `self._crop_shape` after the first sample -/
theorem cached_crop_shape_violates : cachedCropShape.run none [2, 4] ≠ cachedCropShape.fresh [2, 4] := by decide

example : cachedCropShape.run none [2, 4] = [2, 2] := by decide
example : (kspaceModule padKspaceIO .kspace (fun x : Int => x + 1)).run () [⟨some 1, none⟩, ⟨none, some 2⟩] =
    [some ⟨some 2, none⟩, none] := by decide

theorem crop_shape_seq_eq_spec (ndim : Int) (crop keyVal : List Int) (slices : Int) :
    cropShapeResolve .seq ndim crop keyVal slices = cropShapeSpec ndim crop slices := rfl

/-- string crops (`"(3, 2)"`, `"[3,2]"`), as repaired in f148874 -/
theorem crop_shape_string_eq_spec (ndim : Int) (crop keyVal : List Int) (slices : Int) :
    cropShapeResolve .intString ndim crop keyVal slices = cropShapeSpec ndim crop slices := rfl

theorem crop_shape_string_eq_tuple (ndim : Int) (crop keyVal : List Int) (slices : Int) :
    cropShapeResolve .intString ndim crop keyVal slices = cropShapeResolve .seq ndim crop keyVal slices := rfl

/-- a crop naming a sample key is `sample[key][:-1]` -/
theorem crop_shape_key (ndim : Int) (crop keyVal : List Int) (slices : Int) :
    cropShapeResolve .key ndim crop keyVal slices = keyVal.dropLast := rfl

/-- the pinned tree took string crops as written -/
theorem crop_shape_string_pinned_partial (ndim : Int) (crop keyVal : List Int) (slices : Int)
    (h : ¬ (ndim = 5 ∧ crop.length = 2)) :
    cropShapeResolvePinned .intString ndim crop keyVal slices = cropShapeSpec ndim crop slices := by
  simp only [cropShapeResolvePinned, cropShapeSpec, h, if_false]

/-- `CropKspace("(3, 2)")` on 5-D k-space with 4 slices resolved to `(3, 2)` (applied from axis 1: slice, height),
`CropKspace((3, 2))` to `(4, 3, 2)` -/
theorem crop_shape_string_pinned_violates :
    cropShapeResolvePinned .intString 5 [3, 2] [] 4 ≠ cropShapeSpec 5 [3, 2] 4 := by decide

example : cropShapeResolve .intString 5 [3, 2] [] 4 = [4, 3, 2] := by decide

/-- so the list / tuple form really leaves the slice axis alone -/
theorem center_crop_full {α} (xs : List α) : centerCrop xs.length xs = xs := by
  unfold centerCrop slice centerCropLower
  simp

/-- `complex_center_crop`'s box for a full axis: `start = (n - n) // 2 = 0`, `size = n` -/
theorem ccc_full_axis {α} (fill : α) (xs : List α) :
    cropToBbox fill xs (cccStart xs.length xs.length) xs.length = .ok xs := by
  have e : cccStart (xs.length : Int) (xs.length : Int) = ((0 : Nat) : Int) := by unfold cccStart; simp
  rw [e, bbox_inside_eq_slice fill xs 0 xs.length (by omega), Nat.zero_add, slice_all]

/-- in particular the only k-space key a module with a `kspace_key` option touches is `self.kspace_key` -/
theorem key_access_ok_sound (rows : List (String × String × String)) (h : keyAccessOk rows = true) :
    ∀ r ∈ rows, r ∈ keyAllowed := by
  intro r hr
  simp only [keyAccessOk, Bool.and_eq_true, List.all_eq_true] at h
  exact List.contains_iff_mem.1 (h.1 r hr)

/-- the tables of the seeded C10-6 and C10-5 trees are rejected -/
example : keyAccessOk (("PadKspace", "write", "KspaceKey.KSPACE") :: keyAccessModel) = false := by decide +kernel
example : keyAccessOk keyAccessModel = true := by decide +kernel
example : stateWritesOk [("CropKspace", "_get_crop_shape", "self._crop_shape")] = false := by decide

end DirectVerif.C10
