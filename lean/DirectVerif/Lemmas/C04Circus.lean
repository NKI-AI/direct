import DirectVerif.Lemmas.C06Assemble
/-!
C04, `CIRCUSMaskFunc.circular_centered_mask`: the search for the largest sampled disc grows the radius until
`|disc| / |disc ∩ mask| > 1.1`.  A disc that covers the whole grid meets the exit test as soon as fewer than 10/11 of
the cells are sampled, so the search returns no later than the first radius reaching the far corner.
-/
namespace DirectVerif.MaskGeom
open DirectVerif

/-- squared distance of the far corner from the centre cell `(rows / 2, cols / 2)` -/
def farSq (rows cols : Nat) : Int := sq ((rows / 2 : Nat) : Int) + sq ((cols / 2 : Nat) : Int)

theorem sq_le_of_abs_le (a b : Int) (h1 : -b ≤ a) (h2 : a ≤ b) : sq a ≤ sq b := by
  unfold sq
  by_cases ha : 0 ≤ a
  · exact Int.mul_le_mul h2 h2 ha (by omega)
  · have h3 : 0 ≤ -a := by omega
    have : -a * -a ≤ b * b := Int.mul_le_mul (by omega) (by omega) h3 (by omega)
    rwa [Int.neg_mul_neg] at this

theorem diskLe_of_far (rows cols : Nat) (t : Int) (ht : farSq rows cols ≤ t) :
    diskLe rows cols t = List.replicate (rows * cols) true := by
  have cell : ∀ x y : Nat, x < rows → y < cols → inDiskLe rows cols t x y = true := by
    intro x y hx hy
    have h1 : sq ((x : Int) - ((rows / 2 : Nat) : Int)) ≤ sq ((rows / 2 : Nat) : Int) :=
      sq_le_of_abs_le _ _ (by omega) (by omega)
    have h2 : sq ((y : Int) - ((cols / 2 : Nat) : Int)) ≤ sq ((cols / 2 : Nat) : Int) :=
      sq_le_of_abs_le _ _ (by omega) (by omega)
    unfold inDiskLe farSq at *
    simp only [decide_eq_true_eq]
    omega
  unfold diskLe
  apply List.ext_getElem
  · simp
  · intro k h1 h2
    simp only [List.length_map, List.length_range] at h1
    simp only [List.getElem_map, List.getElem_range, List.getElem_replicate]
    have hc : 0 < cols := by
      rcases Nat.eq_zero_or_pos cols with h | h
      · subst h; simp at h1
      · exact h
    exact cell _ _ ((Nat.div_lt_iff_lt_mul hc).mpr h1) (Nat.mod_lt _ hc)

/-- with the whole grid inside the disc, `disc ∩ mask = mask` and the exit test is `hsparse` -/
theorem circusDisc_returns_of_sparse (rows cols : Nat) (mask : List Bool) (thr : List Int)
    (hlen : mask.length = rows * cols) (hfar : ∃ t ∈ thr, farSq rows cols ≤ t)
    (hsparse : 11 * mask.count true < 10 * (rows * cols)) : (circusDisc rows cols mask thr).isSome = true := by
  obtain ⟨t, ht, hge⟩ := hfar
  cases hr : circusDisc rows cols mask thr with
  | some r => rfl
  | none =>
    have := (circusDisc_none_iff rows cols mask thr).mp hr t ht
    rw [diskLe_of_far rows cols t hge] at this
    have e : andL (List.replicate (rows * cols) true) mask = mask := by
      have hc : andL (List.replicate mask.length true) mask = andL mask (List.replicate mask.length true) := by
        unfold andL; rw [List.zipWith_comm]; simp only [Bool.and_comm]
      rw [← hlen, hc, andL_replicate_true]
    rw [e] at this
    simp only [List.count_replicate_self] at this
    omega

theorem circusDisc_take (rows cols : Nat) (mask : List Bool) (thr : List Int) (n : Nat)
    (h : (circusDisc rows cols mask (thr.take n)).isSome = true) :
    circusDisc rows cols mask thr = circusDisc rows cols mask (thr.take n) := by
  induction thr generalizing n with
  | nil => simp
  | cons t rest ih =>
    cases n with
    | zero => simp [circusDisc] at h
    | succ n =>
      simp only [List.take_succ_cons] at h ⊢
      unfold circusDisc at h ⊢
      simp only [] at h ⊢
      split
      · rfl
      · rename_i hc
        simp only [hc, if_false] at h
        exact ih n h

end DirectVerif.MaskGeom
