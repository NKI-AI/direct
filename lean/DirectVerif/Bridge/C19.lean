import DirectVerif.Gen.C19
import DirectVerif.Model.DataConsistency
/-!
The operator composition translated from `/repo` is the hand-written model.  `*_sem`: the plans generated from the Python
AST of `MRILogLikelihood.forward`, `ConjGrad._A_star_op`, `_A_star_A_op`, `B_op`, `cg` (prologue, loop body per
`bk_update_type` with the helpers inlined), interpreted over any operations record, compute exactly `loglik`, `aStar`,
`aStarA`, `bOp`, `cgInit`, `cgStep`.  The lemmas are closed by evaluating the generated plan, so they are insensitive to
statement order, local names, hoisted sub-expressions and helper extraction; the control skeleton of `cg` is compared as
data (`cg_loop_shape_eq`).  A change of composition order, a dropped/added mask, a swapped operand of `-`, another
reduction axis, a moved `break`, a different inner product in `ak`/`bk` changes the value of the generated plan and
`eval_plan` no longer closes.
-/

namespace DirectVerif.Bridge.C19
open DirectVerif DirectVerif.DataConsistency DirectVerif.Gen.C19

theorem coil_dim_eq : coil_dim = 1 := by decide

theorem loglik_default_scaling : loglik_default_scaling_is_one = true := by decide
/-- a per-sample `loglikelihood_scaling` of shape `(N,)`: `reshape(-1, 1, 1, 1, 1)` -/
theorem loglik_scaling_batch_axis : loglik_scaling_on_batch_axis = true := by decide
theorem cg_loop_shape_eq : cg_loop_shape = cgLoopShape := by decide
/-- `forward(masked_kspace, S, mask, z, lambd)` returns `self.cg(z, masked_kspace, S, mask, lambd, z)` -/
theorem forward_call_args_eq : forward_call_args = [3, 0, 1, 2, 4, 3] := by decide

/-- `eval_plan p, q` runs the plan interpreter on the generated plan `p` (which is the model's plan `q` when the translator
had to skip the kernel) one node at a time.  Every step is an unfolding, so no proof term is built and the kernel re-checks
the run by computation; what is left is the output list against the model definition, equal by `rfl` exactly when the plan
computes that composition of the (abstract) operations. -/
macro "eval_plan " defs:Lean.Parser.Tactic.simpLemma,* : tactic =>
  `(tactic| (dsimp only [evalPlan, evalNodes, evalNode, List.map_cons, List.map_nil, List.getElem?_cons_succ,
      List.getElem?_cons_zero, List.cons_append, List.nil_append, $defs,*]; rfl))

section Semantics
universe u v w
variable {K : Type u} {V : Type v} {W : Type w} (ox : OpsX K V W)

local notation "o" => ox.toOps

theorem loglik_plan_sem (s : K) (x : V) (y : W) :
    evalPlan ox [.v x, .w y, .k s] loglik_plan = some [.v (loglik o s x y)] := by
  eval_plan loglik_plan, loglikPlan

theorem a_star_plan_sem (y : W) : evalPlan ox [.w y] a_star_plan = some [.v (aStar o y)] := by
  eval_plan a_star_plan, aStarPlan

theorem a_star_a_plan_sem (x : V) : evalPlan ox [.v x] a_star_a_plan = some [.v (aStarA o x)] := by
  eval_plan a_star_a_plan, aStarAPlan

theorem b_op_plan_sem (x : V) (lam : K) : evalPlan ox [.v x, .k lam] b_op_plan = some [.v (bOp o lam x)] := by
  eval_plan b_op_plan, bOpPlan

theorem cg_init_plan_sem (x z : V) (y : W) (lam : K) :
    evalPlan ox [.v x, .w y, .k lam, .v z] cg_init_plan =
      some [.v (cgInit o lam y z x).x, .v (cgInit o lam y z x).r, .v (cgInit o lam y z x).p,
            .k (cgInit o lam y z x).rr] := by
  eval_plan cg_init_plan, cgInitPlan

/-- the dispatch on `bk_update_type` (if / elif chain, early returns in a helper) is resolved by the translator per
update type -/
theorem cg_body_plan_sem (u : Update) (s : CGState K V) (lam : K) :
    evalPlan ox [.v s.x, .v s.r, .v s.p, .k s.rr, .k lam] (cg_body_plan u) =
      some [.v (cgStep o u (bOp o lam) s).x, .v (cgStep o u (bOp o lam) s).r,
            .v (cgStep o u (bOp o lam) s).p, .k (cgStep o u (bOp o lam) s).rr] := by
  cases u <;> eval_plan cg_body_plan, cgBodyPlan, cgHeadNodes, betaNodes, List.length_cons, List.length_nil,
    Nat.reduceAdd, Nat.reduceSub

/-! Every re-implementation of the physics inside the unrolled models and engines evaluates to one of the model's forms.
A sign, a mask on another term, a dropped conjugate (`reduce` → unknown), another coil axis or other spatial dims changes
the plan and `eval_plan` no longer closes. -/

theorem site_varnet_softdc_sem (k y : W) :
    evalPlan ox [.w k, .w y] site_varnet_softdc = some [.w (softDC o k y)] := by eval_plan site_varnet_softdc, softDCPlan
theorem site_varnet_reg_in_sem (k y : W) :
    evalPlan ox [.w k, .w y] site_varnet_reg_in = some [.v (sense o k)] := by eval_plan site_varnet_reg_in, sensePlan
theorem site_varnet_reg_out_sem (x : V) :
    evalPlan ox [.v x] site_varnet_reg_out = some [.w (feOp o x)] := by eval_plan site_varnet_reg_out, feOpPlan
theorem site_rvn_softdc_sem (k y : W) :
    evalPlan ox [.w k, .w y] site_rvn_softdc = some [.w (softDC o k y)] := by eval_plan site_rvn_softdc, softDCPlan
theorem site_rvn_reg_in_sem (k y : W) :
    evalPlan ox [.w k, .w y] site_rvn_reg_in = some [.v (sense o k)] := by eval_plan site_rvn_reg_in, senseFirstPlan
theorem site_rvn_reg_out_sem (x : V) :
    evalPlan ox [.v x] site_rvn_reg_out = some [.w (feOp o x)] := by eval_plan site_rvn_reg_out, feOpPlan
theorem site_vsharp_dc_sem (x : V) (y : W) :
    evalPlan ox [.v x, .w y] site_vsharp_dc = some [.v (dcGradAfter o x y)] := by eval_plan site_vsharp_dc, dcGradAfterPlan
theorem site_vsharp3d_dc_sem (x : V) (y : W) :
    evalPlan ox [.v x, .w y] site_vsharp3d_dc = some [.v (dcGradAfter o x y)] := by
  eval_plan site_vsharp3d_dc, dcGradAfterPlan
theorem site_vsharp_init_sem (x : V) (y : W) :
    evalPlan ox [.v x, .w y] site_vsharp_init = some [.v (sense o y)] := by eval_plan site_vsharp_init, senseYPlan
theorem site_jointic_fwd_sem (x : V) : evalPlan ox [.v x] site_jointic_fwd = some [.w (aOp o x)] := by
  eval_plan site_jointic_fwd, aOpPlan
theorem site_jointic_bwd_sem (k : W) : evalPlan ox [.w k] site_jointic_bwd = some [.v (aStar o k)] := by
  eval_plan site_jointic_bwd, aStarPlan
theorem site_iterdual_fwd_sem (x : V) : evalPlan ox [.v x] site_iterdual_fwd = some [.w (aOp o x)] := by
  eval_plan site_iterdual_fwd, aOpPlan
theorem site_iterdual_bwd_sem (k : W) : evalPlan ox [.w k] site_iterdual_bwd = some [.v (aStar o k)] := by
  eval_plan site_iterdual_bwd, aStarPlan
theorem site_lpd_fwd_sem (x : V) : evalPlan ox [.v x] site_lpd_fwd = some [.w (aOp o x)] := by
  eval_plan site_lpd_fwd, aOpPlan
theorem site_lpd_bwd_sem (k : W) : evalPlan ox [.w k] site_lpd_bwd = some [.v (aStar o k)] := by
  eval_plan site_lpd_bwd, aStarPlan
theorem site_xpd_fwd_sem (x : V) : evalPlan ox [.v x] site_xpd_fwd = some [.w (aOp o x)] := by
  eval_plan site_xpd_fwd, aOpPlan
theorem site_xpd_bwd_sem (k : W) : evalPlan ox [.w k] site_xpd_bwd = some [.v (aStar o k)] := by
  eval_plan site_xpd_bwd, aStarPlan
theorem site_engine_fwd_sem (x : V) : evalPlan ox [.v x] site_engine_fwd = some [.w (aOp o x)] := by
  eval_plan site_engine_fwd, aOpPlan
theorem site_engine_bwd_sem (k : W) : evalPlan ox [.w k] site_engine_bwd = some [.v (aStar o k)] := by
  eval_plan site_engine_bwd, aStarPlan
theorem site_jointic_image_dc_sem (x : V) (y : W) :
    evalPlan ox [.v x, .w y] site_jointic_image_dc = some [.v (dcGradTwice o x y)] := by
  eval_plan site_jointic_image_dc, dcGradTwicePlan
theorem site_jointic_sens_grad_sem (x : V) (y : W) :
    evalPlan ox [.v x, .w y] site_jointic_sens_grad = some [.w (sensGrad ox x y)] := by
  eval_plan site_jointic_sens_grad, sensGradPlan
theorem site_iterdual_dc_sem (x : V) (y : W) :
    evalPlan ox [.v x, .w y] site_iterdual_dc = some [.v (dcGradTwice o x y)] := by
  eval_plan site_iterdual_dc, dcGradTwicePlan
theorem site_iterdual_init_sem (x : V) (y : W) :
    evalPlan ox [.v x, .w y] site_iterdual_init = some [.v (sense o y)] := by eval_plan site_iterdual_init, senseYPlan
theorem site_varsplit_dc_sem (x : V) (y : W) (s : K) :
    evalPlan ox [.v x, .w y, .k s] site_varsplit_dc = some [.v (loglik o s x y)] := by
  eval_plan site_varsplit_dc, loglikCorePlan
theorem site_kiki_image_sem (k : W) : evalPlan ox [.w k] site_kiki_image = some [.v (aStar o k)] := by
  eval_plan site_kiki_image, aStarPlan
theorem site_kiki_kspace_sem (x : V) : evalPlan ox [.v x] site_kiki_kspace = some [.w (aOp o x)] := by
  eval_plan site_kiki_kspace, aOpPlan
theorem site_cirim_softdc_sem (k y : W) (x : V) :
    evalPlan ox [.w k, .w y, .v x] site_cirim_softdc = some [.w (softDC o k y)] := by
  eval_plan site_cirim_softdc, softDCPlan
theorem site_cirim_image_sem (k y : W) (x : V) :
    evalPlan ox [.w k, .w y, .v x] site_cirim_image = some [.v (sense o k)] := by eval_plan site_cirim_image, sensePlan
theorem site_cirim_kspace_sem (k y : W) (x : V) :
    evalPlan ox [.w k, .w y, .v x] site_cirim_kspace = some [.w (cirimKspace o x k y)] := by
  eval_plan site_cirim_kspace, cirimKspacePlan
theorem site_ssl_harddc_sem (x : V) (y : W) :
    evalPlan ox [.v x, .w y] site_ssl_harddc = some [.w (hardDC ox x y)] := by eval_plan site_ssl_harddc, hardDCPlan
theorem site_jssl_harddc_sem (x : V) (y : W) :
    evalPlan ox [.v x, .w y] site_jssl_harddc = some [.w (hardDC ox x y)] := by eval_plan site_jssl_harddc, hardDCPlan
theorem site_vsharp_ssl_harddc0_sem (x : V) (y : W) :
    evalPlan ox [.v x, .w y] site_vsharp_ssl_harddc0 = some [.w (hardDC ox x y)] := by
  eval_plan site_vsharp_ssl_harddc0, hardDCPlan
theorem site_vsharp_ssl_harddc1_sem (x : V) (y : W) :
    evalPlan ox [.v x, .w y] site_vsharp_ssl_harddc1 = some [.w (hardDC ox x y)] := by
  eval_plan site_vsharp_ssl_harddc1, hardDCPlan
theorem site_vsharp_jssl_harddc0_sem (x : V) (y : W) :
    evalPlan ox [.v x, .w y] site_vsharp_jssl_harddc0 = some [.w (hardDC ox x y)] := by
  eval_plan site_vsharp_jssl_harddc0, hardDCPlan
theorem site_vsharp_engine_harddc_sem (x : V) (y : W) :
    evalPlan ox [.v x, .w y] site_vsharp_engine_harddc = some [.w (hardDC ox x y)] := by
  eval_plan site_vsharp_engine_harddc, hardDCPadPlan
theorem site_vsharp3d_engine_harddc_sem (x : V) (y : W) :
    evalPlan ox [.v x, .w y] site_vsharp3d_engine_harddc = some [.w (hardDC ox x y)] := by
  eval_plan site_vsharp3d_engine_harddc, hardDCPadPlan

/-- `ConjGradNet.init_z` (SENSE branch) -/
theorem site_conjgradnet_init_sem (y : W) :
    evalPlan ox [.w y] site_conjgradnet_init = some [.v (sense o y)] := by eval_plan site_conjgradnet_init, sensePlan

theorem rim_llg_call_args : rim_llg_call_args_ok = true := by decide
theorem cirim_llg_call_args : cirim_llg_call_args_ok = true := by decide

end Semantics

/-! The string tables are compared by the kernel alone (`decide +kernel`): the elaborator's evaluator is slow on `String`. -/

/-- every `self.conj_grad(…)` call of `ConjGradNet.forward` is `(masked_kspace, sensitivity_map, sampling_mask, z, self.mu)` -/
theorem conjgradnet_cg_calls_ok : conjGradNetCallsOk conjgradnet_cg_calls = true := by decide +kernel
/-- `ConjGradNet.__init__` hands `cg_iters, cg_tol, cg_param_update_type` to `num_iters, tol, bk_update_type` -/
theorem conjgradnet_ctor_args_eq :
    conjgrad_ctor_params = conjGradCtorParams ∧ conjgradnet_ctor_args = conjGradNetCtorArgs := by decide +kernel

/-- no write to attributes of `self`, class attributes, module globals / containers, mutable defaults, no memoising
decorator, in any function reachable from the entry points `dcRequiredReach`: hypothesis of `dc_history_independent` -/
theorem dc_state_writes_ok : stateWritesOk dc_state_writes dc_state_reach = true := by decide +kernel

/-- single exit (the last statement) and no in-place operation (`x += …`, `x[...] = …` on an argument, `x.op_()`, `out=`)
in the anchored blocks and the tensor helpers under them: the plans above cover every path, and no argument is modified -/
theorem dc_block_shape_ok : blockShapeOk dc_block_exits dc_block_inplace = true := by decide +kernel

/-- straight-line plans plus the one loop of `cg`: no branch on the mode, a shape, a coil count, a dtype or a device and no
loop over coils or chunks in the two anchored blocks; the loops and branches of the other data-consistency classes are
the recorded ones (excluded e.g.: coils accumulated in chunks of 8 in eval mode with the remainder dropped) -/
theorem dc_control_ok : controlOk dc_block_control dc_site_control = true := by decide +kernel

end DirectVerif.Bridge.C19
