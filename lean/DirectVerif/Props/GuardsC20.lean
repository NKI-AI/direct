import DirectVerif.Props.C20
import DirectVerif.Lemmas.C20Guard
/-!
# C20 — values, not just shapes

`Props/C20.lean` proves that every shipped tree merges into the typed schema and that every name resolves.  This file is
about the *values* afterwards, on tables the translator extracts from the source on every run (`Gen/C20.lean`: `guardRows`,
`softRows`, `classInfos`, `consumers`, `cfgChains…`, `engineModelFields`, `strToClassSites`):

* every value a shipped file (or a dataclass default) hands to a model / masking-function / dataset constructor passes the
  argument-validation guards of that class (`if x not in [...]: raise`, `all(0 < f < 1 …)`, `isinstance(f, int)`, …), with
  Python's semantics of `DirectEnum.__eq__` and of OmegaConf's conversions;
* every value that selects a branch of a dispatch without a raising `else` (`_get_model_config`, `ConjGrad.cg`) names one
  of the branches — otherwise it would silently select the fallback;
* `Model(**cfg)`, `Dataset(transform=…, **cfg)`, `MaskFunc(**init_args)` bind, including the `for key in kwargs: raise` loops;
* the `crop` values are ones `_compute_resolution` accepts; `training.optimizer` is a class of `torch.optim`;
* every `cfg.a.b.c` the package reads is a declared field; every `cfg.model.<field>` an engine reads is a field of the
  config class of every shipped file that selects that engine;
* the transform schema and `build_mri_transforms` agree in both directions, and `dict_flatten` never merges two keys.

The file is not called `C20Guards` because the harness attributes build failures to modules by substring, and
`Props.C20` is a prefix of `Props.C20Guards`.
-/
namespace DirectVerif.C20
open DirectVerif DirectVerif.Config DirectVerif.Gen.C20

def ofStr (s : String) : Str := s.toList.map Char.toNat
def sym (s : String) : Sym := tables.symbols.idxOf (pack (ofStr s))

/-- One proposition, so that a single kernel evaluation walks the tables and decodes each distinct name once; the theorems
that follow are its components. -/
theorem guard_tables_evaluated :
    -- constructor guards
    ((∀ m ∈ registeredModels, modelDefaultGuardsOk tables gtables m.1 = true) ∧
     (∀ c ∈ configs, blockGuardsOk tables gtables maskingSchema c.2 = true) ∧
     (∀ d ∈ registeredDatasets, datasetDefaultGuardsOk tables gtables d = true) ∧
     (∀ c ∈ configs, ∀ b ∈ modelBlocksOf tables c.2, ∀ cls, modelClassOf tables b = some cls →
       guardsVerdict tables gtables 0 cls (modelSchema tables b) b = 1) ∧
     (modelBlockGuardsOk tables gtables (.map [(sym "model_name", .str (sym "vsharp.vsharp.VSharpNet") 0),
                                              (sym "image_init", .str (sym "ZEROS") 0)]) = false ∧
      modelBlockGuardsOk tables gtables (.map [(sym "model_name", .str (sym "vsharp.vsharp.VSharpNet") 0),
                                              (sym "auxiliary_steps", .int 0)]) = false ∧
      modelBlockGuardsOk tables gtables (.map [(sym "model_name", .str (sym "vsharp.vsharp.VSharpNet") 0),
                                              (sym "num_steps", .int 4), (sym "auxiliary_steps", .int 5)]) = false ∧
      modelBlockGuardsOk tables gtables (.map [(sym "model_name", .str (sym "vsharp.vsharp.VSharpNet") 0),
                                              (sym "num_steps", .int 4), (sym "auxiliary_steps", .int 4)]) = true ∧
      guardsPass tables gtables 1 (packPair (maskFuncTarget (ofStr "CartesianRandom"))) none
        (.map [(sym "accelerations", .list [.int 4]), (sym "center_fractions", .list [.float (sym "0.1")])]) = false ∧
      guardsPass tables gtables 1 (packPair (maskFuncTarget (ofStr "FastMRIRandom"))) none
        (.map [(sym "accelerations", .list [.int 4]), (sym "center_fractions", .list [.int 12])]) = false ∧
      guardsPass tables gtables 1 (packPair (maskFuncTarget (ofStr "CartesianRandom"))) none
        (.map [(sym "accelerations", .list [.int 4]), (sym "center_fractions", .list [.int 12])]) = true ∧
      guardsPass tables gtables 1 (packPair (maskFuncTarget (ofStr "CartesianRandom"))) (some maskingSchema)
        (.map [(sym "accelerations", .list [.int 4]), (sym "center_fractions", .list [.int 12])]) = false)) ∧
    -- dispatches without a raising `else`
    ((∀ c ∈ configs, modelNamesOk tables gtables c.2 = true) ∧
     (∀ m ∈ registeredModels, modelDefaultNamesOk tables gtables m.1 = true) ∧
     (strDefaultsPlain gtables (.struct 0 [(sym "denoiser_architecture", .str, .str (sym "ModelName.RESNET") 0)]) = false ∧
      strDefaultsPlain gtables (.struct 0 [(sym "denoiser_architecture", .str, .str (sym "resnet") 0)]) = true) ∧
     modelBlockNamesOk tables gtables (.map [(sym "model_name", .str (sym "vsharp.vsharp.VSharpNet") 0),
       (sym "image_model_architecture", .str (sym "NORMUNET") 0)]) = true) ∧
    -- constructors bind
    ((∀ m ∈ registeredModels, modelCtorOk tables gtables m = true) ∧
     (∀ d ∈ registeredDatasets, datasetCtorOk tables gtables kTransform d = true) ∧
     (∀ c ∈ configs, blocksBindOk tables gtables c.2 = true)) ∧
    -- consumed values, attribute chains
    ((∀ c ∈ configs, ∀ k ∈ consumers, consumerOk tables gtables (installedRoot tables) c.2 k = true) ∧
     ((∀ c ∈ configs, optimizerOk tables kOptimizer c.2 = true) ∧ optimizerOk tables kOptimizer (.map []) = true) ∧
     (chainOk (installedRoot tables) [sym "inference", sym "dataset", sym "transforms", sym "crop"] = false ∧
      chainOk (installedRoot tables) [sym "inference", sym "dataset", sym "transforms", sym "cropping", sym "crop"] = true) ∧
     (∀ c ∈ configs, engineFieldsOk tables engineModelFields c.2 = true)) ∧
    -- transform schema and builder
    ((∀ p ∈ builderRequired, p ∈ [sym "forward_operator", sym "backward_operator", sym "mask_func"]) ∧
     (∀ p ∈ builderParams, p ∈ [sym "forward_operator", sym "backward_operator", sym "mask_func"] ∨
       p ∈ schemaLeafKeys 8 transformSchema) ∧
     (nodup (schemaLeafKeys 8 transformSchema) = true ∧
      (∀ c ∈ configs, ∀ b ∈ sectionBlocks tables c.2 tables.kTraining ++ sectionBlocks tables c.2 tables.kValidation,
        rawFlattenInjective tables b = true)) ∧
     rawFlattenInjective tables (.map [(tables.kTransforms, .map [(sym "crop", .null),
       (sym "cropping", .map [(sym "crop", .null)])])]) = false) := by decide +kernel

/-- file value over config-class default over constructor default, as `initialize_models_from_config` passes them -/
theorem shipped_model_values_pass_guards : ∀ c ∈ configs, modelGuardsOk tables gtables c.2 = true := fun c hc =>
  modelGuardsOk_of_verdict (guard_tables_evaluated.1.2.2.2.1 c hc)

theorem model_defaults_pass_guards : ∀ m ∈ registeredModels, modelDefaultGuardsOk tables gtables m.1 = true :=
  guard_tables_evaluated.1.1

/-- untyped training / validation blocks take the callee's own defaults, the typed inference block those of
`MaskingConfig` / the dataset's config class (with the int → float conversion) -/
theorem shipped_block_values_pass_guards : ∀ c ∈ configs, blockGuardsOk tables gtables maskingSchema c.2 = true :=
  guard_tables_evaluated.1.2.1

theorem dataset_defaults_pass_guards : ∀ d ∈ registeredDatasets, datasetDefaultGuardsOk tables gtables d = true :=
  guard_tables_evaluated.1.2.2.1

/-- verdict 1, not 2: no guard was left undecided -/
theorem model_guards_all_decided :
    (∀ c ∈ configs, ∀ b ∈ modelBlocksOf tables c.2, ∀ cls, modelClassOf tables b = some cls →
      guardsVerdict tables gtables 0 cls (modelSchema tables b) b = 1) := guard_tables_evaluated.1.2.2.2.1

example : guardRows.length ≥ 40 ∧ ([0, 1, 2, 3].all fun r => guardRows.any (·.route == r)) = true := by decide +kernel

/-- what the real constructors reject; the last one only in the typed inference block, where `tuple[float, …]` turns 12
into 12.0 -/
theorem guards_reject_witnesses :
    modelBlockGuardsOk tables gtables (.map [(sym "model_name", .str (sym "vsharp.vsharp.VSharpNet") 0),
                                             (sym "image_init", .str (sym "ZEROS") 0)]) = false ∧
    modelBlockGuardsOk tables gtables (.map [(sym "model_name", .str (sym "vsharp.vsharp.VSharpNet") 0),
                                             (sym "auxiliary_steps", .int 0)]) = false ∧
    modelBlockGuardsOk tables gtables (.map [(sym "model_name", .str (sym "vsharp.vsharp.VSharpNet") 0),
                                             (sym "num_steps", .int 4), (sym "auxiliary_steps", .int 5)]) = false ∧
    modelBlockGuardsOk tables gtables (.map [(sym "model_name", .str (sym "vsharp.vsharp.VSharpNet") 0),
                                             (sym "num_steps", .int 4), (sym "auxiliary_steps", .int 4)]) = true ∧
    guardsPass tables gtables 1 (packPair (maskFuncTarget (ofStr "CartesianRandom"))) none
      (.map [(sym "accelerations", .list [.int 4]), (sym "center_fractions", .list [.float (sym "0.1")])]) = false ∧
    guardsPass tables gtables 1 (packPair (maskFuncTarget (ofStr "FastMRIRandom"))) none
      (.map [(sym "accelerations", .list [.int 4]), (sym "center_fractions", .list [.int 12])]) = false ∧
    guardsPass tables gtables 1 (packPair (maskFuncTarget (ofStr "CartesianRandom"))) none
      (.map [(sym "accelerations", .list [.int 4]), (sym "center_fractions", .list [.int 12])]) = true ∧
    guardsPass tables gtables 1 (packPair (maskFuncTarget (ofStr "CartesianRandom"))) (some maskingSchema)
      (.map [(sym "accelerations", .list [.int 4]), (sym "center_fractions", .list [.int 12])]) = false :=
  guard_tables_evaluated.1.2.2.2.2

theorem shipped_names_select_named_branch : ∀ c ∈ configs, modelNamesOk tables gtables c.2 = true :=
  guard_tables_evaluated.2.1.1

theorem default_names_select_named_branch :
    ∀ m ∈ registeredModels, modelDefaultNamesOk tables gtables m.1 = true := guard_tables_evaluated.2.1.2.1

/-- pinned tree (repaired by typing the fields as enums): `ConjGradNetConfig.denoiser_architecture` was a `str` field, so
the shipped `NORMUNET` stayed a plain string and the default was stored as the text `ModelName.RESNET`; `_get_model_config`
compares with lower-case literals and both fell through to `Conv2d`.  Likewise `cg_param_update_type` stored
`CGUpdateType.FR` and `ConjGrad.cg` ran the `BAN` update. -/
theorem str_typed_architecture_pinned_violates :
    let dispatch : Guard := .oneOf [.str (pack (ofStr "unet")) false, .str (pack (ofStr "normunet")) false,
      .str (pack (ofStr "resnet")) false, .str (pack (ofStr "didn")) false, .str (pack (ofStr "conv")) true] true
    let cg : Guard := .oneOf [.str (pack (ofStr "FR")) false, .str (pack (ofStr "PRP")) false,
      .str (pack (ofStr "DY")) false, .str (pack (ofStr "BAN")) true] true
    evalGuard dispatch (.s (.str (ofStr "NORMUNET") false)) (fun _ => .unknown) = some false ∧
    evalGuard dispatch (.s (.str (ofStr "ModelName.RESNET") false)) (fun _ => .unknown) = some false ∧
    evalGuard cg (.s (.str (ofStr "CGUpdateType.FR") false)) (fun _ => .unknown) = some false ∧
    evalGuard dispatch (.s (.str (ofStr "normunet") true)) (fun _ => .unknown) = some true ∧
    evalGuard cg (.s (.str (ofStr "FR") true)) (fun _ => .unknown) = some true := by decide

/-- decided twice: on the introspected dataclasses (`strFieldEnumDefaults`) and on the schema table (no `str` default is
the text `Cls.NAME` of a member of a known enum) — the condition whose violation misrouted the pinned defaults -/
theorem str_fields_hold_no_enum_member :
    strFieldEnumDefaults = [] ∧ ∀ s ∈ schemas, strDefaultsPlain gtables s.2 = true := by decide +kernel

theorem str_field_enum_default_pinned_violates :
    strDefaultsPlain gtables (.struct 0 [(sym "denoiser_architecture", .str, .str (sym "ModelName.RESNET") 0)]) = false ∧
    strDefaultsPlain gtables (.struct 0 [(sym "denoiser_architecture", .str, .str (sym "resnet") 0)]) = true :=
  guard_tables_evaluated.2.1.2.2.1

example : softRows.length ≥ 4 := by decide +kernel
example : modelBlockNamesOk tables gtables (.map [(sym "model_name", .str (sym "vsharp.vsharp.VSharpNet") 0),
    (sym "image_model_architecture", .str (sym "NORMUNET") 0)]) = true := guard_tables_evaluated.2.1.2.2.2

/-- includes the `for key in kwargs: if key not in …: raise` loops; stronger than `model_configs_accepted`, which takes
`**kwargs` to accept everything -/
theorem model_constructors_bind : ∀ m ∈ registeredModels, modelCtorOk tables gtables m = true := guard_tables_evaluated.2.2.1.1

theorem dataset_constructors_bind : ∀ d ∈ registeredDatasets, datasetCtorOk tables gtables kTransform d = true :=
  guard_tables_evaluated.2.2.1.2.1

theorem masking_constructors_bind : ∀ c ∈ configs, blocksBindOk tables gtables c.2 = true := guard_tables_evaluated.2.2.1.2.2

example :
    (match classInfo gtables 0 (packPair (modelTarget (ofStr "rim.rim.RIM"))) with
     | some info => (kwAllowed info.kwPolicy (ofStr "bogus_key_zz"), kwAllowed info.kwPolicy (ofStr "steps"))
     | none => (true, false)) = (false, true) := by decide +kernel

theorem consumed_values_accepted :
    ∀ c ∈ configs, ∀ k ∈ consumers, consumerOk tables gtables (installedRoot tables) c.2 k = true :=
  guard_tables_evaluated.2.2.2.1.1

theorem default_consumed_values_accepted :
    ∀ k ∈ consumers, consumerOk tables gtables (installedRoot tables) (.map []) { k with needs := [] } = true := by
  decide +kernel

/-- the pinned default `ValidationConfig.crop = "training"` -/
theorem validation_crop_pinned_violates :
    evalGuard (.oneOf [.str (pack (ofStr "header")) false] true) (.s (.str (ofStr "training") false)) (fun _ => .unknown)
      = some false := by decide

/-- a call chain to `_compute_resolution` that the translator cannot follow is dropped from `consumers` and counted in
`consumersUnverified` (reported, not an alarm): the three configuration values are all accounted for -/
example : consumers.length + consumersUnverified = 3 := by decide

theorem optimizers_resolve :
    (∀ c ∈ configs, optimizerOk tables kOptimizer c.2 = true) ∧ optimizerOk tables kOptimizer (.map []) = true :=
  guard_tables_evaluated.2.2.2.1.2.1

theorem package_attribute_chains_declared : ∀ c ∈ cfgChainsPackage, chainOk (installedRoot tables) c.1 = true := by
  decide +kernel

/-- the same for the scripts under `projects/`, restricted (`c.2`) to functions that are referenced anywhere.  Without the
restriction it is false: `projects/calgary_campinas/predict_test.py:inference_cfg_validation` (never called) reads
`cfg.inference.dataset.transforms.crop`, which the typed schema keeps under `cropping` (`uncalled_chain_current_violates`). -/
theorem project_attribute_chains_declared_partial :
    ∀ c ∈ cfgChainsProjects, c.2 = true → chainOk (installedRoot tables) c.1 = true := by decide +kernel

theorem uncalled_chain_current_violates :
    chainOk (installedRoot tables) [sym "inference", sym "dataset", sym "transforms", sym "crop"] = false ∧
    chainOk (installedRoot tables) [sym "inference", sym "dataset", sym "transforms", sym "cropping", sym "crop"] = true :=
  guard_tables_evaluated.2.2.2.1.2.2.1

theorem engine_model_fields_declared : ∀ c ∈ configs, engineFieldsOk tables engineModelFields c.2 = true :=
  guard_tables_evaluated.2.2.2.1.2.2.2

example : cfgChainsPackage.length ≥ 30 ∧ engineModelFields.length ≥ 3 := by decide +kernel

/-- the one site outside the model: `MobileNetV2`'s `norm_layer` look-up in `torch.nn`, a class without a config class -/
theorem str_to_class_sites_modelled :
    ∀ s ∈ strToClassSites, s.2.2 = true ∨
      (s.1 = pack (ofStr "direct/nn/mobilenet/mobilenet.py") ∧ s.2.1 = pack (ofStr "__init__")) := by decide +kernel

example : strToClassSites.length ≥ 9 := by decide +kernel

/-- `${…}` interpolation and Hydra-style `defaults` lists are not part of the merge model -/
theorem no_interpolation : interpolations = 0 := by decide

theorem builder_required_supplied :
    ∀ p ∈ builderRequired, p ∈ [sym "forward_operator", sym "backward_operator", sym "mask_func"] :=
  guard_tables_evaluated.2.2.2.2.1

/-- the converse of `transform_keys_accepted` -/
theorem builder_params_configurable :
    ∀ p ∈ builderParams, p ∈ [sym "forward_operator", sym "backward_operator", sym "mask_func"] ∨
      p ∈ schemaLeafKeys 8 transformSchema := guard_tables_evaluated.2.2.2.2.2.1

/-- `dict_flatten` drops the group names, so the same leaf key in two groups would be merged silently -/
theorem flatten_injective :
    nodup (schemaLeafKeys 8 transformSchema) = true ∧
    (∀ c ∈ configs, ∀ b ∈ sectionBlocks tables c.2 tables.kTraining ++ sectionBlocks tables c.2 tables.kValidation,
      rawFlattenInjective tables b = true) := guard_tables_evaluated.2.2.2.2.2.2.1

example : rawFlattenInjective tables (.map [(tables.kTransforms, .map [(sym "crop", .null),
    (sym "cropping", .map [(sym "crop", .null)])])]) = false := guard_tables_evaluated.2.2.2.2.2.2.2

/-- `Bridge.C20.merge_order_as_modelled` ties this to the statement order of `setup_common_environment` -/
theorem mergeCheck_spec (t : Tables) (file : Val) :
    mergeCheck t file = .ok () ↔
      ∃ kvs blocks, file = .map kvs ∧ modelBlocks t file = .ok blocks ∧
        (∀ b ∈ blocks, checkModelBlock t b.2 = .ok ()) ∧ (∀ kv ∈ kvs, checkTopKey t file kv.1 kv.2 = .ok ()) :=
  Config.mergeCheck_ok_iff t file

/-- what the real merge does not check: a `List[Any]` field accepts every list whatsoever … -/
theorem list_any_unchecked (xs : List Val) : validate (.list .any) (.list xs) = .ok () := Config.list_any_unchecked xs

def isListAny : Ty → Bool
  | .list .any => true
  | _ => false

/-- … and `training.datasets` / `validation.datasets` are such fields: the merge never looks inside those blocks -/
theorem dataset_blocks_untyped :
    isListAny (tyAt tables.training [tables.kDatasets]) = true ∧
    isListAny (tyAt tables.validation [tables.kDatasets]) = true := by decide +kernel

/-- what the consumers (`build_transforms_from_environment`) check of such a block instead -/
theorem rawBlockCheck_spec (t : Tables) (b : Val) :
    rawBlockCheck t b = .ok () ↔
      ∃ kvs m, b.get? t.kTransforms = some (.map kvs) ∧ lookup t.kMasking kvs = some m ∧
        maskingCheck t m = .ok () ∧ transformsCheck t (.map kvs) = .ok () :=
  Config.rawBlockCheck_ok_iff t b

example : ∃ c ∈ configs, mergeCheck tables c.2 = .ok () :=
  have h : configs ≠ [] := List.ne_nil_of_length_pos (by decide)
  ⟨_, List.head_mem h, all_shipped_configs_validate _ (List.head_mem h)⟩

theorem guardsPass_iff (T : Tables) (G : GTables) (route : Nat) (cls : PStr × PStr) (schema : Option Ty) (block : Val) :
    guardsPass T G route cls schema block = true ↔
      ∀ r ∈ rowsOf G route cls,
        evalRow r (envOf T G schema block (((classInfo G (if route = 4 then 0 else route) cls).map (·.params)).getD []))
          ≠ some false :=
  Config.guardsPass_iff T G route cls schema block

theorem oneOf_spec (cs : List GConst) (x : PyS) (o : Sym → PyV) :
    evalGuard (.oneOf cs false) (.s x) o = some true ↔ pyMem x cs = some true :=
  Config.oneOf_spec cs x o

/-- `DirectEnum.__eq__` -/
theorem pyEq_str (s t : Str) (e f : Bool) :
    pyEq (.str s e) (.str (pack t) f) = some (if e || f then lower s == lower (unpack (pack t)) else pack s == pack t) :=
  rfl

/-- `all(lo < f < hi for f in fs)` on exact rationals -/
theorem allBetween_spec (lo hi : Int) (xs : List (Int × Nat)) (o : Sym → PyV) :
    evalGuard (.allBetween lo hi) (.list (xs.map fun x => .num x.1 x.2 false)) o = some true ↔
      ∀ x ∈ xs, lo * x.2 < x.1 ∧ x.1 < hi * x.2 :=
  Config.allBetween_spec lo hi xs o

example : evalGuard (.allBetween 0 1) (.list [.num 1 10 false, .num 2 25 false]) (fun _ => .unknown) = some true := by decide
example : pyMem (.str (ofStr "SENSE") true) [.str (pack (ofStr "sense")) false] = some true := by decide

end DirectVerif.C20
