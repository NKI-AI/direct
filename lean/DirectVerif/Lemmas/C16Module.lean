import DirectVerif.Lemmas.C16
import Mathlib.Algebra.Module.Defs
import Mathlib.Algebra.BigOperators.Group.Finset.Basic
import Mathlib.Algebra.Field.Rat
import Mathlib.Algebra.Module.Prod
import Mathlib.Algebra.BigOperators.Pi
/-!
# The loop machine over a ℚ-module of gradients (`div_(k)` = multiplication by `1/k`)

`Ops` instances with algebraic structure on the gradients, so that `windowSum` becomes a `Finset` sum and `received` the
(clipped) `1/k`-fold.  The only C16 lemma file that needs Mathlib.
-/
namespace DirectVerif.Train
variable {P O G B L Sc : Type}

/-- model, loss (`grad`), clipping and optimiser stay arbitrary -/
def moduleOps [AddCommGroup G] [Module ℚ G] (grad : P → B → G) (clip : G → G)
    (opt : L → P → O → G → P × O) (supd : Sc → Sc := fun s => s) : Ops P O G B L Sc :=
  { grad := grad, add := (· + ·), zero := 0, divk := fun k g => ((k : ℚ))⁻¹ • g, clip := clip, opt := opt, supd := supd }

/-- `self.model` (gradients in `G`) and the additional models of `self.models` (`H`) in one optimiser, as on the
pinned tree: `div_(gradient_steps)` applied to `self.model.parameters()` only -/
def moduleOps2Pinned {H : Type} [AddCommGroup G] [Module ℚ G] [AddCommGroup H] [Module ℚ H]
    (grad : P → B → G × H) (clip : G × H → G × H) (opt : L → P → O → G × H → P × O) (supd : Sc → Sc := fun s => s) :
    Ops P O (G × H) B L Sc :=
  { grad := grad, add := (· + ·), zero := 0, divk := fun k g => (((k : ℚ))⁻¹ • g.1, g.2), clip := clip, opt := opt,
    supd := supd }

/-- additive gradients only, `div_` arbitrary (for the conservation law `no_gradient_dropped_or_doubled`) -/
def addOps [AddCommMonoid G] (grad : P → B → G) (divk : Nat → G → G) (clip : G → G)
    (opt : L → P → O → G → P × O) (supd : Sc → Sc := fun s => s) : Ops P O G B L Sc :=
  { grad := grad, add := (· + ·), zero := 0, divk := divk, clip := clip, opt := opt, supd := supd }

theorem windowSum_eq_sum [AddCommMonoid G] (ops : Ops P O G B L Sc) (hadd : ops.add = (· + ·))
    (batch : Nat → B) (θ : P) (it0 n : Nat) (g0 : G) :
    windowSum ops batch θ it0 n g0 = g0 + ∑ j ∈ Finset.range n, ops.grad θ (batch (it0 + j)) := by
  induction n with
  | zero => rw [Finset.sum_range_zero, add_zero]; rfl
  | succ n ih => rw [windowSum_succ, ih, hadd, Finset.sum_range_succ]; exact add_assoc _ _ _

/-- also for `k = 1`, where the loop does not divide -/
theorem received_moduleOps [AddCommGroup G] [Module ℚ G] (grad : P → B → G) (clip : G → G)
    (opt : L → P → O → G → P × O) (supd : Sc → Sc) (cfg : Cfg) (hk : 0 < cfg.k) (a : G) :
    received (moduleOps grad clip opt supd : Ops P O G B L Sc) cfg a =
      if cfg.clipOn then clip (((cfg.k : ℚ))⁻¹ • a) else ((cfg.k : ℚ))⁻¹ • a := by
  have hd : (if cfg.k > 1 then ((cfg.k : ℚ))⁻¹ • a else a) = ((cfg.k : ℚ))⁻¹ • a := by
    by_cases h1 : cfg.k > 1
    · rw [if_pos h1]
    · rw [if_neg h1, Nat.le_antisymm (Nat.le_of_not_lt h1) hk, Nat.cast_one, inv_one, one_smul]
  show (if cfg.clipOn then clip (if cfg.k > 1 then ((cfg.k : ℚ))⁻¹ • a else a)
    else if cfg.k > 1 then ((cfg.k : ℚ))⁻¹ • a else a) = _
  rw [hd]

end DirectVerif.Train
