import DirectVerif.Model.TensorLift
/-!
# `Tensor.alongAxis` is the functorial per-fibre application

The drivers execute n-D operations as `Tensor.alongAxis t axis f` with `f` a 1-D list model; the property theorems are
about the 1-D `f`.  This file connects the two, for the array-based `Tensor.alongAxis` of `Model/Basic.lean` itself: it
equals the list-level `alongAxisL` of `Model/TensorLift.lean` unconditionally; for a length-uniform `f`, fibre `(o, i)`
of the result is `f` of fibre `(o, i)` of the input, whence identity, composition and cancellation along one axis.
Liftings along two *different* axes commute when the two functions commute on every two-dimensional slice, in
particular when one of them is an index gather with fill (`IsGather`: roll, crop, constant pad, …); for arbitrary
functions they do not (`alongAxis_comm_fails_in_general` in `Lemmas/TensorLiftC01.lean`).  Core Lean only.
-/
namespace DirectVerif.TensorLift
open DirectVerif DirectVerif.Tensor

theorem toArray_getElem! {α} [Inhabited α] (l : List α) (i : Nat) : l.toArray[i]! = l.getD i default := by
  simp [getElem!_def, List.getD_eq_getElem?_getD]
  cases l[i]? <;> rfl

theorem toArray2_getElem! {α} [Inhabited α] (F : List (List α)) (j k : Nat) :
    ((F.toArray.map List.toArray)[j]!)[k]! = (F.getD j []).getD k default := by
  simp [getElem!_def, List.getD_eq_getElem?_getD]
  cases F[j]? <;> simp
  · rfl
  · rename_i l; cases l[k]? <;> rfl

theorem alongAxis_eq_alongAxisL {α} [Inhabited α] (t : Tensor α) (axis : Nat) (f : List α → List α) :
    t.alongAxis axis f = t.alongAxisL axis f := by
  unfold Tensor.alongAxis Tensor.alongAxisL fibres gather fibre outLen
  simp only [toArray_getElem!, toArray2_getElem!]
  rfl

theorem foldl_mul (s : List Nat) (a : Nat) : s.foldl (· * ·) a = a * prod s := by
  induction s generalizing a with
  | nil => simp [prod]
  | cons x xs ih =>
    simp only [prod, List.foldl_cons] at ih ⊢
    rw [ih (a * x), ih (1 * x), Nat.one_mul, Nat.mul_assoc]

theorem prod_nil : prod [] = 1 := rfl

theorem prod_cons (x : Nat) (xs : List Nat) : prod (x :: xs) = x * prod xs := by
  show (x :: xs).foldl (· * ·) 1 = _
  rw [List.foldl_cons, foldl_mul, Nat.one_mul]

theorem prod_append (xs ys : List Nat) : prod (xs ++ ys) = prod xs * prod ys := by
  induction xs with
  | nil => simp [prod_nil]
  | cons x xs ih => rw [List.cons_append, prod_cons, prod_cons, ih, Nat.mul_assoc]

theorem prod_split (s : List Nat) (a : Nat) (h : a < s.length) :
    prod s = prod (s.take a) * s[a] * prod (s.drop (a + 1)) := by
  conv => lhs; rw [← List.take_append_drop a s, List.drop_eq_getElem_cons h]
  rw [prod_append, prod_cons, Nat.mul_assoc]

theorem prod_set (s : List Nat) (a m : Nat) (h : a < s.length) :
    prod (s.set a m) = prod (s.take a) * m * prod (s.drop (a + 1)) := by
  rw [List.set_eq_take_append_cons_drop, if_pos h, prod_append, prod_cons, Nat.mul_assoc]

theorem offset_foldl (s idx : List Nat) (a : Nat) (h : s.length = idx.length) :
    (s.zip idx).foldl (fun acc (p : Nat × Nat) => acc * p.1 + p.2) a = a * prod s + Tensor.offset s idx := by
  induction s generalizing a idx with
  | nil => simp [Tensor.offset, prod_nil]
  | cons n s ih =>
    cases idx with
    | nil => simp at h
    | cons i idx =>
      have h' : s.length = idx.length := by simpa using h
      show (s.zip idx).foldl _ (a * n + i) = a * prod (n :: s) + (s.zip idx).foldl _ (0 * n + i)
      rw [ih idx (a * n + i) h', ih idx (0 * n + i) h', prod_cons, Nat.zero_mul, Nat.zero_add,
        Nat.add_mul, Nat.mul_assoc, Nat.add_assoc]

theorem offset_cons (n i : Nat) (s idx : List Nat) (h : s.length = idx.length) :
    Tensor.offset (n :: s) (i :: idx) = i * prod s + Tensor.offset s idx := by
  show (s.zip idx).foldl _ (0 * n + i) = _
  rw [offset_foldl s idx _ h, Nat.zero_mul, Nat.zero_add]

theorem flatMap_range_map {β} (A B : Nat) (g : Nat → Nat → β) :
    (List.range A).flatMap (fun o => (List.range B).map (g o)) =
      (List.range (A * B)).map fun j => g (j / B) (j % B) := by
  induction A with
  | zero => simp
  | succ A ih =>
    rw [List.range_succ, List.flatMap_append, ih, Nat.succ_mul, List.range_add, List.map_append,
      List.map_map]
    congr 1
    simp only [List.flatMap_cons, List.flatMap_nil, List.append_nil]
    apply List.map_congr_left
    intro i hi
    have hi : i < B := List.mem_range.mp hi
    have hB : 0 < B := by omega
    simp only [Function.comp]
    rw [Nat.mul_comm A B, Nat.mul_add_div hB, Nat.mul_add_mod, Nat.div_eq_of_lt hi, Nat.mod_eq_of_lt hi,
      Nat.add_zero]

theorem flatMap_congr_mem {β γ} (l : List β) (f g : β → List γ) (h : ∀ a ∈ l, f a = g a) :
    l.flatMap f = l.flatMap g := by
  rw [List.flatMap_def, List.flatMap_def, List.map_congr_left h]

theorem flatMap_range_length {β} (A B : Nat) (g : Nat → Nat → β) :
    ((List.range A).flatMap (fun o => (List.range B).map (g o))).length = A * B := by
  rw [flatMap_range_map]; simp

theorem idx2 (o i B : Nat) (hi : i < B) : (o * B + i) / B = o ∧ (o * B + i) % B = i := by
  have hB : 0 < B := by omega
  rw [Nat.mul_comm o B, Nat.mul_add_div hB, Nat.mul_add_mod, Nat.div_eq_of_lt hi, Nat.mod_eq_of_lt hi]
  simp

theorem idx2_lt (o i A B : Nat) (ho : o < A) (hi : i < B) : o * B + i < A * B := by
  have : (o + 1) * B ≤ A * B := Nat.mul_le_mul_right B ho
  rw [Nat.succ_mul] at this; omega

theorem flatMap_range_getD {β} (A B : Nat) (g : Nat → Nat → β) (d : β) (o i : Nat) (ho : o < A) (hi : i < B) :
    ((List.range A).flatMap (fun o => (List.range B).map (g o))).getD (o * B + i) d = g o i := by
  rw [flatMap_range_map, List.getD_eq_getElem?_getD, List.getElem?_map,
    List.getElem?_range (idx2_lt o i A B ho hi)]
  simp only [Option.map_some, Option.getD_some, idx2 o i B hi]

theorem range_map_getD {α} (L : List α) (d : α) : (List.range L.length).map (fun k => L.getD k d) = L := by
  apply List.ext_getElem
  · simp
  · intro i h1 h2
    simp [List.getD_eq_getElem?_getD, List.getElem?_eq_getElem h2]

variable {α : Type} [Inhabited α]

theorem fibre_length (D : List α) (n inner o i : Nat) : (fibre D n inner o i).length = n := by
  simp [fibre]

theorem fibres_length (D : List α) (outer n inner : Nat) (f : List α → List α) :
    (fibres D outer n inner f).length = outer * inner := flatMap_range_length _ _ _

theorem fibres_getD (D : List α) (outer n inner : Nat) (f : List α → List α) (o i : Nat)
    (ho : o < outer) (hi : i < inner) :
    (fibres D outer n inner f).getD (o * inner + i) [] = f (fibre D n inner o i) :=
  flatMap_range_getD outer inner (fun o i => f (fibre D n inner o i)) [] o i ho hi

theorem mem_fibres (D : List α) (outer n inner : Nat) (f : List α → List α) (x : List α)
    (hx : x ∈ fibres D outer n inner f) : ∃ o i, o < outer ∧ i < inner ∧ x = f (fibre D n inner o i) := by
  simp only [fibres, List.mem_flatMap, List.mem_map, List.mem_range] at hx
  obtain ⟨o, ho, i, hi, rfl⟩ := hx
  exact ⟨o, i, ho, hi, rfl⟩

theorem outLen_fibres (D : List α) (outer n inner : Nat) (f : List α → List α) (m : Nat)
    (hf : LenUniform f n m) : outLen (fibres D outer n inner f) n f = m := by
  cases h : fibres D outer n inner f with
  | nil => exact hf _ (by simp)
  | cons x xs =>
    obtain ⟨o, i, _, _, rfl⟩ := mem_fibres D outer n inner f x (by rw [h]; exact List.mem_cons_self)
    exact hf _ (fibre_length ..)

theorem gather_eq (F : List (List α)) (outer m inner : Nat) :
    gather F outer m inner = (List.range outer).flatMap fun o => (List.range (m * inner)).map
      fun j => (F.getD (o * inner + j % inner) []).getD (j / inner) default := by
  unfold gather
  congr 1; funext o
  exact flatMap_range_map m inner (fun k i => (F.getD (o * inner + i) []).getD k default)

theorem gather_length (F : List (List α)) (outer m inner : Nat) :
    (gather F outer m inner).length = outer * (m * inner) := by
  rw [gather_eq]; exact flatMap_range_length _ _ _

theorem gather_getD (F : List (List α)) (outer m inner : Nat) (o k i : Nat)
    (ho : o < outer) (hk : k < m) (hi : i < inner) :
    (gather F outer m inner).getD (o * m * inner + k * inner + i) default =
      (F.getD (o * inner + i) []).getD k default := by
  rw [gather_eq, Nat.mul_assoc, Nat.add_assoc,
    flatMap_range_getD outer (m * inner) _ default o (k * inner + i) ho (idx2_lt k i m inner hk hi)]
  simp only [idx2 k i inner hi]

theorem fibre_gather (F : List (List α)) (outer m inner : Nat) (o i : Nat)
    (ho : o < outer) (hi : i < inner) (hlen : (F.getD (o * inner + i) []).length = m) :
    fibre (gather F outer m inner) m inner o i = F.getD (o * inner + i) [] := by
  unfold fibre
  rw [List.map_congr_left (g := fun k => (F.getD (o * inner + i) []).getD k default)]
  · conv => lhs; rw [← hlen]
    exact range_map_getD _ _
  · intro k hk
    exact gather_getD F outer m inner o k i ho (List.mem_range.mp hk) hi

theorem idx2_decomp (j A B : Nat) (h : j < A * B) : ∃ o i, o < A ∧ i < B ∧ j = o * B + i := by
  have hB : 0 < B := Nat.pos_of_ne_zero (by rintro rfl; simp at h)
  exact ⟨j / B, j % B, Nat.div_lt_of_lt_mul (by rwa [Nat.mul_comm]), Nat.mod_lt _ hB,
    by rw [Nat.mul_comm]; exact (Nat.div_add_mod j B).symm⟩

theorem idx3_decomp (j outer m inner : Nat) (h : j < outer * (m * inner)) :
    ∃ o k i, o < outer ∧ k < m ∧ i < inner ∧ j = o * m * inner + k * inner + i := by
  obtain ⟨o, r, ho, hr, rfl⟩ := idx2_decomp j outer (m * inner) h
  obtain ⟨k, i, hk, hi, rfl⟩ := idx2_decomp r m inner hr
  exact ⟨o, k, i, ho, hk, hi, by rw [Nat.mul_assoc, Nat.add_assoc]⟩

theorem ext_getD {α} (l₁ l₂ : List α) (d : α) (hl : l₁.length = l₂.length)
    (h : ∀ j, j < l₁.length → l₁.getD j d = l₂.getD j d) : l₁ = l₂ := by
  apply List.ext_getElem hl
  intro j h1 h2
  have := h j h1
  simpa [List.getD_eq_getElem?_getD, List.getElem?_eq_getElem h1, List.getElem?_eq_getElem h2] using this

theorem fibre_getD (D : List α) (n inner o i k : Nat) (hk : k < n) :
    (fibre D n inner o i).getD k default = D.getD (o * n * inner + k * inner + i) default := by
  simp [fibre, List.getD_eq_getElem?_getD, List.getElem?_map, List.getElem?_range hk]

theorem fibres_congr (D : List α) (outer n inner : Nat) (f g : List α → List α)
    (h : ∀ xs : List α, xs.length = n → f xs = g xs) :
    fibres D outer n inner f = fibres D outer n inner g := by
  unfold fibres
  congr 1; funext o
  apply List.map_congr_left
  intro i _
  exact h _ (fibre_length ..)

theorem gather_fibres_id (D : List α) (outer n inner : Nat) (hD : D.length = outer * (n * inner)) :
    gather (fibres D outer n inner id) outer n inner = D := by
  apply ext_getD _ _ default
  · rw [gather_length, hD]
  · intro j hj
    rw [gather_length] at hj
    obtain ⟨o, k, i, ho, hk, hi, rfl⟩ := idx3_decomp j outer n inner hj
    rw [gather_getD _ _ _ _ o k i ho hk hi, fibres_getD _ _ _ _ _ o i ho hi, id, fibre_getD _ _ _ _ _ _ hk]


theorem alongAxisL_eq (t : Tensor α) (axis : Nat) (f : List α → List α) (m : Nat)
    (hf : LenUniform f (t.shape.getD axis 1) m) :
    t.alongAxisL axis f =
      { shape := t.shape.set axis m,
        data := gather (fibres t.data (prod (t.shape.take axis)) (t.shape.getD axis 1)
                  (prod (t.shape.drop (axis + 1))) f)
                  (prod (t.shape.take axis)) m (prod (t.shape.drop (axis + 1))) } := by
  unfold alongAxisL
  simp only [outLen_fibres _ _ _ _ f m hf]

theorem getD_set_self (s : List Nat) (axis m d : Nat) (hax : axis < s.length) :
    (s.set axis m).getD axis d = m := by
  rw [List.getD_eq_getElem?_getD, List.getElem?_set_self hax]; rfl

/-! ## The laws of `Tensor.alongAxis`

`n = t.shape.getD axis 1` (`= t.shape[axis]` when `axis < t.shape.length`), `outer = prod (t.shape.take axis)`,
`inner = prod (t.shape.drop (axis+1))`. -/

/-- for a length-uniform `f` the probe `outLen` of the result length disappears -/
theorem alongAxis_eq (t : Tensor α) (axis : Nat) (f : List α → List α) (m : Nat)
    (hf : LenUniform f (t.shape.getD axis 1) m) :
    t.alongAxis axis f =
      { shape := t.shape.set axis m,
        data := gather (fibres t.data (prod (t.shape.take axis)) (t.shape.getD axis 1)
                  (prod (t.shape.drop (axis + 1))) f)
                  (prod (t.shape.take axis)) m (prod (t.shape.drop (axis + 1))) } := by
  rw [alongAxis_eq_alongAxisL, alongAxisL_eq t axis f m hf]

theorem alongAxis_shape (t : Tensor α) (axis : Nat) (f : List α → List α) (m : Nat)
    (hf : LenUniform f (t.shape.getD axis 1) m) :
    (t.alongAxis axis f).shape = t.shape.set axis m := by
  rw [alongAxis_eq t axis f m hf]

theorem alongAxis_data_length (t : Tensor α) (axis : Nat) (f : List α → List α) (m : Nat)
    (hf : LenUniform f (t.shape.getD axis 1) m) :
    (t.alongAxis axis f).data.length = prod (t.shape.take axis) * (m * prod (t.shape.drop (axis + 1))) := by
  rw [alongAxis_eq t axis f m hf, gather_length]

/-- whether or not the input was -/
theorem alongAxis_wellFormed (t : Tensor α) (axis : Nat) (f : List α → List α) (m : Nat)
    (hax : axis < t.shape.length) (hf : LenUniform f (t.shape.getD axis 1) m) :
    (t.alongAxis axis f).data.length = prod (t.alongAxis axis f).shape := by
  rw [alongAxis_data_length t axis f m hf, alongAxis_shape t axis f m hf, prod_set _ _ _ hax, Nat.mul_assoc]

omit [Inhabited α] in
theorem wellFormed_iff (t : Tensor α) : t.wellFormed = true ↔ t.data.length = prod t.shape := by
  simp [wellFormed]

theorem alongAxis_wellFormed' (t : Tensor α) (axis : Nat) (f : List α → List α) (m : Nat)
    (hax : axis < t.shape.length) (hf : LenUniform f (t.shape.getD axis 1) m) :
    (t.alongAxis axis f).wellFormed = true :=
  (wellFormed_iff _).mpr (alongAxis_wellFormed t axis f m hax hf)

theorem alongAxis_fibre (t : Tensor α) (axis : Nat) (f : List α → List α) (m : Nat)
    (hf : LenUniform f (t.shape.getD axis 1) m) (o i : Nat)
    (ho : o < prod (t.shape.take axis)) (hi : i < prod (t.shape.drop (axis + 1))) :
    fibre (t.alongAxis axis f).data m (prod (t.shape.drop (axis + 1))) o i =
      f (fibre t.data (t.shape.getD axis 1) (prod (t.shape.drop (axis + 1))) o i) := by
  rw [alongAxis_eq t axis f m hf]
  show fibre (gather _ _ _ _) _ _ _ _ = _
  have hg := fibres_getD t.data (prod (t.shape.take axis)) (t.shape.getD axis 1)
    (prod (t.shape.drop (axis + 1))) f o i ho hi
  rw [fibre_gather _ _ _ _ o i ho hi (by rw [hg]; exact hf _ (fibre_length ..)), hg]

theorem alongAxis_getD (t : Tensor α) (axis : Nat) (f : List α → List α) (m : Nat)
    (hf : LenUniform f (t.shape.getD axis 1) m) (o k i : Nat)
    (ho : o < prod (t.shape.take axis)) (hk : k < m) (hi : i < prod (t.shape.drop (axis + 1))) :
    (t.alongAxis axis f).data.getD (o * m * prod (t.shape.drop (axis + 1)) + k * prod (t.shape.drop (axis + 1)) + i)
        default =
      (f (fibre t.data (t.shape.getD axis 1) (prod (t.shape.drop (axis + 1))) o i)).getD k default := by
  rw [← alongAxis_fibre t axis f m hf o i ho hi, fibre_getD _ _ _ _ _ _ hk]

theorem alongAxis_congr (t : Tensor α) (axis : Nat) (f g : List α → List α)
    (h : ∀ xs : List α, xs.length = t.shape.getD axis 1 → f xs = g xs) :
    t.alongAxis axis f = t.alongAxis axis g := by
  rw [alongAxis_eq_alongAxisL, alongAxis_eq_alongAxisL]
  unfold alongAxisL
  have hF := fibres_congr t.data (prod (t.shape.take axis)) (t.shape.getD axis 1)
    (prod (t.shape.drop (axis + 1))) f g h
  have hm : ∀ F : List (List α), outLen F (t.shape.getD axis 1) f = outLen F (t.shape.getD axis 1) g := by
    intro F
    cases F with
    | nil => show (f _).length = (g _).length; rw [h _ (by simp)]
    | cons x xs => rfl
  simp only [hF, hm]

theorem alongAxis_id_of (t : Tensor α) (axis : Nat) (f : List α → List α)
    (hwf : t.data.length = prod t.shape) (hax : axis < t.shape.length)
    (h : ∀ xs : List α, xs.length = t.shape.getD axis 1 → f xs = xs) :
    t.alongAxis axis f = t := by
  rw [alongAxis_congr t axis f id h, alongAxis_eq t axis id (t.shape.getD axis 1) (fun _ h => h)]
  have hn : t.shape.getD axis 1 = t.shape[axis] := by
    rw [List.getD_eq_getElem?_getD, List.getElem?_eq_getElem hax]; rfl
  rw [gather_fibres_id _ _ _ _ (by rw [hwf, prod_split _ _ hax, hn, Nat.mul_assoc]), hn,
    List.set_getElem_self]

theorem alongAxis_id (t : Tensor α) (axis : Nat)
    (hwf : t.data.length = prod t.shape) (hax : axis < t.shape.length) :
    t.alongAxis axis id = t :=
  alongAxis_id_of t axis id hwf hax (fun _ _ => rfl)

theorem alongAxis_comp (t : Tensor α) (axis : Nat) (f g : List α → List α) (m p : Nat)
    (hax : axis < t.shape.length)
    (hf : LenUniform f (t.shape.getD axis 1) m) (hg : LenUniform g m p) :
    (t.alongAxis axis f).alongAxis axis g = t.alongAxis axis (g ∘ f) := by
  have hgf : LenUniform (g ∘ f) (t.shape.getD axis 1) p := fun xs hxs => hg _ (hf xs hxs)
  have hs : (t.alongAxis axis f).shape = t.shape.set axis m := alongAxis_shape t axis f m hf
  have hn' : (t.alongAxis axis f).shape.getD axis 1 = m := by rw [hs, getD_set_self _ _ _ _ hax]
  rw [alongAxis_eq (t.alongAxis axis f) axis g p (by rw [hn']; exact hg), alongAxis_eq t axis (g ∘ f) p hgf,
    hn', hs, List.set_set, List.take_set_of_le (Nat.le_refl _), List.drop_set_of_lt (Nat.lt_succ_self _)]
  congr 2
  unfold fibres
  apply flatMap_congr_mem
  intro o ho
  apply List.map_congr_left
  intro i hi
  rw [alongAxis_fibre t axis f m hf o i (List.mem_range.mp ho) (List.mem_range.mp hi)]
  rfl

theorem alongAxis_cancel (t : Tensor α) (axis : Nat) (f g : List α → List α) (m : Nat)
    (hwf : t.data.length = prod t.shape) (hax : axis < t.shape.length)
    (hf : LenUniform f (t.shape.getD axis 1) m) (hg : LenUniform g m (t.shape.getD axis 1))
    (h : ∀ xs : List α, xs.length = t.shape.getD axis 1 → g (f xs) = xs) :
    (t.alongAxis axis f).alongAxis axis g = t := by
  rw [alongAxis_comp t axis f g m _ hax hf hg]
  exact alongAxis_id_of t axis (g ∘ f) hwf hax h

theorem idx_o_lt (α' x μ A n M : Nat) (h1 : α' < A) (h2 : x < n) (h3 : μ < M) :
    (α' * n + x) * M + μ < A * n * M :=
  idx2_lt _ _ _ _ (idx2_lt _ _ _ _ h1 h2) h3

theorem idx_i_lt (μ j c M n C : Nat) (h1 : μ < M) (h2 : j < n) (h3 : c < C) :
    μ * n * C + j * C + c < M * n * C := by
  have := idx2_lt _ _ _ _ (idx2_lt _ _ _ _ h1 h2) h3
  rw [Nat.add_mul] at this; omega

theorem idx5_decomp (j A ma M mb C : Nat) (h : j < A * (ma * (M * mb * C))) :
    ∃ a k μ l c, a < A ∧ k < ma ∧ μ < M ∧ l < mb ∧ c < C ∧
      j = a * ma * (M * mb * C) + k * (M * mb * C) + (μ * mb * C + l * C + c) := by
  obtain ⟨a, k, i, ha, hk, hi, rfl⟩ := idx3_decomp j A ma (M * mb * C) h
  rw [Nat.mul_assoc] at hi
  obtain ⟨μ, l, c, hμ, hl, hc, rfl⟩ := idx3_decomp i M mb C hi
  exact ⟨a, k, μ, l, c, ha, hk, hμ, hl, hc, rfl⟩

/-- `(a, k, μ, l, c)` in an `A × n × M × m × C` array, regrouped as `A × n × (M·m·C)` -/
theorem idx5_eq (a n k M μ m l C c : Nat) :
    ((a * n + k) * M + μ) * m * C + l * C + c = a * n * (M * m * C) + k * (M * m * C) + (μ * m * C + l * C + c) := by
  grind

theorem ext_idx5 (L R : List α) (A n M m C : Nat) (hL : L.length = A * n * M * (m * C))
    (hR : R.length = A * (n * (M * m * C)))
    (h : ∀ a k μ l c, a < A → k < n → μ < M → l < m → c < C →
      L.getD (((a * n + k) * M + μ) * m * C + l * C + c) default =
        R.getD (((a * n + k) * M + μ) * m * C + l * C + c) default) :
    L = R := by
  have e : A * n * M * (m * C) = A * (n * (M * m * C)) := by simp only [Nat.mul_assoc]
  apply ext_getD _ _ default (by rw [hL, hR, e])
  intro j hj
  rw [hL, e] at hj
  obtain ⟨a, k, μ, l, c, ha, hk, hμ, hl, hc, rfl⟩ := idx5_decomp j A n M m C hj
  rw [← idx5_eq]
  exact h a k μ l c ha hk hμ hl hc

theorem lift2_getD (D : List α) (A na ma M m C : Nat) (f : List α → List α) (a k μ y c : Nat)
    (ha : a < A) (hk : k < ma) (hμ : μ < M) (hy : y < m) (hc : c < C) :
    (gather (fibres D A na (M * m * C) f) A ma (M * m * C)).getD (((a * ma + k) * M + μ) * m * C + y * C + c) default =
      (f ((List.range na).map fun x => D.getD (((a * na + x) * M + μ) * m * C + y * C + c) default)).getD k default := by
  have hi := idx_i_lt _ _ _ _ _ _ hμ hy hc
  rw [idx5_eq, gather_getD _ _ _ _ a k _ ha hk hi, fibres_getD _ _ _ _ _ a _ ha hi]
  simp only [fibre, idx5_eq]

theorem lift4_getD (D : List α) (A n M nb mb C : Nat) (g : List α → List α) (a x μ l c : Nat)
    (ha : a < A) (hx : x < n) (hμ : μ < M) (hl : l < mb) (hc : c < C) :
    (gather (fibres D (A * n * M) nb C g) (A * n * M) mb C).getD (((a * n + x) * M + μ) * mb * C + l * C + c) default =
      (g ((List.range nb).map fun y => D.getD (((a * n + x) * M + μ) * nb * C + y * C + c) default)).getD l default := by
  have ho := idx_o_lt _ _ _ _ _ _ ha hx hμ
  rw [gather_getD _ _ _ _ _ l c ho hl hc, fibres_getD _ _ _ _ _ _ c ho hc]
  rfl

/-- view `D` as `A × na × M × nb × C`; lifting `f` along the 2nd and `g` along the 4th index commute as soon as they
commute on every `na × nb` slice `S` (the other three indices fixed) -/
theorem comm_data_of_slice (D : List α) (A na M nb C ma mb : Nat) (f g : List α → List α)
    (h : ∀ (S : Nat → Nat → α) (k l : Nat), k < ma → l < mb →
      (g ((List.range nb).map fun v => (f ((List.range na).map fun u => S u v)).getD k default)).getD l default =
        (f ((List.range na).map fun u => (g ((List.range nb).map fun v => S u v)).getD l default)).getD k default) :
    gather (fibres (gather (fibres D A na (M * nb * C) f) A ma (M * nb * C)) (A * ma * M) nb C g)
        (A * ma * M) mb C =
      gather (fibres (gather (fibres D (A * na * M) nb C g) (A * na * M) mb C) A na (M * mb * C) f)
        A ma (M * mb * C) := by
  refine ext_idx5 _ _ A ma M mb C (gather_length ..) (gather_length ..) fun a k μ l c ha hk hμ hl hc => ?_
  rw [lift4_getD _ _ _ _ _ _ _ _ a k μ l c ha hk hμ hl hc, lift2_getD _ _ _ _ _ _ _ _ a k μ l c ha hk hμ hl hc,
    List.map_congr_left fun y hy => lift2_getD D A na ma M nb C f a k μ y c ha hk hμ (List.mem_range.mp hy) hc,
    List.map_congr_left fun x hx => lift4_getD D A na M nb mb C g a x μ l c ha (List.mem_range.mp hx) hμ hl hc]
  exact h (fun u v => D.getD (((a * na + u) * M + μ) * nb * C + v * C + c) default) k l hk hl

/-- … which an index gather `f` does with any `g` that maps the fill constant list to itself wherever `f` fills -/
theorem gather_slice_comm (f g : List α → List α) (n m nb mb : Nat) (σ : Nat → Option Nat) (c : α)
    (hf : IsGather f n m σ c)
    (hfill : ∀ k, k < m → σ k = none → ∀ l, l < mb → (g (List.replicate nb c)).getD l default = c)
    (S : Nat → Nat → α) (k l : Nat) (hk : k < m) (hl : l < mb) :
    (g ((List.range nb).map fun v => (f ((List.range n).map fun u => S u v)).getD k default)).getD l default =
      (f ((List.range n).map fun u => (g ((List.range nb).map fun v => S u v)).getD l default)).getD k default := by
  have hget : ∀ φ : Nat → α, (f ((List.range n).map φ)).getD k default =
      match σ k with | some j => φ j | none => c := by
    intro φ
    rw [hf.get _ (by simp) k hk]
    cases hσ : σ k with
    | none => rfl
    | some j => simp [List.getD_eq_getElem?_getD, List.getElem?_range (hf.bound k j hk hσ)]
  simp only [hget]
  cases hσ : σ k with
  | none =>
    simp only [List.map_const', List.length_range]
    exact hfill k hk hσ l hl
  | some j => rfl

theorem shape_split2 (s : List Nat) (a b : Nat) (hab : a < b) (hb : b < s.length) :
    ∃ M, (∀ x, prod ((s.set a x).take b) = prod (s.take a) * x * M) ∧
         (∀ y, prod ((s.set b y).drop (a + 1)) = M * y * prod (s.drop (b + 1))) := by
  refine ⟨prod ((s.drop (a + 1)).take (b - (a + 1))), ?_, ?_⟩
  · intro x
    have hl : a < (s.take b).length := by rw [List.length_take]; omega
    rw [List.take_set, prod_set _ _ _ hl, List.take_take, Nat.min_eq_left (Nat.le_of_lt hab), List.drop_take]
  · intro y
    have hl : b - (a + 1) < (s.drop (a + 1)).length := by rw [List.length_drop]; omega
    rw [List.drop_set, if_neg (by omega), prod_set _ _ _ hl, List.drop_drop]
    congr 2; congr 1; omega

theorem set_getD (s : List Nat) (a d : Nat) : s.set a (s.getD a d) = s := by
  by_cases h : a < s.length
  · rw [List.getD_eq_getElem?_getD, List.getElem?_eq_getElem h]; exact List.set_getElem_self h
  · exact List.set_eq_of_length_le (by omega)

theorem set_getD_self (s : List Nat) (a : Nat) : s.set a (s.getD a 1) = s := set_getD s a 1

theorem getD_set_ne (s : List Nat) (a b x d : Nat) (h : a ≠ b) : (s.set a x).getD b d = s.getD b d := by
  rw [List.getD_eq_getElem?_getD, List.getD_eq_getElem?_getD, List.getElem?_set_ne h]

theorem alongAxis_comm_of_data (t : Tensor α) (a b : Nat) (f g : List α → List α) (ma mb : Nat)
    (hab : a < b) (hb : b < t.shape.length)
    (hf : LenUniform f (t.shape.getD a 1) ma) (hg : LenUniform g (t.shape.getD b 1) mb)
    (hdata : ∀ A M C : Nat,
      gather (fibres (gather (fibres t.data A (t.shape.getD a 1) (M * t.shape.getD b 1 * C) f) A ma
          (M * t.shape.getD b 1 * C)) (A * ma * M) (t.shape.getD b 1) C g) (A * ma * M) mb C =
      gather (fibres (gather (fibres t.data (A * t.shape.getD a 1 * M) (t.shape.getD b 1) C g)
          (A * t.shape.getD a 1 * M) mb C) A (t.shape.getD a 1) (M * mb * C) f) A ma (M * mb * C)) :
    (t.alongAxis a f).alongAxis b g = (t.alongAxis b g).alongAxis a f := by
  obtain ⟨M, hM1, hM2⟩ := shape_split2 t.shape a b hab hb
  have hne : a ≠ b := by omega
  have hsa : (t.alongAxis a f).shape = t.shape.set a ma := alongAxis_shape t a f ma hf
  have hsb : (t.alongAxis b g).shape = t.shape.set b mb := alongAxis_shape t b g mb hg
  have hnb : (t.alongAxis a f).shape.getD b 1 = t.shape.getD b 1 := by rw [hsa, getD_set_ne _ _ _ _ _ hne]
  have hna : (t.alongAxis b g).shape.getD a 1 = t.shape.getD a 1 := by rw [hsb, getD_set_ne _ _ _ _ _ hne.symm]
  rw [alongAxis_eq (t.alongAxis a f) b g mb (by rw [hnb]; exact hg),
    alongAxis_eq (t.alongAxis b g) a f ma (by rw [hna]; exact hf), hnb, hna, hsa, hsb,
    alongAxis_eq t a f ma hf, alongAxis_eq t b g mb hg]
  simp only []
  have h1 := hM1 (t.shape.getD a 1)
  have h2 := hM2 (t.shape.getD b 1)
  rw [set_getD_self] at h1 h2
  rw [hM1 ma, hM2 mb, h1, h2, List.drop_set_of_lt (show a < b + 1 by omega),
    List.take_set_of_le (Nat.le_of_lt hab), List.set_comm _ _ hne, hdata]

theorem alongAxis_comm_of_slice (t : Tensor α) (a b : Nat) (f g : List α → List α) (ma mb : Nat)
    (hab : a < b) (hb : b < t.shape.length)
    (hf : LenUniform f (t.shape.getD a 1) ma) (hg : LenUniform g (t.shape.getD b 1) mb)
    (h : ∀ (S : Nat → Nat → α) (k l : Nat), k < ma → l < mb →
      (g ((List.range (t.shape.getD b 1)).map fun v =>
          (f ((List.range (t.shape.getD a 1)).map fun u => S u v)).getD k default)).getD l default =
        (f ((List.range (t.shape.getD a 1)).map fun u =>
          (g ((List.range (t.shape.getD b 1)).map fun v => S u v)).getD l default)).getD k default) :
    (t.alongAxis a f).alongAxis b g = (t.alongAxis b g).alongAxis a f :=
  alongAxis_comm_of_data t a b f g ma mb hab hb hf hg fun A M C => comm_data_of_slice t.data A _ M _ C ma mb f g h

omit [Inhabited α] in
theorem getD_replicate_lt (n k : Nat) (c d : α) (h : k < n) : (List.replicate n c).getD k d = c := by
  rw [List.getD_eq_getElem?_getD, List.getElem?_replicate, if_pos h]; rfl

/-- **commutation across two different axes**: an index gather `f` (roll, flip, crop, slice, constant pad …) against
*any* length-uniform `g`; if `f` really fills (some `σ k = none`), `g` must map the constant list to the constant list -/
theorem alongAxis_comm_gather (t : Tensor α) (a b : Nat) (f g : List α → List α) (ma mb : Nat)
    (σ : Nat → Option Nat) (c : α) (hne : a ≠ b) (ha : a < t.shape.length) (hb : b < t.shape.length)
    (hf : IsGather f (t.shape.getD a 1) ma σ c) (hg : LenUniform g (t.shape.getD b 1) mb)
    (hfill : (∃ k, k < ma ∧ σ k = none) →
      g (List.replicate (t.shape.getD b 1) c) = List.replicate mb c) :
    (t.alongAxis a f).alongAxis b g = (t.alongAxis b g).alongAxis a f := by
  have hfill' : ∀ k, k < ma → σ k = none → ∀ l, l < mb →
      (g (List.replicate (t.shape.getD b 1) c)).getD l default = c := by
    intro k hk hσ l hl
    rw [hfill ⟨k, hk, hσ⟩, getD_replicate_lt _ _ _ _ hl]
  rcases Nat.lt_or_gt_of_ne hne with hab | hba
  · exact alongAxis_comm_of_slice t a b f g ma mb hab hb hf.len hg
      (gather_slice_comm f g _ ma _ mb σ c hf hfill')
  · -- `b < a`: the same fact about a slice, read with rows and columns exchanged
    exact (alongAxis_comm_of_slice t b a g f mb ma hba ha hg hf.len fun S l k hl hk =>
      (gather_slice_comm f g _ ma _ mb σ c hf hfill' (fun u v => S v u) k l hk hl).symm).symm

theorem _root_.DirectVerif.Tensor.IsGather.congr {f f' : List α → List α} {n m : Nat} {σ : Nat → Option Nat} {c : α}
    (hf : IsGather f n m σ c) (h : ∀ xs : List α, xs.length = n → f' xs = f xs) : IsGather f' n m σ c :=
  ⟨fun xs hxs => by rw [h xs hxs]; exact hf.len xs hxs, hf.bound,
   fun xs hxs k hk => by rw [h xs hxs]; exact hf.get xs hxs k hk⟩

theorem _root_.DirectVerif.Tensor.IsGather.of_getElem? {f : List α → List α} {n m : Nat} (τ : Nat → Nat) (c : α)
    (hlen : LenUniform f n m) (hb : ∀ k, k < m → τ k < n)
    (hget : ∀ xs : List α, xs.length = n → ∀ k, k < m → (f xs)[k]? = xs[τ k]?) :
    IsGather f n m (fun k => some (τ k)) c :=
  ⟨hlen, fun k j hk e => by cases e; exact hb k hk,
   fun xs hxs k hk => by
     simp only [List.getD_eq_getElem?_getD, hget xs hxs k hk]⟩


end DirectVerif.TensorLift
