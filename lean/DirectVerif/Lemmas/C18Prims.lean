import DirectVerif.Model.BatchSep
import DirectVerif.Lemmas.Basic
/-!
Lemmas behind the separability theorems of C18.  Reductions, along-axis operations and permutes of the batch tensor all
have the shape "apply a family `op d` along axes `d ≥ 1`, one after the other", and on axis `d + 1` each of them is
`List.map` of the same operation on axis `d` of a sample (`sep_foldl_axes`, `batchedAlong_succ`); a `permute` gets that
shape from its decomposition into adjacent swaps (`sortSwaps_swaps_pos`).  The `batch * coil` fold of `MultiCoil.forward`
is undone by its un-fold (`unmerge_merge`).  The lemmas on tables at the end let `Bridge/C18.lean` evaluate the generated
function table once ("every function but the one at index `c` passes") and derive its other table statements from that.
-/
namespace DirectVerif.C18
open DirectVerif DirectVerif.BatchSep

theorem sep_map {α β : Type} (g : α → β) : Separable (List.map g) := ⟨g, fun _ => rfl⟩

theorem sep_id {α : Type} : Separable (fun xs : List α => xs) := ⟨id, fun xs => (List.map_id xs).symm⟩

theorem sep_comp {α β γ : Type} {f : List α → List β} {g : List β → List γ}
    (hf : Separable f) (hg : Separable g) : Separable (fun xs => g (f xs)) := by
  obtain ⟨f₁, hf⟩ := hf
  obtain ⟨g₁, hg⟩ := hg
  exact ⟨g₁ ∘ f₁, fun xs => by show g (f xs) = _; rw [hf, hg, List.map_map]⟩

theorem sep_zipWith {α β γ δ : Type} {f : List α → List β} {g : List α → List γ} (op : β → γ → δ)
    (hf : Separable f) (hg : Separable g) : Separable (fun xs => List.zipWith op (f xs) (g xs)) := by
  obtain ⟨f₁, hf⟩ := hf
  obtain ⟨g₁, hg⟩ := hg
  exact ⟨fun a => op (f₁ a) (g₁ a), fun xs => by show List.zipWith op (f xs) (g xs) = _; rw [hf, hg, zipWith_map_map]⟩

/-- the one shape behind reductions, along-axis operations and permutes -/
theorem sep_foldl_axes {α : Type} {op : Nat → List α → List α} (hop : ∀ d, ∃ g, op (d + 1) = List.map g)
    (ds : List Nat) (h : ∀ d ∈ ds, 1 ≤ d) : Separable (fun b => ds.foldl (fun b d => op d b) b) := by
  induction ds with
  | nil => exact sep_id
  | cons d ds ih =>
    obtain ⟨k, rfl⟩ : ∃ k, d = k + 1 := ⟨d - 1, (Nat.sub_add_cancel (h d (List.mem_cons_self ..))).symm⟩
    obtain ⟨g, hg⟩ := hop k
    have hd : Separable (op (k + 1)) := hg ▸ sep_map g
    exact sep_comp hd (ih fun j hj => h j (List.mem_cons_of_mem _ hj))

theorem batchedAlong_succ (g : NT → NT) (d : Nat) : batchedAlong g (d + 1) = List.map (mapAt g d) := by
  funext batch
  simp [batchedAlong, mapAt, unbatch]

theorem reduceAt_eq_mapAt (comb : List NT → NT) (d : Nat) (t : NT) :
    reduceAt comb d t = mapAt (fun t => match t with | .node xs => comb xs | t => t) d t := by
  induction d generalizing t with
  | zero => cases t <;> rfl
  | succ d ih =>
    cases t with
    | leaf v => rfl
    | node xs =>
      simp only [reduceAt, mapAt, NT.node.injEq]
      exact List.map_congr_left fun x _ => ih x

theorem sortSwaps_swaps_pos (perm : List Nat) (h : perm.head? = some 0) : ∀ d ∈ (sortSwaps perm).2, 1 ≤ d := by
  cases perm with
  | nil => cases h
  | cons a rest =>
    cases Option.some.inj h
    -- bubbling 0 to the front of a sorted list swaps nothing: what remains are the swaps of the tail, one position up
    have h0 : ∀ s off, insertSwaps 0 s off = [] := fun s off => by cases s <;> simp [insertSwaps]
    have e : (sortSwaps (0 :: rest)).2 = (sortSwaps rest).2.map (· + 1) := by simp [sortSwaps, h0]
    rw [e]
    intro d hd
    obtain ⟨k, _, rfl⟩ := List.mem_map.mp hd
    exact Nat.le_add_left 1 k

theorem permuteNT_node (perm : List Nat) (b : List NT) : permuteNT perm (.node b) = .node (batchedPermute perm b) := by
  have swap : ∀ d (b : List NT), swapAt d (.node b) = .node (batchedAlong transpose01 d b) := fun d b => by
    cases d with
    | zero => simp [swapAt, mapAt, batchedAlong, transpose01, unbatch]
    | succ d => simp [swapAt, mapAt, batchedAlong, unbatch]
  unfold permuteNT batchedPermute
  generalize (sortSwaps perm).2.reverse = ds
  induction ds generalizing b with
  | nil => rfl
  | cons d ds ih => simp only [List.foldl_cons, swap, ih]

theorem unmerge_merge {α : Type} (c : Nat) (xs : List (List α)) (h : ∀ x ∈ xs, x.length = c) :
    unmergeBC xs.length c (mergeBC xs) = xs := by
  induction xs with
  | nil => rfl
  | cons x xs ih =>
    have hx : x.length = c := h x (by simp)
    have ih' := ih fun y hy => h y (by simp [hy])
    unfold unmergeBC mergeBC at *
    rw [List.length_cons, List.range_succ_eq_map, List.map_cons, List.map_map]
    simp only [List.flatten_cons, Nat.zero_mul, List.drop_zero, List.cons.injEq]
    refine ⟨by rw [← hx, List.take_left'] ; rfl, ?_⟩
    refine Eq.trans ?_ ih'
    apply List.map_congr_left
    intro n _
    simp only [Function.comp, Nat.succ_eq_add_one]
    have e : (n + 1) * c = x.length + n * c := by rw [hx, Nat.add_mul, Nat.one_mul, Nat.add_comm]
    rw [e, List.drop_append, List.drop_of_length_le (Nat.le_add_right _ _), Nat.add_sub_cancel_left, List.nil_append]

theorem multiCoilFold_eq {α β : Type} (f : α → β) (c : Nat) (xs : List (List α)) (h : ∀ x ∈ xs, x.length = c) :
    multiCoilFold f c xs = xs.map (List.map f) := by
  unfold multiCoilFold
  rw [show (mergeBC xs).map f = mergeBC (xs.map (List.map f)) from List.map_flatten]
  -- mapping `f` changes neither the number of samples nor the coil count of a sample
  have hlen : ∀ y ∈ xs.map (List.map f), y.length = c := fun y hy => by
    obtain ⟨x, hx, rfl⟩ := List.mem_map.mp hy
    rw [List.length_map]
    exact h x hx
  have := unmerge_merge c (xs.map (List.map f)) hlen
  rwa [List.length_map] at this

/-- row `r = n·c + j` (`j < c`) of the folded tensor belongs to sample `n = r / c`, coil `j = r % c` -/
theorem merged_row_owner (c n j : Nat) (hj : j < c) : (n * c + j) / c = n ∧ (n * c + j) % c = j := by
  have hc : 0 < c := by omega
  constructor
  · rw [Nat.mul_comm, Nat.mul_add_div hc, Nat.div_eq_of_lt hj, Nat.add_zero]
  · rw [Nat.mul_comm, Nat.mul_add_mod, Nat.mod_eq_of_lt hj]

/-- a reduction over the trailing `m` entries of folded row `r` stays inside the block of sample `r / c` -/
theorem merged_reduce_within_sample (c m r i : Nat) (hc : 0 < c) (hi : i < m) :
    (r / c) * (c * m) ≤ r * m + i ∧ r * m + i < (r / c + 1) * (c * m) := by
  have h1 : r / c * c ≤ r := Nat.div_mul_le_self r c
  have h2 : r < (r / c + 1) * c := by
    have := Nat.lt_succ_iff.mpr (Nat.le_refl (r / c))
    exact (Nat.div_lt_iff_lt_mul hc).mp this
  constructor
  · calc r / c * (c * m) = (r / c * c) * m := by rw [Nat.mul_assoc]
      _ ≤ r * m := Nat.mul_le_mul_right m h1
      _ ≤ r * m + i := Nat.le_add_right _ _
  · calc r * m + i < r * m + m := Nat.add_lt_add_left hi _
      _ = (r + 1) * m := by rw [Nat.add_mul, Nat.one_mul]
      _ ≤ ((r / c + 1) * c) * m := Nat.mul_le_mul_right m h2
      _ = (r / c + 1) * (c * m) := by rw [Nat.mul_assoc]

theorem cadd_comm (a b : G) : cadd a b = cadd b a :=
  Prod.ext (Int.add_comm _ _) (Int.add_comm _ _)

theorem cadd_assoc (a b c : G) : cadd (cadd a b) c = cadd a (cadd b c) :=
  Prod.ext (Int.add_assoc _ _ _) (Int.add_assoc _ _ _)

theorem csum_append (a b : List G) : csum (a ++ b) = cadd (csum a) (csum b) := by
  induction a with
  | nil => exact (Prod.ext (Int.zero_add _) (Int.zero_add _)).symm
  | cons x a ih =>
    simp only [List.cons_append, csum, List.foldr_cons] at *
    rw [ih, cadd_assoc]

theorem chunkSum_eq_take (k m : Nat) (xs : List G) : chunkSum k m xs = csum (xs.take (m * k)) := by
  unfold chunkSum
  induction m with
  | zero => simp [csum]
  | succ m ih =>
    rw [List.range_succ, List.foldl_append, ih]
    simp only [List.foldl_cons, List.foldl_nil]
    rw [← csum_append, Nat.succ_mul, List.take_add]

theorem funcRow_accounted_of_ok {f : FuncRow} (h : f.ok = true) : f.accounted = true := by
  rw [FuncRow.ok, Bool.and_eq_true] at h
  rw [FuncRow.accounted, Bool.and_eq_true]
  refine ⟨List.all_eq_true.mpr fun p hp => ?_, h.2⟩
  rw [Prim.accounted, List.all_eq_true.mp h.1 p hp, Bool.true_or]

theorem ok_of_ne {tbl : List FuncRow} {c : Nat} (h1 : (tbl.zipIdx.all fun fi => fi.1.ok || fi.2 == c) = true)
    {i : Nat} {f : FuncRow} (hi : tbl[i]? = some f) (hne : i ≠ c) : f.ok = true := by
  rcases Bool.or_eq_true_iff.mp (List.all_eq_true.mp h1 (f, i) (List.mem_zipIdx_iff_getElem?.mpr hi)) with hok | hic
  · exact hok
  · exact absurd (beq_iff_eq.mp hic) hne

theorem table_all_of_ok_except (J : FuncRow → Bool) (hJ : ∀ f, f.ok = true → J f = true) (tbl : List FuncRow) (c : Nat)
    (h1 : (tbl.zipIdx.all fun fi => fi.1.ok || fi.2 == c) = true) (h2 : tbl[c]?.all J = true) : tbl.all J = true := by
  rw [List.all_eq_true]
  intro f hf
  obtain ⟨i, hi⟩ := List.getElem?_of_mem hf
  by_cases hic : i = c
  · rw [← hic, hi] at h2
    exact h2
  · exact hJ f (ok_of_ne h1 hi hic)

theorem modelRow_all (J : FuncRow → Bool) (tbl : List FuncRow) (m : ModelRow) (hm : (m.2.all (· < tbl.length)) = true)
    (h : ∀ i ∈ m.2, ∀ f, tbl[i]? = some f → J f = true) :
    (m.2.all fun i => match tbl[i]? with | some f => J f | none => false) = true := by
  rw [List.all_eq_true]
  intro i hi
  have hlt : i < tbl.length := of_decide_eq_true (List.all_eq_true.mp hm i hi)
  rw [List.getElem?_eq_getElem hlt]
  exact h i hi _ (List.getElem?_eq_getElem hlt)

theorem modelRow_accounted_of_table (tbl : List FuncRow) (m : ModelRow) (ht : tbl.all FuncRow.accounted = true)
    (hm : (m.2.all (· < tbl.length)) = true) : m.accounted tbl = true :=
  modelRow_all FuncRow.accounted tbl m hm fun _ _ f hf => List.all_eq_true.mp ht f (List.mem_of_getElem? hf)

theorem modelRow_ok_or_contains (tbl : List FuncRow) (c : Nat) (m : ModelRow)
    (h1 : (tbl.zipIdx.all fun fi => fi.1.ok || fi.2 == c) = true) (hm : (m.2.all (· < tbl.length)) = true) :
    (m.ok tbl || m.2.contains c) = true := by
  cases hc : m.2.contains c with
  | true => exact Bool.or_true _
  | false =>
    rw [Bool.or_false]
    refine modelRow_all FuncRow.ok tbl m hm fun i hi f hf => ok_of_ne h1 hf fun hic => ?_
    rw [← hic, List.contains_iff_mem.mpr hi] at hc
    cases hc

end DirectVerif.C18
