import DirectVerif.Gen.C11
import DirectVerif.Lemmas.Basic
/-!
# Bridge C11 — what the translator read in `/repo` equals the hand-written model

`Gen/C11.lean` is generated from `direct/ssl/ssl.py`, `mask_fillers.py`, `_gaussian_fill.pyx`, the SSL tail of
`build_mri_transforms` and the engines under `direct/nn`.  Each lemma is closed by a fixed script (hence the linter
option below): a semantically equal rewrite of the source keeps it provable; a change of the loop guard, the acceptance
test, a slice bound, a count / cap / seed expression, the mask algebra or the statement order does not.  That the
tables (`state_writes`, `engine_sites`, …) list every occurrence in the source is the translator's part, not proved.
-/
set_option linter.unusedSimpArgs false
namespace DirectVerif.Bridge.C11
open DirectVerif DirectVerif.SslSplit DirectVerif.Gen.C11

-- the rejection loop of `_gaussian_fill.pyx`

theorem fill_loop_guard_eq (count n : Int) : fill_loop_guard count n = loopGuard count n := by
  rw [Bool.eq_iff_iff]
  simp only [fill_loop_guard, loopGuard, Bool.and_eq_true, Bool.or_eq_true, decide_eq_true_eq, Bool.not_eq_true',
    decide_eq_false_iff_not] <;> omega

theorem fill_accept_eq (indx indy nrow ncol m o : Int) :
    fill_accept indx indy nrow ncol m o = acceptTest indx indy nrow ncol m o := by
  rw [Bool.eq_iff_iff]
  simp only [fill_accept, acceptTest, Bool.and_eq_true, Bool.or_eq_true, decide_eq_true_eq, Bool.not_eq_true',
    decide_eq_false_iff_not, beq_iff_eq, bne_iff_ne, ne_eq] <;> omega

theorem fill_count_init_eq : fill_count_init = 0 := by decide
theorem fill_count_step_eq (count : Int) : fill_count_step count = count + 1 := by
  simp only [fill_count_step] <;> omega
theorem fill_mark_value_eq : fill_mark_value = b2i true := by decide
/-- `srand(seed)` before the loop -/
theorem fill_srand_seed_eq : fill_srand_seed = true := by decide

-- protected-region slices of the three splitters in `ssl.py`

theorem gaussian_region_eq (nrow ncol a0 a1 : Int) :
    gaussian_region nrow ncol a0 a1 = [regionLo nrow a0, regionHi nrow a0, regionLo ncol a1, regionHi ncol a1] := by
  simp only [gaussian_region, regionLo, regionHi, centre, fdiv_two,
    List.cons.injEq, and_true] <;> omega

theorem uniform_region_eq (nrow ncol a0 a1 : Int) :
    uniform_region nrow ncol a0 a1 = [regionLo nrow a0, regionHi nrow a0, regionLo ncol a1, regionHi ncol a1] := by
  simp only [uniform_region, regionLo, regionHi, centre, fdiv_two,
    List.cons.injEq, and_true] <;> omega

theorem half_region_eq (nrow ncol a0 a1 : Int) :
    half_region nrow ncol a0 a1 = [regionLo nrow a0, regionHi nrow a0, regionLo ncol a1, regionHi ncol a1] := by
  simp only [half_region, regionLo, regionHi, centre, fdiv_two,
    List.cons.injEq, and_true] <;> omega

/-- `if not keep_acs:` around the region, as in `freeMask` / `halfSplit` -/
theorem gaussian_region_guard_eq (keep : Bool) : gaussian_region_guard (b2i keep) = !keep := by
  cases keep <;> decide
theorem uniform_region_guard_eq (keep : Bool) : uniform_region_guard (b2i keep) = !keep := by
  cases keep <;> decide
theorem half_region_guard_eq (keep : Bool) : half_region_guard (b2i keep) = !keep := by
  cases keep <;> decide

theorem gaussian_count_eq (S p q : Int) (hq : 0 ≤ q) : gaussian_count S p q = ratioCeil S p q := by
  simp only [gaussian_count, ratioCeil, Int.one_mul, Int.mul_one, Int.fdiv_eq_ediv_of_nonneg _ hq]

theorem uniform_count_eq (S p q : Int) (hq : 0 ≤ q) : uniform_count S p q = ratioFloor S p q := by
  simp only [uniform_count, ratioFloor, Int.one_mul, Int.mul_one, Int.fdiv_eq_ediv_of_nonneg _ hq]

theorem gaussian_cap_eq (c free : Int) : gaussian_cap c free = capRequest c free := by
  simp only [gaussian_cap, capRequest, pyMin] <;> omega

theorem uniform_early_return_eq (count free : Nat) :
    uniform_early_return count free = true ↔ (count = 0 ∨ free = 0) := by
  simp only [uniform_early_return, Bool.or_eq_true, Bool.and_eq_true, Bool.not_eq_true', Bool.not_eq_eq_eq_not, Bool.not_not,
    Bool.not_true, Bool.not_false, Bool.and_eq_false_imp, Bool.or_eq_false_iff, beq_iff_eq, bne_iff_ne, ne_eq,
    beq_eq_false_iff_ne, bne_eq_false_iff_eq, decide_eq_true_eq, decide_eq_false_iff_not] <;> omega

theorem half_row_bound_eq (nrow ncol : Int) : half_row_bound nrow ncol = centre nrow := by
  simp only [half_row_bound, centre, fdiv_two] <;> omega
theorem half_col_bound_eq (nrow ncol : Int) : half_col_bound nrow ncol = centre ncol := by
  simp only [half_col_bound, centre, fdiv_two] <;> omega

/-- the diagonal predicates of `_half_split`, on the exact `linspace(-1, 1, n)` fractions -/
theorem half_diag_right_eq (nrow ncol i j : Nat) :
    half_diag_right_input (coordNum nrow i) (coordDen nrow) (coordNum ncol j) (coordDen ncol)
      = inputSide .diagRight nrow ncol i j ∧
    half_diag_right_target (coordNum nrow i) (coordDen nrow) (coordNum ncol j) (coordDen ncol)
      = !inputSide .diagRight nrow ncol i j := by
  simp only [inputSide]
  generalize coordNum nrow i = xn, coordDen nrow = xd, coordNum ncol j = yn, coordDen ncol = yd
  constructor <;>
  · rw [Bool.eq_iff_iff]
    simp only [half_diag_right_input, half_diag_right_target, inputSide, Int.mul_one, Int.zero_mul, Int.one_mul,
      Int.mul_zero, decide_eq_true_eq, Bool.not_eq_true', decide_eq_false_iff_not] <;> omega

theorem half_diag_left_eq (nrow ncol i j : Nat) :
    half_diag_left_input (coordNum nrow i) (coordDen nrow) (coordNum ncol j) (coordDen ncol)
      = inputSide .diagLeft nrow ncol i j ∧
    half_diag_left_target (coordNum nrow i) (coordDen nrow) (coordNum ncol j) (coordDen ncol)
      = !inputSide .diagLeft nrow ncol i j := by
  simp only [inputSide]
  generalize coordNum nrow i = xn, coordDen nrow = xd, coordNum ncol j = yn, coordDen ncol = yd
  constructor <;>
  · rw [Bool.eq_iff_iff]
    simp only [half_diag_left_input, half_diag_left_target, inputSide, Int.mul_one, Int.zero_mul, Int.one_mul,
      Int.mul_zero, decide_eq_true_eq, Bool.not_eq_true', decide_eq_false_iff_not] <;> omega

theorem gAnd_gNot (a b : Grid) : gAnd a (gNot b) = gAndNot a b := by
  simp [gAnd, gNot, gAndNot, List.zipWith_map_right]

theorem gaussian_reduce_eq (mask acs : Grid) : gaussian_reduce mask acs = reducedMask true mask acs := by
  simp only [gaussian_reduce, reducedMask, gAnd_gNot, if_true]
theorem uniform_reduce_eq (mask acs : Grid) : uniform_reduce mask acs = reducedMask true mask acs := by
  simp only [uniform_reduce, reducedMask, gAnd_gNot, if_true]

theorem gaussian_finish_eq (mask' acs t : Grid) :
    finish false mask' acs t = (gaussian_input mask' t, t) ∧
    finish true mask' acs t = (gaussian_keep_input (gaussian_input mask' t) t acs,
                               gaussian_keep_target (gaussian_input mask' t) t acs) := by
  simp only [finish, gaussian_input, gaussian_keep_input, gaussian_keep_target, gAnd_gNot, if_true,
    Bool.false_eq_true, if_false, and_self]

theorem uniform_finish_eq (mask' acs t : Grid) :
    finish false mask' acs t = (uniform_input mask' t, t) ∧
    finish true mask' acs t = (uniform_keep_input (uniform_input mask' t) t acs,
                               uniform_keep_target (uniform_input mask' t) t acs) := by
  simp only [finish, uniform_input, uniform_keep_input, uniform_keep_target, gAnd_gNot, if_true,
    Bool.false_eq_true, if_false, and_self]

theorem half_finish_eq (d : Dir) (xs ys : List Int) (a0 a1 : Int) (nrow ncol : Nat) (mask acs : Grid) :
    halfSplit d xs ys true a0 a1 nrow ncol mask acs =
      (half_keep_input (halfParts d xs ys nrow ncol mask).1 (halfParts d xs ys nrow ncol mask).2 acs,
       half_keep_target (halfParts d xs ys nrow ncol mask).1 (halfParts d xs ys nrow ncol mask).2 acs) ∧
    halfSplit d xs ys false a0 a1 nrow ncol mask acs =
      (half_protect_input (halfParts d xs ys nrow ncol mask).1 (halfParts d xs ys nrow ncol mask).2 mask
         (protectedGrid nrow ncol a0 a1 mask.length),
       half_protect_target (halfParts d xs ys nrow ncol mask).1 (halfParts d xs ys nrow ncol mask).2 mask
         (protectedGrid nrow ncol a0 a1 mask.length)) := by
  simp only [halfSplit, half_keep_input, half_keep_target, half_protect_input, half_protect_target, gAnd_gNot, if_true,
    Bool.false_eq_true, if_false, and_self]

-- key plumbing: SSL tail of `build_mri_transforms`, key reads of the SSL engines

theorem ssl_plumbing_ok (keep : Bool) : plumbingOk (ssl_tail keep) ssl_engine_reads = true := by
  cases keep <;> decide +kernel
theorem jssl_plumbing_ok (keep : Bool) : plumbingOk (ssl_tail keep) jssl_engine_reads = true := by
  cases keep <;> decide +kernel
/-- the k-space path of the training step that `sslOutput` models: prediction masked with `~input`, plus the input
k-space, projected on the target mask -/
def kpathExpected : List String :=
  ["forward:~mask", "mask:output_kspace:~mask", "dc:kspace+output_kspace",
   "mask:output_kspace:data['target_sampling_mask']"]
theorem ssl_engine_kpath_eq : ssl_engine_kpath = kpathExpected ∧ jssl_engine_kpath = kpathExpected := ⟨rfl, rfl⟩

/-- outside training the engines read the un-split keys -/
theorem ssl_eval_reads : ssl_engine_reads.evalK = "masked_kspace" ∧ ssl_engine_reads.evalMask = "sampling_mask" ∧
    jssl_engine_reads.evalK = "masked_kspace" ∧ jssl_engine_reads.evalMask = "sampling_mask" := by decide +kernel

def pos (l : List String) (s : String) : Nat := l.idxOf s

/-- statement order of `_gaussian_split`: reduce before count (the ratio applies to the mask without ACS), then
clone → protect → cap → fill → input → `| acs`, every stage once -/
def stagesOk (l : List String) : Bool :=
  (["reduce", "count", "clone", "protect", "cap", "fill", "input", "acs"].all fun s => l.count s == 1) &&
  l.length == 8 &&
  pos l "reduce" < pos l "count" && pos l "reduce" < pos l "clone" && pos l "count" < pos l "cap" &&
  pos l "clone" < pos l "protect" && pos l "protect" < pos l "cap" && pos l "cap" < pos l "fill" &&
  pos l "fill" < pos l "input" && pos l "input" < pos l "acs"

theorem gaussian_stages_ok : stagesOk gaussian_stages = true := by decide +kernel

/-- every draw (`_choose_ratio`, `uniform_fill`'s `rng.choice`) is inside `with temp_seed(self.rng, seed)` -/
theorem draws_seeded : draws_in_temp_seed.all (fun d => d.2) = true ∧ draws_in_temp_seed.length = 3 := by decide

theorem seed_tuple_eq (filename slice : List Nat) : seed_tuple filename slice = seedTuple filename slice := rfl
theorem seed_is_none_eq (useSeed : Bool) : seed_is_none useSeed = !useSeed := by
  cases useSeed <;> decide
theorem gaussian_seed_eq (t : List Nat) : gaussian_seed t = gaussianSeed t := by
  simp only [gaussian_seed, gaussianSeed, Int.fdiv_eq_ediv_of_nonneg _ (Int.natCast_nonneg _)]

/-- no splitter keeps anything between calls: in `ssl.py` and `mask_fillers.py` every write to an attribute, module
global or mutable default is a plain `self.<attr> = …` in a constructor, and no function carries a memoising
decorator — so a splitter object is the state-free `runHist none` -/
theorem state_writes_ok : stateWritesOk state_writes = true := by decide +kernel

theorem forward_keeps_no_memo : memoOfTable state_writes = none := by
  unfold memoOfTable; rw [state_writes_ok]; rfl

/-- no early return on `forward`'s path (memo hit, shortcut) apart from the modelled one of `uniform_fill` -/
theorem forward_exits_ok : exitsOk forward_exits = true := by decide +kernel

/-- the tables cover every function `forward` can reach inside the two modules -/
theorem forward_reach_scanned :
    reachCovered state_scanned forward_reach = true ∧ forward_unresolved = [] ∧
      forward_reach.contains "MaskSplitter.forward" = true := by decide +kernel

/-- the seed derivation calls nothing private to an interpreter process (salted `hash`, `id`, pid, clock, `random`) -/
theorem seed_calls_ok : seedCallsOk seed_calls = true := by decide +kernel

theorem seed_of_code_eq (p : Proc) (filename slice : List Nat) :
    seedOfCode p filename slice = seed_tuple filename slice := rfl

/-- every reader of the split keys under `direct/nn` reads the split input under the recorded condition `train` (SSL) /
`ssl&train` (joint) and the un-split keys otherwise; every `_do_iteration` projects on the target mask -/
theorem engine_sites_ok : engine_sites.all engineSiteOk = true := by decide +kernel

/-- a new reader must be added to the model and to the probes of the check -/
theorem engine_sites_names : engine_sites.map (·.name) =
    ["SSLMRIModelEngine._do_iteration", "JSSLMRIModelEngine._do_iteration", "Unet2dSSLEngine.forward_function",
     "Unet2dJSSLEngine.forward_function", "EndToEndVarNetSSLEngine.forward_function",
     "EndToEndVarNetJSSLEngine.forward_function", "VSharpNetSSLEngine._do_iteration",
     "VSharpNetJSSLEngine._do_iteration"] := rfl

/-- the vSHARP engines re-implement the training step; the masking with `~input` is inside `_forward_operator` -/
theorem vsharp_kpath_eq :
    vsharp_ssl_engine_kpath.take 2 = ["dc:kspace+self._forward_operator(output_image,data['sensitivity_map'],~mask)",
                                       "mask:output_kspace:data['target_sampling_mask']"] ∧
    vsharp_jssl_engine_kpath.take 2 = vsharp_ssl_engine_kpath.take 2 := ⟨rfl, rfl⟩

/-- every test of an enum-valued option (half-split direction, splitter type in the builder) against a `DirectEnum`
member goes through `__eq__` (`==`, `!=`, membership in a list / tuple, `match`), never identity or a hash lookup -/
theorem enum_compares_ok : enumComparesOk enum_compares = true := by decide +kernel

/-- the constructor's `0 < r < 1` -/
theorem ratio_guard_eq (p q : Int) : ratio_guard p q = ratioValid p q := by
  rw [Bool.eq_iff_iff]
  simp only [ratio_guard, ratioValid, Bool.and_eq_true, decide_eq_true_eq, Int.zero_mul, Int.mul_one, Int.one_mul]

end DirectVerif.Bridge.C11
