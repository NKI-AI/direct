import DirectVerif.Gen.C08
import DirectVerif.Lemmas.C08NF
import DirectVerif.Model.PipelineTables
/-!
# Bridge C08 — the stage table translated from `/repo` equals the hand-written builder

`Gen.C08.build` is produced on every run from the source text of `build_supervised_mri_transforms` /
`build_mri_transforms` (statement order, guards, constructor arguments), `zero_padding_threshold` from
`ComputeZeroPadding.__call__`, the seeds from the `__call__` bodies.  The lemmas are `rfl` / `decide` for *symbolic*
flags: moving or dropping a stage, changing a guard, a key, the threshold or a seed expression breaks them.
-/
namespace DirectVerif.Bridge.C08
open DirectVerif DirectVerif.Pipeline

theorem zero_padding_threshold_eq : Gen.C08.zero_padding_threshold = thrCurrent := by decide

/-- whatever its exact form -/
theorem zero_padding_threshold_relative : Gen.C08.zero_padding_threshold.homogeneous = true := by decide

theorem mask_seed_eq (u : Bool) : Gen.C08.maskSeed u = seedOf u [.filename] := by cases u <;> decide
theorem body_seed_eq (u : Bool) : Gen.C08.bodySeed u = seedOf u [.filename] := by cases u <;> decide
theorem split_seed_eq (u : Bool) : Gen.C08.splitSeed u = seedOf u [.filename, .sliceNo] := by cases u <;> decide
theorem crop_seed_eq : Gen.C08.crop_seed_fields = cropSeedFields := by decide

/-- the generated tables are literally the list normal forms of `Lemmas/C08NF.lean` -/
theorem build_supervised_eq (c : Config) : Gen.C08.build_supervised c = buildSupervised c :=
  (buildSupervised_nf c).symm

theorem build_eq (c : Config) : Gen.C08.build c = build c :=
  (build_nf c).symm

/-- what every transform class reads, writes, guards on and applies, from the `forward` / `__call__` bodies.  Reading
another key, normalising another key set, dividing without the guard (`.divUnsafe`), dropping a `require` breaks it. -/
theorem compile_eq (s : Stage) : Gen.C08.compile s = compile s := by
  cases s with
  | cropKspace center useSeed => cases center <;> rfl
  | createSamplingMask fromCrop seed returnAcs => cases fromCrop <;> cases returnAcs <;> rfl
  | estimateSensitivityMap kk ty gaussian => cases ty <;> cases gaussian <;> rfl
  | computeScalingFactor nk pct sfk => cases nk <;> cases pct <;> rfl
  | computeImage kk tk r => cases r <;> rfl
  | maskSplitter ty keepAcs seed kk => cases keepAcs <;> rfl
  | _ => rfl

theorem program_eq (c : Config) : (Gen.C08.build c).flatMap Gen.C08.compile = program (build c) := by
  rw [build_eq]
  exact congrArg (fun f => (build c).flatMap f) (funext compile_eq)

/-- `NormalizeModule`'s default key list -/
theorem default_norm_keys_eq : Gen.C08.default_norm_keys = defaultNormKeys := rfl

theorem build_pre_eq (c : Config) : Gen.C08.build_pre c = buildPre c :=
  (buildPre_nf c).symm
theorem build_post_eq (c : Config) : Gen.C08.build_post c = buildPost c :=
  (buildPost_nf c).symm

theorem program_prepost_eq (c : Config) :
    (Gen.C08.build_pre c ++ Gen.C08.build_post c).flatMap Gen.C08.compile = program (buildPrePost c) := by
  rw [build_pre_eq, build_post_eq]
  exact congrArg (fun f => (buildPre c ++ buildPost c).flatMap f) (funext compile_eq)

/-- the parameters of the four builders, as the model classifies them: a new, renamed or re-ordered one breaks these -/
theorem supervised_params_eq : Gen.C08.supervised_params = supervisedParams := rfl
theorem outer_params_eq : Gen.C08.outer_params = outerParams := rfl
theorem pre_params_eq : Gen.C08.pre_params = preParams := rfl
theorem post_params_eq : Gen.C08.post_params = postParams := rfl
theorem params_classified :
    Gen.C08.supervised_params.ok && Gen.C08.outer_params.ok && Gen.C08.pre_params.ok && Gen.C08.post_params.ok = true := by
  decide +kernel

/-- the default arguments denote the default `Config` -/
theorem default_config_eq : Gen.C08.default_config = ({} : Config) := rfl
theorem default_config_supervised_eq : Gen.C08.default_config_supervised = ({} : Config) := rfl
theorem default_config_prepost_eq : Gen.C08.default_config_prepost = ({} : Config) := rfl

/-- every `ModuleWrapper` alias of the model exists with the modelled class and `toggle_dims`; further aliases may be added -/
theorem wrappers_cover : wrapperTable.all (fun r => Gen.C08.wrappers.contains r) = true := by decide +kernel
theorem wrappers_ok : Gen.C08.wrappers.ok = true := by decide +kernel

/-- through the `ModuleWrapper` alias in the pipelines on un-batched samples, raw modules in the batched post-transform -/
theorem stage_forms_supervised_eq : Gen.C08.stage_forms_supervised = supervisedForms := rfl
theorem stage_forms_outer_eq : Gen.C08.stage_forms_outer = outerForms := rfl
theorem stage_forms_pre_eq : Gen.C08.stage_forms_pre = preForms := rfl
theorem stage_forms_post_eq : Gen.C08.stage_forms_post = postForms := rfl
theorem stage_forms_unbatched_ok :
    Gen.C08.stage_forms_supervised.unbatchedOk && Gen.C08.stage_forms_outer.unbatchedOk
      && Gen.C08.stage_forms_pre.unbatchedOk = true := by decide +kernel

/-- no transform class of `mri_transforms.py` / `ssl.py` writes instance, class or module state outside `__init__`
(`self.… =`, mutating calls, `global`, `setattr`, memoising decorators): no cache of a threshold, factor or mask -/
theorem instance_state_writes_none : Gen.C08.instance_state_writes.none = true := by decide
/-- … and the scan was not empty -/
theorem classes_scanned_pos : 30 ≤ Gen.C08.classes_scanned := by decide

/-- no data-dependent early `return sample` the model does not know (it would skip the program of the stage) -/
theorem data_early_returns_eq : Gen.C08.data_early_returns = dataEarlyReturns := rfl

/-- no `hash` (salted per interpreter), `id`, `random` in a seed derivation: the same seed in every process -/
theorem seed_derivation_pure : Gen.C08.seed_disallowed_calls = [] := by decide

end DirectVerif.Bridge.C08
