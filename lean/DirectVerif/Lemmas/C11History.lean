import DirectVerif.Model.SslHistory
/-!
# C11 — a memoising `forward` over a history of calls

Invariant `CacheOk`: every cached entry is `f` of some sample with that key.  When the key determines `f`, a hit
returns `f x`, so a history answers `xs.map f` — whatever the bound of the dictionary, since eviction and
`move_to_end` only drop or reorder entries.
-/
namespace DirectVerif.C11
open DirectVerif DirectVerif.SslSplit

theorem lookup_some_mem {κ ο : Type} [BEq κ] [LawfulBEq κ] (k : κ) (v : ο) (c : List (κ × ο))
    (h : c.lookup k = some v) : (k, v) ∈ c := by
  obtain ⟨l₁, l₂, rfl, _⟩ := List.lookup_eq_some_iff.mp h
  exact List.mem_append_right _ List.mem_cons_self

def CacheOk {ι κ ο : Type} (kf : ι → κ) (f : ι → ο) (c : List (κ × ο)) : Prop :=
  ∀ e ∈ c, ∃ x, kf x = e.1 ∧ e.2 = f x

theorem memoStep_ok {ι κ ο : Type} [BEq κ] [LawfulBEq κ] (kf : ι → κ) (cap : Nat) (f : ι → ο)
    (hk : ∀ x y, kf x = kf y → f x = f y) (c : List (κ × ο)) (hc : CacheOk kf f c) (x : ι) :
    (memoStep (some kf) cap f c x).2 = f x ∧ CacheOk kf f (memoStep (some kf) cap f c x).1 := by
  unfold memoStep
  simp only
  cases hl : c.lookup (kf x) with
  | some v =>
    simp only
    have hm := lookup_some_mem (kf x) v c hl
    obtain ⟨x', h1, h2⟩ := hc _ hm
    simp only at h1 h2
    have hv : v = f x := by rw [h2]; exact hk _ _ h1
    refine ⟨hv, ?_⟩
    intro e he
    rw [List.mem_append] at he
    rcases he with he | he
    · exact hc e (List.mem_filter.mp he).1
    · rw [List.mem_singleton] at he
      exact ⟨x, by rw [he], by rw [he]; exact hv⟩
  | none =>
    simp only
    refine ⟨trivial, ?_⟩
    have hall : CacheOk kf f (c ++ [(kf x, f x)]) := by
      intro e he
      rw [List.mem_append] at he
      rcases he with he | he
      · exact hc e he
      · rw [List.mem_singleton] at he
        exact ⟨x, by rw [he], by rw [he]⟩
    split
    · intro e he
      exact hall e (List.mem_of_mem_drop he)
    · exact hall

theorem runHist_complete {ι κ ο : Type} [BEq κ] [LawfulBEq κ] (kf : ι → κ) (cap : Nat) (f : ι → ο)
    (hk : ∀ x y, kf x = kf y → f x = f y) :
    ∀ (xs : List ι) (c : List (κ × ο)), CacheOk kf f c → runHist (some kf) cap f c xs = xs.map f := by
  intro xs
  induction xs with
  | nil => intro c _; rfl
  | cons x xs ih =>
    intro c hc
    obtain ⟨h1, h2⟩ := memoStep_ok kf cap f hk c hc x
    rw [runHist, h1, ih _ h2, List.map_cons]

theorem runHist_none_eq {ι κ ο : Type} [BEq κ] (cap : Nat) (f : ι → ο) :
    ∀ (xs : List ι) (c : List (κ × ο)), runHist none cap f c xs = xs.map f := by
  intro xs
  induction xs with
  | nil => intro c; rfl
  | cons x xs ih =>
    intro c
    rw [runHist, List.map_cons, ih]
    rfl

theorem keyOf_eq_iff (parts : List KeyPart) (x y : SampleIn) :
    keyOf parts x = keyOf parts y ↔ ∀ p ∈ parts, partOf x p = partOf y p := by
  unfold keyOf
  induction parts with
  | nil => simp
  | cons p ps ih =>
    simp only [List.map_cons, List.cons.injEq, List.mem_cons, forall_eq_or_imp, ih]

theorem bits_inj (a b : Grid)
    (h : a.map (fun b => if b then (1 : Nat) else 0) = b.map (fun b => if b then 1 else 0)) : a = b :=
  (List.map_inj_right (by decide)).mp h

end DirectVerif.C11
