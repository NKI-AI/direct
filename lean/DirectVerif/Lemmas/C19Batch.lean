import DirectVerif.Model.DataConsistency
/-!
The `break` test of `ConjGrad.cg` is a mean over the batch, so all samples leave the loop at the same pass `j`: the first
pass at which the batch statistic passes the test (or `num_iters`).  Every sample's output is therefore its own `j`-th
conjugate-gradient iterate — which is what makes "never worse than the start" hold per sample
(`Props/C19.lean : cg_batch_never_worse`), although `j` depends on the other samples (the known C18 coupling).

`loop_spec`, the reading of a `for … : body; if stop: break` loop, stands here because this file needs nothing beyond core
Lean: the single-sample loop (`C19Energy : cgLoop_spec_first`) and the batch loop (`cg_batch_mean_stop`) are both instances of it.
-/
namespace DirectVerif.DataConsistency
universe u v w
variable {K : Type u} {V : Type v} {W : Type w}

def iterAll (steps : List (CGState K V → CGState K V)) : Nat → List (CGState K V) → List (CGState K V)
  | 0, ss => ss
  | k + 1, ss => iterAll steps k (stepAll steps ss)

/-- a `for _ in range(n)` loop `L` whose body `f` is followed by `if stop: break` (the shape of `cgLoop` and of
`cgLoopBatch`); `it k` is `k` passes through the body -/
theorem loop_spec {α : Type u} {β : Type v} (f : α → α) (stop : α → Bool) (out : α → β) (L : Nat → α → β)
    (it : Nat → α → α) (it0 : ∀ s, it 0 s = s) (itS : ∀ k s, it (k + 1) s = it k (f s)) (L0 : ∀ s, L 0 s = out s)
    (LS : ∀ n s, L (n + 1) s = if stop (f s) then out (f s) else L n (f s)) (n : Nat) (s : α) :
    ∃ j, j ≤ n ∧ L n s = out (it j s) ∧ (j < n → 0 < j ∧ stop (it j s) = true) ∧
      ∀ i, 0 < i → i < j → stop (it i s) = false := by
  have it1 : ∀ s, it 1 s = f s := fun s => (itS 0 s).trans (it0 (f s))
  induction n generalizing s with
  | zero => exact ⟨0, Nat.le_refl 0, by rw [L0, it0], fun h => absurd h (Nat.lt_irrefl 0), fun i h1 h2 => by omega⟩
  | succ n ih =>
    by_cases hs : stop (f s) = true
    · exact ⟨1, by omega, by rw [LS, if_pos hs, it1], fun _ => ⟨by omega, by rw [it1, hs]⟩, fun i h1 h2 => by omega⟩
    · obtain ⟨j, hj, e, hst, hfirst⟩ := ih (f s)
      refine ⟨j + 1, by omega, by rw [LS, if_neg hs, itS, e], fun h => by rw [itS]; exact ⟨by omega, (hst (by omega)).2⟩,
        fun i h1 h2 => ?_⟩
      obtain ⟨i, rfl⟩ := Nat.exists_eq_succ_of_ne_zero (Nat.ne_of_gt h1)
      rw [itS]
      cases i with
      | zero => rw [it0]; exact Bool.eq_false_iff.mpr hs
      | succ i => exact hfirst (i + 1) (by omega) (by omega)

theorem cg_batch_mean_stop (steps : List (CGState K V → CGState K V)) (stopB : List K → Bool) (n : Nat)
    (ss : List (CGState K V)) :
    ∃ j, j ≤ n ∧ cgLoopBatch steps stopB n ss = (iterAll steps j ss).map (·.x) ∧
      (j < n → stopB ((iterAll steps j ss).map (·.rr)) = true ∧ 0 < j) ∧
      (∀ i, 0 < i → i < j → stopB ((iterAll steps i ss).map (·.rr)) = false) := by
  obtain ⟨j, hj, e, hst, hfirst⟩ := loop_spec (stepAll steps) (fun ss => stopB (ss.map (·.rr))) (·.map (·.x))
    (cgLoopBatch steps stopB) (iterAll steps) (fun _ => rfl) (fun _ _ => rfl) (fun _ => rfl) (fun _ _ => rfl) n ss
  exact ⟨j, hj, e, fun h => (hst h).symm, hfirst⟩

theorem iterAll_getElem? (steps : List (CGState K V → CGState K V)) (k : Nat) (ss : List (CGState K V))
    (h : steps.length = ss.length) (b : Nat) (f : CGState K V → CGState K V) (s : CGState K V)
    (it : Nat → CGState K V → CGState K V) (it0 : ∀ s, it 0 s = s) (itS : ∀ k s, it (k + 1) s = it k (f s))
    (hf : steps[b]? = some f) (hs : ss[b]? = some s) :
    (iterAll steps k ss)[b]? = some (it k s) := by
  induction k generalizing ss s with
  | zero => rw [it0]; exact hs
  | succ k ih =>
    have h' : steps.length = (stepAll steps ss).length := by simp [stepAll, h]
    have e : (stepAll steps ss)[b]? = some (f s) := by
      simp [stepAll, List.getElem?_zipWith, hf, hs]
    rw [itS]
    exact ih (stepAll steps ss) h' (f s) e

theorem cgBatch_per_sample (u : Update) (n : Nat) (stopB : List K → Bool) (lam : K) (samples : List (Sample K V W)) :
    ∃ j, j ≤ n ∧ ∀ (b : Nat) (s : Sample K V W), samples[b]? = some s →
      (cgBatch u n stopB lam samples)[b]? = some (cgIter s.o u (bOp s.o lam) j (cgInit s.o lam s.y s.z s.x0)).x := by
  obtain ⟨j, hj, e, _, _⟩ := cg_batch_mean_stop (samples.map fun s => cgStep s.o u (bOp s.o lam)) stopB n
    (samples.map fun s => cgInit s.o lam s.y s.z s.x0)
  refine ⟨j, hj, fun b s hb => ?_⟩
  unfold cgBatch
  rw [e, List.getElem?_map, iterAll_getElem? _ j _ (by simp) b (cgStep s.o u (bOp s.o lam)) (cgInit s.o lam s.y s.z s.x0)
    (cgIter s.o u (bOp s.o lam)) (fun _ => rfl) (fun _ _ => rfl) (by simp [hb]) (by simp [hb])]
  rfl

end DirectVerif.DataConsistency
