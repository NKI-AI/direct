import DirectVerif.Model.Complex
import DirectVerif.Lemmas.TensorLift
/-!
# C02 — the tensor plumbing of `Model/Complex.lean` refines to index form (core Lean, no Mathlib)

The driver executes `expandOp` / `reduceOp` / `rssSqT` / `cmulT` on flat row-major tensors: torch broadcasting,
`unsqueeze`, and sums along an axis (`sumAxis` = `Tensor.alongAxis … [fibre.sum]` followed by erasing the axis).  This
file proves what they compute, for **every** shape `pre ++ [c] ++ post` (coil axis at an arbitrary position `pre.length`,
given as a non-negative or as a negative Python axis) and every well-formed tensor.  One layer of index facts serves all:
`unflatten` / `Tensor.offset` are mutually inverse mixed-radix conversions, also when axes of length 1 are masked, and
entry `[o, j, i]` sits at flat position `pos3 c inner o j i = o*c*inner + j*inner + i`.
`Props/C02.lean` reads the three specifications over `ℝ` / `ℂ`.
-/
namespace DirectVerif.C02T
open DirectVerif DirectVerif.Tensor DirectVerif.Cx DirectVerif.TensorLift

def uf (shape : List Nat) (k : Nat) : List Nat × Nat :=
  shape.foldr (fun n (acc : List Nat × Nat) => ((acc.2 % n) :: acc.1, acc.2 / n)) ([], k)

theorem unflatten_eq (shape : List Nat) (k : Nat) : unflatten shape k = (uf shape k).1 := rfl

theorem uf_snd (s : List Nat) (k : Nat) : (uf s k).2 = k / prod s := by
  induction s with
  | nil => simp [uf, prod_nil]
  | cons n s ih =>
    show (uf s k).2 / n = _
    rw [ih, Nat.div_div_eq_div_mul, prod_cons, Nat.mul_comm]

theorem unflatten_nil (k : Nat) : unflatten [] k = [] := rfl

theorem unflatten_cons (n : Nat) (s : List Nat) (k : Nat) :
    unflatten (n :: s) k = (k / prod s % n) :: unflatten s k := by
  show ((uf s k).2 % n) :: (uf s k).1 = _
  rw [uf_snd]; rfl

theorem unflatten_length (s : List Nat) (k : Nat) : (unflatten s k).length = s.length := by
  induction s with
  | nil => rfl
  | cons n s ih => rw [unflatten_cons, List.length_cons, ih, List.length_cons]

theorem unflatten_append (s1 s2 : List Nat) (k : Nat) :
    unflatten (s1 ++ s2) k = unflatten s1 (k / prod s2) ++ unflatten s2 k := by
  induction s1 with
  | nil => simp [unflatten_nil]
  | cons n s1 ih =>
    rw [List.cons_append, unflatten_cons, unflatten_cons, ih, prod_append, List.cons_append,
      Nat.div_div_eq_div_mul, Nat.mul_comm (prod s2)]

/-- a digit on an axis of length 1 is read as 0 -/
def mask (shape idx : List Nat) : List Nat := List.zipWith (fun n i => if n = 1 then 0 else i) shape idx

/-- what `bcastOffset` computes when `idx` has the rank of `shape` -/
def moff (shape idx : List Nat) : Nat := Tensor.offset shape (mask shape idx)

theorem bcastOffset_eq_moff (shape idx : List Nat) (h : idx.length = shape.length) :
    bcastOffset shape idx = moff shape idx := by
  unfold bcastOffset moff mask
  rw [h, Nat.sub_self, List.drop_zero]

theorem offset_nil : Tensor.offset [] [] = 0 := rfl

theorem mask_length (s idx : List Nat) (h : s.length = idx.length) : (mask s idx).length = s.length := by
  simp [mask, h]

theorem moff_nil : moff [] [] = 0 := rfl

theorem moff_cons (n i : Nat) (s idx : List Nat) (h : s.length = idx.length) :
    moff (n :: s) (i :: idx) = (if n = 1 then 0 else i) * prod s + moff s idx := by
  unfold moff mask
  rw [List.zipWith_cons_cons, offset_cons _ _ _ _ (by simp [h])]

theorem moff_append (s1 i1 s2 i2 : List Nat) (h1 : s1.length = i1.length) (h2 : s2.length = i2.length) :
    moff (s1 ++ s2) (i1 ++ i2) = moff s1 i1 * prod s2 + moff s2 i2 := by
  induction s1 generalizing i1 with
  | nil =>
    cases i1 with
    | nil => simp [moff_nil]
    | cons _ _ => simp at h1
  | cons n s1 ih =>
    cases i1 with
    | nil => simp at h1
    | cons i i1 =>
      have h1' : s1.length = i1.length := by simpa using h1
      rw [List.cons_append, List.cons_append, moff_cons _ _ _ _ (by simp [h1', h2]), ih i1 h1',
        moff_cons _ _ _ _ h1', prod_append, Nat.add_mul, Nat.mul_assoc, Nat.add_assoc]

/-- mod the number of elements; axes of length 1 may be masked -/
theorem moff_unflatten (s : List Nat) (k : Nat) : moff s (unflatten s k) = k % prod s := by
  induction s with
  | nil => simp [unflatten_nil, moff_nil, prod_nil, Nat.mod_one]
  | cons n s ih =>
    rw [unflatten_cons, moff_cons _ _ _ _ (unflatten_length s k).symm, ih, prod_cons, Nat.mul_comm n,
      Nat.mod_mul]
    by_cases hn : n = 1
    · subst hn; simp [Nat.mod_one]
    · rw [if_neg hn, Nat.mul_comm, Nat.add_comm]

theorem bcastOffset_unflatten (s : List Nat) (k : Nat) (hk : k < prod s) :
    bcastOffset s (unflatten s k) = k := by
  rw [bcastOffset_eq_moff _ _ (unflatten_length s k), moff_unflatten, Nat.mod_eq_of_lt hk]

/-- flat position of `[o, j, i]` in a tensor of shape `pre ++ [c] ++ post` -/
def pos3 (c inner o j i : Nat) : Nat := o * c * inner + j * inner + i

theorem pos3_lt (Q c P o j i : Nat) (ho : o < Q) (hj : j < c) (hi : i < P) : pos3 c P o j i < Q * (c * P) := by
  have h := idx2_lt o (j * P + i) Q (c * P) ho (idx2_lt j i c P hj hi)
  rwa [← Nat.add_assoc, ← Nat.mul_assoc] at h

theorem pos3_div_mod (c P o j i : Nat) (hi : i < P) : pos3 c P o j i / P = o * c + j ∧ pos3 c P o j i % P = i := by
  rw [pos3, ← Nat.add_mul]
  exact idx2 _ _ _ hi

/-- the operand with a singleton coil axis is read at `[o, i]` -/
theorem bcastOffset_expand (pre post : List Nat) (c o j i : Nat)
    (ho : o < prod pre) (hj : j < c) (hi : i < prod post) :
    bcastOffset (pre ++ [1] ++ post) (unflatten (pre ++ [c] ++ post) (pos3 c (prod post) o j i)) =
      o * prod post + i := by
  rw [bcastOffset_eq_moff _ _ (by simp [unflatten_length]), unflatten_append, unflatten_append,
    moff_append _ _ _ _ (by simp [unflatten_length]) (unflatten_length _ _).symm,
    moff_append pre _ [1] _ (unflatten_length _ _).symm (unflatten_length [c] _).symm, moff_unflatten, moff_unflatten,
    (pos3_div_mod c _ o j i hi).1, (pos3_div_mod c _ o j i hi).2]
  -- the digit `j` on the singleton axis is masked: `moff [1] [j] = 0`
  show ((o * c + j) / prod [c] % prod pre * prod [1] + 0) * prod post + i = _
  rw [prod_cons, prod_cons, prod_nil, Nat.mul_one, Nat.mul_one, Nat.add_zero, (idx2 o j c hj).1, Nat.mod_eq_of_lt ho]

/-- `b` broadcasts to `a`: same rank, every axis equal or a singleton in `b` -/
inductive BcTo : List Nat → List Nat → Prop
  | nil : BcTo [] []
  | cons {x y : Nat} {a b : List Nat} : (x = y ∨ y = 1) → BcTo a b → BcTo (x :: a) (y :: b)

theorem BcTo.length_eq {a b : List Nat} (h : BcTo a b) : a.length = b.length := by
  induction h with
  | nil => rfl
  | cons _ _ ih => simp [ih]

theorem BcTo.bcastShape_eq (a b : List Nat) (h : BcTo a b) :
    bcastShape a b = some a := by
  unfold bcastShape
  have hl : a.length = b.length := h.length_eq
  simp only [hl, Nat.max_self, Nat.sub_self, List.replicate_zero, List.nil_append]
  induction h with
  | nil => rfl
  | @cons x y a b hxy _ ih =>
    have hl' : a.length = b.length := by simpa using hl
    rw [List.zip_cons_cons, List.mapM_cons, ih hl']
    rcases hxy with rfl | rfl
    · simp
    · by_cases hx : x = 1
      · simp [hx]
      · simp [hx]

theorem BcTo.refl (s : List Nat) : BcTo s s := by
  induction s with
  | nil => exact .nil
  | cons x s ih => exact .cons (Or.inl rfl) ih

theorem BcTo.expand (pre post : List Nat) (c : Nat) :
    BcTo (pre ++ [c] ++ post) (pre ++ [1] ++ post) := by
  induction pre with
  | nil => exact .cons (Or.inr rfl) (BcTo.refl post)
  | cons x pre ih => exact .cons (Or.inl rfl) ih

section Zip
variable {α β γ : Type} [Inhabited α] [Inhabited β]

theorem zipBcast_of_shape (f : α → β → γ) (a : Tensor α) (b : Tensor β) (s : List Nat)
    (h : bcastShape a.shape b.shape = some s) :
    zipBcast f a b = ⟨s, (List.range (prod s)).map fun k =>
      f (a.data.getD (bcastOffset a.shape (unflatten s k)) default)
        (b.data.getD (bcastOffset b.shape (unflatten s k)) default)⟩ := by
  unfold zipBcast
  rw [h]
  simp only [toArray_getElem!]

theorem zipBcast_getD [Inhabited γ] (f : α → β → γ) (a : Tensor α) (b : Tensor β)
    (h : BcTo a.shape b.shape) (k : Nat) (hk : k < prod a.shape) :
    (zipBcast f a b).data.getD k default =
      f (a.data.getD k default) (b.data.getD (bcastOffset b.shape (unflatten a.shape k)) default) := by
  rw [zipBcast_of_shape f a b _ (BcTo.bcastShape_eq _ _ h)]
  simp only [List.getD_eq_getElem?_getD, List.getElem?_map, List.getElem?_range hk, Option.map_some,
    Option.getD_some, bcastOffset_unflatten _ _ hk]

theorem zipBcast_shape (f : α → β → γ) (a : Tensor α) (b : Tensor β)
    (h : BcTo a.shape b.shape) :
    (zipBcast f a b).shape = a.shape ∧ (zipBcast f a b).data.length = prod a.shape := by
  rw [zipBcast_of_shape f a b _ (BcTo.bcastShape_eq _ _ h)]
  simp

end Zip

theorem normAxis_nonneg (rank ax : Nat) : normAxis rank (ax : Int) = ax := by
  unfold normAxis
  rw [if_neg (by omega)]; simp

theorem normAxis_neg (rank ax : Nat) (h : ax < rank) : normAxis rank ((ax : Int) - rank) = ax := by
  unfold normAxis
  rw [if_pos (by omega)]; omega

theorem shape3_length (pre post : List Nat) (n : Nat) : (pre ++ [n] ++ post).length = pre.length + 1 + post.length := by
  simp; omega

theorem shape3_getD (pre post : List Nat) (n d : Nat) : (pre ++ [n] ++ post).getD pre.length d = n := by
  simp [List.getD_eq_getElem?_getD]

theorem shape3_take (pre post : List Nat) (n : Nat) : (pre ++ [n] ++ post).take pre.length = pre := by
  simp

theorem shape3_drop (pre post : List Nat) (n : Nat) : (pre ++ [n] ++ post).drop (pre.length + 1) = post := by
  rw [List.append_assoc, List.drop_append, List.drop_of_length_le (by omega)]
  simp

theorem shape3_set (pre post : List Nat) (n m : Nat) : (pre ++ [n] ++ post).set pre.length m = pre ++ [m] ++ post := by
  simp [List.append_assoc]

theorem shape3_erase (pre post : List Nat) (n : Nat) : (pre ++ [n] ++ post).eraseIdx pre.length = pre ++ post := by
  rw [List.append_assoc, List.eraseIdx_append_of_length_le (by omega)]
  simp

section Sum
variable {α : Type} [Add α] [Zero α] [Inhabited α]

/-- **`t.sum(d)`**: entry `(o, i)` = the sum over `j` of the entries `[o, j, i]` -/
theorem sumAxis_spec (t : Tensor α) (pre post : List Nat) (n : Nat) (d : Int)
    (hs : t.shape = pre ++ [n] ++ post) (hd : normAxis (pre.length + 1 + post.length) d = pre.length) :
    (sumAxis t d).shape = pre ++ post ∧
    (sumAxis t d).data.length = prod pre * prod post ∧
    ∀ o i, o < prod pre → i < prod post →
      (sumAxis t d).data.getD (o * prod post + i) default =
        ((List.range n).map fun j => t.data.getD (pos3 n (prod post) o j i) default).sum := by
  have hax : normAxis t.shape.length d = pre.length := by rw [hs, shape3_length]; exact hd
  have hU : LenUniform (fun fibre : List α => [fibre.sum]) (t.shape.getD pre.length 1) 1 := fun _ _ => rfl
  have hn : t.shape.getD pre.length 1 = n := by rw [hs, shape3_getD]
  have hQ : prod (t.shape.take pre.length) = prod pre := by rw [hs, shape3_take]
  have hP : prod (t.shape.drop (pre.length + 1)) = prod post := by rw [hs, shape3_drop]
  unfold sumAxis
  simp only [hax]
  refine ⟨?_, ?_, ?_⟩
  · rw [alongAxis_shape t _ _ 1 hU, hs, shape3_set, shape3_erase]
  · rw [alongAxis_data_length t _ _ 1 hU, hQ, hP, Nat.one_mul]
  · intro o i ho hi
    have := alongAxis_getD t pre.length (fun fibre : List α => [fibre.sum]) 1 hU o 0 i (hQ ▸ ho) Nat.one_pos (hP ▸ hi)
    rw [hP, hn] at this
    simpa [fibre, pos3] using this

end Sum

theorem getD_map_lt {α β : Type} (g : α → β) (l : List α) (k : Nat) (d : α) (d' : β) (h : k < l.length) :
    (l.map g).getD k d' = g (l.getD k d) := by
  simp [List.getD_eq_getElem?_getD, List.getElem?_eq_getElem h]

theorem prod3 (pre post : List Nat) (c : Nat) : prod (pre ++ [c] ++ post) = prod pre * (c * prod post) := by
  rw [prod_append, prod_append, prod_cons, prod_nil, Nat.mul_one, Nat.mul_assoc]

/-- the axis at which `unsqueeze(d)` inserts (Python: `d + rank + 1` when negative) -/
def unsqAxis (rank : Nat) (d : Int) : Nat := (if d < 0 then d + (rank : Int) + 1 else d).toNat

theorem unsqAxis_nonneg (rank ax : Nat) : unsqAxis rank (ax : Int) = ax := by
  unfold unsqAxis; rw [if_neg (by omega)]; simp

theorem unsqAxis_neg (rank ax : Nat) (h : ax ≤ rank) : unsqAxis rank ((ax : Int) - (rank + 1)) = ax := by
  unfold unsqAxis; rw [if_pos (by omega)]; omega

theorem unsqueeze_spec {α} (x : Tensor α) (pre post : List Nat) (d : Int) (hx : x.shape = pre ++ post)
    (hd : unsqAxis (pre.length + post.length) d = pre.length) :
    unsqueeze x d = ⟨pre ++ [1] ++ post, x.data⟩ := by
  have hax : (if d < 0 then d + (x.shape.length : Int) + 1 else d).toNat = pre.length := by
    rw [hx, List.length_append]; exact hd
  unfold unsqueeze
  rw [hx] at hax
  simp only [hx, hax, List.take_left', List.drop_left']

section Ops
variable {R : Type} [Add R] [Sub R] [Mul R] [Neg R] [Zero R] [Inhabited R]

omit [Neg R] [Zero R] in
/-- **`expand_operator(x, S, d)`**, coil axis at any position `pre.length` of `S`, `d` in either Python form: entry
`[o, j, i]` is `cmul S[o, j, i] x[o, i]` -/
theorem expandOp_spec (x S : Tensor (Cpx R)) (pre post : List Nat) (c : Nat) (d : Int)
    (hx : x.shape = pre ++ post) (hS : S.shape = pre ++ [c] ++ post)
    (hd : unsqAxis (pre.length + post.length) d = pre.length) :
    (expandOp x S d).shape = pre ++ [c] ++ post ∧
    (expandOp x S d).data.length = prod pre * (c * prod post) ∧
    ∀ o j i, o < prod pre → j < c → i < prod post →
      (expandOp x S d).data.getD (pos3 c (prod post) o j i) default =
        cmul (S.data.getD (pos3 c (prod post) o j i) default) (x.data.getD (o * prod post + i) default) := by
  have hb : BcTo S.shape (unsqueeze x d).shape := by
    rw [unsqueeze_spec x pre post d hx hd, hS]; exact BcTo.expand pre post c
  unfold expandOp cmulT
  refine ⟨?_, ?_, ?_⟩
  · rw [(zipBcast_shape cmul S _ hb).1, hS]
  · rw [(zipBcast_shape cmul S _ hb).2, hS, prod3]
  · intro o j i ho hj hi
    have hk : pos3 c (prod post) o j i < prod S.shape := by rw [hS, prod3]; exact pos3_lt _ _ _ _ _ _ ho hj hi
    rw [zipBcast_getD cmul S _ hb _ hk, unsqueeze_spec x pre post d hx hd, hS]
    show cmul _ (x.data.getD (bcastOffset (pre ++ [1] ++ post) _) default) = _
    rw [bcastOffset_expand pre post c o j i ho hj hi]

/-- **`reduce_operator(y, S, d)`**: entry `[o, i]` is `Σ_j cmul (conj S[o, j, i]) y[o, j, i]` -/
theorem reduceOp_spec (y S : Tensor (Cpx R)) (pre post : List Nat) (c : Nat) (d : Int)
    (hy : y.shape = pre ++ [c] ++ post) (hS : S.shape = pre ++ [c] ++ post)
    (wy : y.data.length = prod y.shape) (wS : S.data.length = prod S.shape)
    (hd : normAxis (pre.length + 1 + post.length) d = pre.length) :
    (reduceOp y S d).shape = pre ++ post ∧
    (reduceOp y S d).data.length = prod pre * prod post ∧
    ∀ o i, o < prod pre → i < prod post →
      (reduceOp y S d).data.getD (o * prod post + i) default =
        ((List.range c).map fun j => cmul (conj (S.data.getD (pos3 c (prod post) o j i) default))
                                        (y.data.getD (pos3 c (prod post) o j i) default)).sum := by
  have hb : BcTo (conjT S).shape y.shape := by
    rw [show (conjT S).shape = S.shape from rfl, hS, hy]; exact BcTo.refl _
  unfold reduceOp cmulT
  obtain ⟨h1, h2, h3⟩ := sumAxis_spec (zipBcast cmul (conjT S) y) pre post c d ((zipBcast_shape cmul _ y hb).1.trans hS) hd
  refine ⟨h1, h2, fun o i ho hi => ?_⟩
  rw [h3 o i ho hi]
  refine congrArg List.sum (List.map_congr_left fun j hj => ?_)
  have hk := pos3_lt _ _ _ _ _ _ ho (List.mem_range.mp hj) hi
  rw [← prod3, ← hS] at hk
  -- `y` has the shape of `S`, so it is read at the same flat position
  rw [zipBcast_getD cmul _ y hb _ hk, show (conjT S).shape = S.shape from rfl, hy, ← hS, bcastOffset_unflatten _ _ hk]
  exact congrArg (cmul · _) (getD_map_lt conj S.data _ default default (wS ▸ hk))

omit [Sub R] [Neg R] in
/-- **`root_sum_of_squares(S, d)²`** on complex data -/
theorem rssSqT_spec (S : Tensor (Cpx R)) (pre post : List Nat) (c : Nat) (d : Int)
    (hS : S.shape = pre ++ [c] ++ post) (wS : S.data.length = prod S.shape)
    (hd : normAxis (pre.length + 1 + post.length) d = pre.length) :
    (rssSqT S d).shape = pre ++ post ∧
    (rssSqT S d).data.length = prod pre * prod post ∧
    ∀ o i, o < prod pre → i < prod post →
      (rssSqT S d).data.getD (o * prod post + i) default =
        ((List.range c).map fun j => modSq (S.data.getD (pos3 c (prod post) o j i) default)).sum := by
  unfold rssSqT modSqT mapT
  obtain ⟨h1, h2, h3⟩ := sumAxis_spec (⟨S.shape, S.data.map modSq⟩ : Tensor R) pre post c d hS hd
  refine ⟨h1, h2, fun o i ho hi => ?_⟩
  rw [h3 o i ho hi]
  refine congrArg List.sum (List.map_congr_left fun j hj => ?_)
  have hk := pos3_lt _ _ _ _ _ _ ho (List.mem_range.mp hj) hi
  rw [← prod3, ← hS, ← wS] at hk
  exact getD_map_lt modSq _ _ default default hk

/-- `complex_dot_product(a, b, [d])` over a single axis is `reduce_operator(b, a, d)` -/
theorem cdotT_singleton (a b : Tensor (Cpx R)) (d : Int) : cdotT a b [d] = reduceOp b a d := by
  unfold cdotT reduceOp sumAxes
  simp only [List.map_cons, List.map_nil, sortDesc, List.filter_nil, List.nil_append, List.append_nil,
    List.foldl_cons, List.foldl_nil]
  unfold sumAxis
  rw [Int.ofNat_eq_natCast, normAxis_nonneg]

end Ops

section Views
variable {R : Type}

theorem pairs_unpairs (zs : List (Cpx R)) : pairs (unpairs zs) = zs := by
  induction zs with
  | nil => rfl
  | cons z zs ih =>
    show pairs (z.re :: z.im :: unpairs zs) = _
    rw [pairs, ih]

theorem pairs_getElem? (D : List R) (o : Nat) :
    (pairs D)[o]? = match D[2 * o]?, D[2 * o + 1]? with | some a, some b => some ⟨a, b⟩ | _, _ => none := by
  induction D using pairs.induct generalizing o with
  | case1 a b rest ih =>
    cases o with
    | zero => rfl
    | succ o => show (pairs rest)[o]? = _; rw [ih o]; rfl
  | case2 D h =>
    match D, h with
    | [], _ => rfl
    | [_], _ => cases o <;> rfl
    | a :: b :: rest, h => exact (h a b rest rfl).elim

theorem pairs_length (D : List R) : (pairs D).length = D.length / 2 := by
  induction D using pairs.induct with
  | case1 a b rest ih => show (pairs rest).length + 1 = (rest.length + 1 + 1) / 2; rw [ih]; omega
  | case2 D h =>
    match D, h with
    | [], _ => exact (Nat.zero_div 2).symm
    | [_], _ => exact (Nat.div_eq_of_lt (Nat.lt_succ_self 1)).symm
    | a :: b :: rest, h => exact (h a b rest rfl).elim

theorem unpairs_pairs (xs : List R) (h : xs.length % 2 = 0) : unpairs (pairs xs) = xs := by
  induction xs using pairs.induct with
  | case1 a b rest ih =>
    show a :: b :: unpairs (pairs rest) = _
    rw [ih (by simp only [List.length_cons] at h; omega)]
  | case2 D hD =>
    match D, hD, h with
    | [], _, _ => rfl
    | a :: b :: rest, hD, _ => exact (hD a b rest rfl).elim

theorem viewAsComplex_viewAsReal (t : Tensor (Cpx R)) : viewAsComplex (viewAsReal t) = some t := by
  unfold viewAsComplex viewAsReal
  simp [pairs_unpairs]

/-- for a well-formed tensor whose last axis has length 2 (`view_as_complex` is defined exactly then) -/
theorem viewAsReal_viewAsComplex (t : Tensor R) (z : Tensor (Cpx R)) (h : viewAsComplex t = some z)
    (w : t.data.length = prod t.shape) : viewAsReal z = t := by
  unfold viewAsComplex at h
  split at h
  · next h2 =>
    cases h
    obtain ⟨ys, hys⟩ := List.getLast?_eq_some_iff.mp h2
    have hl : t.data.length % 2 = 0 := by
      rw [w, hys, prod_append, prod_cons, prod_nil, Nat.mul_one, Nat.mul_mod_left]
    have hs : t.shape.dropLast ++ [2] = t.shape := by rw [hys, List.dropLast_concat]
    show (⟨t.shape.dropLast ++ [2], unpairs (pairs t.data)⟩ : Tensor R) = t
    rw [hs, unpairs_pairs t.data hl]
  · cases h

theorem viewAsComplex_isSome_iff (t : Tensor R) : (viewAsComplex t).isSome = true ↔ t.shape.getLast? = some 2 := by
  unfold viewAsComplex; split <;> simp_all

end Views

section RealLayout
variable {R : Type} [Add R] [Mul R] [Zero R] [Inhabited R]

/-- `(data ** 2).sum(-1)` on a well-formed `(…, 2)` tensor (`add_zero`: the only law of the scalars that is used —
`List.sum` ends in `+ 0`) -/
theorem modSqAxis_last (t : Tensor R) (z : Tensor (Cpx R)) (h : viewAsComplex t = some z)
    (w : t.data.length = prod t.shape) (add_zero : ∀ b : R, b + 0 = b) :
    modSqAxis t (-1) = modSqT z := by
  unfold viewAsComplex at h
  split at h
  · next h2 =>
    cases h
    obtain ⟨ys, hys⟩ := List.getLast?_eq_some_iff.mp h2
    have hl : t.data.length = prod ys * 2 := by rw [w, hys, prod_append, prod_cons, prod_nil, Nat.mul_one]
    obtain ⟨h1, h2', h3⟩ := sumAxis_spec (mapT (fun x => x * x) t) ys [] 2 (-1) (by simp [mapT, hys])
      (by unfold normAxis; simp; omega)
    rw [List.append_nil] at h1
    rw [prod_nil, Nat.mul_one] at h2'
    suffices hd : (sumAxis (mapT (fun x => x * x) t) (-1)).data = (pairs t.data).map modSq by
      show sumAxis (mapT (fun x => x * x) t) (-1) = ⟨t.shape.dropLast, (pairs t.data).map modSq⟩
      rw [hys, List.dropLast_concat, ← h1, ← hd]
    apply ext_getD _ _ default
    · rw [h2', List.length_map, pairs_length, hl, Nat.mul_div_cancel _ (by decide)]
    · intro o ho
      rw [h2'] at ho
      have hb : 2 * o + 1 < t.data.length := by omega
      have := h3 o 0 ho Nat.one_pos
      rw [prod_nil, Nat.mul_one, Nat.add_zero] at this
      -- entry `o` of either side is `D[2o]² + D[2o+1]²`
      rw [this]
      simp only [pos3, mapT, List.range_succ, List.range_zero, List.nil_append, List.map_cons, List.map_nil,
        List.cons_append, List.sum_cons, List.sum_nil, add_zero, Nat.mul_one, Nat.add_zero,
        List.getD_eq_getElem?_getD, List.getElem?_map, pairs_getElem?, Nat.mul_comm o 2,
        List.getElem?_eq_getElem hb, List.getElem?_eq_getElem (Nat.lt_of_succ_lt hb), Option.map_some, Option.getD_some,
        modSq]
  · cases h

/-- `root_sum_of_squares(data, dim)²` on the real layout: what the driver's `rss` op runs -/
theorem rssSqReal_eq_rssSqT (t : Tensor R) (z : Tensor (Cpx R)) (h : viewAsComplex t = some z)
    (w : t.data.length = prod t.shape) (add_zero : ∀ b : R, b + 0 = b) (dim : Int) :
    rssSqReal t dim (-1) = rssSqT z dim := by
  have hl : t.shape.getLast? = some 2 := (viewAsComplex_isSome_iff t).mp (by rw [h]; rfl)
  have := modSqAxis_last t z h w add_zero
  unfold rssSqReal rssSqT
  rw [if_pos hl]
  unfold modSqAxis at this
  rw [this]

end RealLayout

end DirectVerif.C02T
