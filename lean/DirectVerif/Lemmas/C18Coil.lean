import DirectVerif.Model.BatchSep
/-!
Coil reordering for C18.  `gather σ xs` reorders a coil list (`σ` = old index of every new position).  Per-coil maps,
element-wise combinations of coil tensors and broadcasts of an image commute with `gather` for every index list `σ`; a coil
sum is unchanged when `σ` is a permutation of `0 … n−1` and the addition is commutative and associative.  Hence coil-valued
expressions (`CExpr`) are equivariant and image-valued ones (`IExpr`) invariant; the two statements need each other
(`bcast` contains an `IExpr`, `sum` a `CExpr`).
-/
namespace DirectVerif.C18
open DirectVerif DirectVerif.BatchSep

theorem gather_eq_map {α : Type} [Inhabited α] (σ : List Nat) (xs : List α) (h : ∀ i ∈ σ, i < xs.length) :
    gather σ xs = σ.map fun i => xs.getD i default := by
  unfold gather
  induction σ with
  | nil => rfl
  | cons i σ ih =>
    have hi : i < xs.length := h i (by simp)
    simp only [List.filterMap_cons, List.getElem?_eq_getElem hi, List.map_cons, List.getD_eq_getElem?_getD, Option.getD_some]
    rw [ih fun j hj => h j (by simp [hj])]
    simp [List.getD_eq_getElem?_getD]

theorem gather_length {α : Type} (σ : List Nat) (xs : List α) (h : ∀ i ∈ σ, i < xs.length) : (gather σ xs).length = σ.length := by
  unfold gather
  induction σ with
  | nil => rfl
  | cons i σ ih =>
    have hi : i < xs.length := h i (by simp)
    simp only [List.filterMap_cons, List.getElem?_eq_getElem hi, List.length_cons]
    rw [ih fun j hj => h j (by simp [hj])]

theorem gather_map {α β : Type} (f : α → β) (σ : List Nat) (xs : List α) : gather σ (xs.map f) = (gather σ xs).map f := by
  unfold gather
  rw [List.map_filterMap]
  simp only [List.getElem?_map]

theorem gather_zipWith {α β γ : Type} (g : α → β → γ) (σ : List Nat) (as : List α) (bs : List β) (hl : as.length = bs.length) :
    gather σ (List.zipWith g as bs) = List.zipWith g (gather σ as) (gather σ bs) := by
  unfold gather
  induction σ with
  | nil => rfl
  | cons i σ ih =>
    rw [List.filterMap_cons, List.filterMap_cons, List.filterMap_cons, ih, List.getElem?_zipWith]
    by_cases hi : i < as.length
    · have hi' : i < bs.length := hl ▸ hi
      rw [List.getElem?_eq_getElem hi, List.getElem?_eq_getElem hi']
      rfl
    · have hi' : ¬ i < bs.length := hl ▸ hi
      rw [List.getElem?_eq_none (Nat.le_of_not_lt hi), List.getElem?_eq_none (Nat.le_of_not_lt hi')]

theorem foldr_perm {D : Type} (add : D → D → D) (zero : D) (hc : ∀ a b, add a b = add b a)
    (ha : ∀ a b c, add (add a b) c = add a (add b c)) {p q : List D} (h : p.Perm q) : p.foldr add zero = q.foldr add zero := by
  induction h with
  | nil => rfl
  | cons x _ ih => simp only [List.foldr_cons, ih]
  | swap x y l => simp only [List.foldr_cons]; rw [← ha, ← ha, hc y x]
  | trans _ _ ih1 ih2 => exact ih1.trans ih2

theorem gather_perm {α : Type} (σ : List Nat) (xs : List α) (hσ : σ.Perm (List.range xs.length)) : (gather σ xs).Perm xs := by
  have hid : ∀ xs : List α, gather (List.range xs.length) xs = xs := fun xs => by
    unfold gather
    induction xs with
    | nil => rfl
    | cons a t ih =>
      rw [List.length_cons, List.range_succ_eq_map, List.filterMap_cons, List.filterMap_map]
      exact congrArg (a :: ·) ih
  have h1 : (gather σ xs).Perm (gather (List.range xs.length) xs) := hσ.filterMap _
  rwa [hid] at h1

theorem cexpr_length {D : Type} (add : D → D → D) (zero : D) (e : CExpr D) (inp : List (D × D)) :
    (e.eval add zero inp).length = inp.length := by
  cases e with
  | k => simp [CExpr.eval]
  | s => simp [CExpr.eval]
  | perCoil f e => simp [CExpr.eval, cexpr_length add zero e inp]
  | zip g a b => simp [CExpr.eval, cexpr_length add zero a inp, cexpr_length add zero b inp]
  | bcast g i e => simp [CExpr.eval, cexpr_length add zero e inp]

mutual
theorem cexpr_equivariant {D : Type} (add : D → D → D) (zero : D) (hc : ∀ a b, add a b = add b a)
    (ha : ∀ a b c, add (add a b) c = add a (add b c)) (e : CExpr D) (σ : List Nat) (inp : List (D × D))
    (hσ : σ.Perm (List.range inp.length)) : e.eval add zero (gather σ inp) = gather σ (e.eval add zero inp) := by
  cases e with
  | k => simp [CExpr.eval, gather_map]
  | s => simp [CExpr.eval, gather_map]
  | perCoil f e => simp [CExpr.eval, gather_map, cexpr_equivariant add zero hc ha e σ inp hσ]
  | zip g a b =>
    simp only [CExpr.eval]
    rw [cexpr_equivariant add zero hc ha a σ inp hσ, cexpr_equivariant add zero hc ha b σ inp hσ,
      gather_zipWith g σ _ _ (by rw [cexpr_length, cexpr_length])]
  | bcast g i e =>
    simp only [CExpr.eval]
    rw [cexpr_equivariant add zero hc ha e σ inp hσ, iexpr_invariant add zero hc ha i σ inp hσ, gather_map]
theorem iexpr_invariant {D : Type} (add : D → D → D) (zero : D) (hc : ∀ a b, add a b = add b a)
    (ha : ∀ a b c, add (add a b) c = add a (add b c)) (i : IExpr D) (σ : List Nat) (inp : List (D × D))
    (hσ : σ.Perm (List.range inp.length)) : i.eval add zero (gather σ inp) = i.eval add zero inp := by
  cases i with
  | sum e =>
    simp only [IExpr.eval]
    rw [cexpr_equivariant add zero hc ha e σ inp hσ]
    apply foldr_perm add zero hc ha
    have := gather_perm σ (e.eval add zero inp) (by rw [cexpr_length]; exact hσ)
    exact this
  | const d => rfl
  | op f i => simp [IExpr.eval, iexpr_invariant add zero hc ha i σ inp hσ]
  | op2 g a b => simp [IExpr.eval, iexpr_invariant add zero hc ha a σ inp hσ, iexpr_invariant add zero hc ha b σ inp hσ]
end

end DirectVerif.C18
