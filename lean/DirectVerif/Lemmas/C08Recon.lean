import DirectVerif.Lemmas.C08Sound
import DirectVerif.Lemmas.C08Consist
/-!
# C08 — `ComputeImage` commutes with a positive scalar normalisation

Every reconstruction type is homogeneous of degree 1 in the k-space, and dividing by a one-entry non-zero scaling
factor is scaling by its inverse: the target of the pre/post pair, `ComputeImage(kfull) / s`, *is* the reconstruction
of the normalised k-space.
-/
set_option linter.unusedSectionVars false
namespace DirectVerif.Pipeline
variable {K : Type} [Field K] [LinearOrder K] [IsStrictOrderedRing K]
variable {sqrt : K → K}
local notation "S" => fieldOps sqrt

theorem mapIdxAux_const (f : K → K) (n : Nat) (xs : List K) : mapIdxAux (fun _ a => f a) n xs = xs.map f := by
  induction xs generalizing n with
  | nil => rfl
  | cons a t ih => simp [mapIdxAux, ih]

theorem safeDiv_scalar (X : Ext K) (m : Meta) (sf x : Val K) (s : K) (hsf : sf.data = [s]) (hs0 : s ≠ 0) :
    evalOp S X m .safeDiv [sf, x] = scaleV s⁻¹ x := by
  have hb : ∀ i, bget S sf.data x.stride i = s := by
    intro i; simp [bget, hsf, Nat.mod_one]
  simp only [evalOp, scaleV, Val.map, mapIdx]
  congr 1
  rw [mapIdxAux_congr (g := fun _ a => s⁻¹ * a) (by
    intro i a
    simp only [hb, fo_isZero, decide_eq_true_eq, hs0, if_false, fo_div]
    rw [div_eq_inv_mul]), mapIdxAux_const]

section
variable (hs : SqrtHom sqrt) {X : Ext K} (hX : ExtHom X) (m : Meta)
include hs hX

theorem op1_scale (op : Op) (hop : opDeg op [1] = .ok 1) (q : K) (hq : 0 < q) (v : Val K) :
    evalOp S X m op [scaleV q v] = scaleV q (evalOp S X m op [v]) := by
  have := evalOp_hom hs hX q hq m op [1] [v] 1 rfl hop
  simpa [zpow_one] using this

theorem reconVal_scale (r : Recon) (q : K) (hq : 0 < q) (k smap : Val K) :
    reconVal S X m r (scaleV q k) smap = scaleV q (reconVal S X m r k smap) := by
  have hb := op1_scale hs hX m (.lin .bwd) rfl q hq k
  have hsense : ∀ img : Val K, evalOp S X m .senseCombine [smap, scaleV q img] = scaleV q (evalOp S X m .senseCombine [smap, img]) := by
    intro img
    have := evalOp_hom hs hX q hq m .senseCombine [0, 1] [smap, img] 1 rfl rfl
    simpa [zpow_one, zpow_zero] using this
  cases r <;> simp only [reconVal, hb]
  · exact op1_scale hs hX m .rss rfl q hq _
  · exact op1_scale hs hX m .sumCoils rfl q hq _
  · rw [op1_scale hs hX m .sumCoils rfl q hq _]; exact op1_scale hs hX m .modulus rfl q hq _
  · exact hsense _
  · rw [hsense]; exact op1_scale hs hX m .modulus rfl q hq _

theorem recon_normalise_comm (r : Recon) (sf k smap : Val K) (s : K) (hsf : sf.data = [s]) (hpos : 0 < s) :
    evalOp S X m .safeDiv [sf, reconVal S X m r k smap]
      = reconVal S X m r (evalOp S X m .safeDiv [sf, k]) smap := by
  rw [safeDiv_scalar X m sf _ s hsf hpos.ne', safeDiv_scalar X m sf k s hsf hpos.ne',
    reconVal_scale hs hX m r s⁻¹ (inv_pos.mpr hpos) k smap]

end
end DirectVerif.Pipeline
