import DirectVerif.Lemmas.TensorLift
import DirectVerif.Props.C01
/-!
# n-D corollaries of the 1-D C01 theorems, through the lifting laws of `Lemmas/TensorLift.lean`
-/
namespace DirectVerif.TensorLift
open DirectVerif DirectVerif.Tensor
variable {α : Type} [Inhabited α]

/-- so `alongAxis_comm_gather` needs a hypothesis of its kind: scaling every column by its first entry and shifting every
row by its first entry, on a 2×2 tensor -/
theorem alongAxis_comm_fails_in_general :
    ∃ (t : Tensor Nat) (f g : List Nat → List Nat), LenUniform f 2 2 ∧ LenUniform g 2 2 ∧
      (t.alongAxis 0 f).alongAxis 1 g ≠ (t.alongAxis 1 g).alongAxis 0 f := by
  refine ⟨⟨[2, 2], [1, 2, 3, 4]⟩, fun xs => xs.map (· * xs.headD 0), fun xs => xs.map (· + xs.headD 0),
    fun xs h => by simpa using h, fun xs h => by simpa using h, ?_⟩
  simp only [alongAxis_eq_alongAxisL]
  decide

theorem rollOne_isGather (s : Int) (n : Nat) (c : α) :
    IsGather (Shift.rollOne s) n n (fun k => some ((k + n - (s % (n : Int)).toNat) % n)) c := by
  apply IsGather.of_getElem? (fun k => (k + n - (s % (n : Int)).toNat) % n) c
  · intro xs hxs; rw [C01L.rollOne_length, hxs]
  · intro k hk; exact Nat.mod_lt _ (by omega)
  · intro xs hxs k hk
    subst hxs
    exact C01L.rollOne_getElem? s xs k hk

/-- **C01, n-D**: a roll whose amount is computed from the axis length (a fixed roll, `fftshift1`, `ifftshift1`) commutes
with *any* length-uniform operation along a different axis: it is an index gather without fill -/
theorem shift_comm_nd (amt : Int → Int) (op : List α → List α) (hop : ∀ xs : List α, op xs = Shift.rollOne (amt xs.length) xs)
    (t : Tensor α) (a b : Nat) (g : List α → List α) (mb : Nat)
    (hne : a ≠ b) (ha : a < t.shape.length) (hb : b < t.shape.length)
    (hg : LenUniform g (t.shape.getD b 1) mb) :
    (t.alongAxis a op).alongAxis b g = (t.alongAxis b g).alongAxis a op :=
  alongAxis_comm_gather t a b _ g _ mb _ default hne ha hb
    ((rollOne_isGather (amt (t.shape.getD a 1)) _ default).congr fun xs hxs => by rw [hop, hxs]) hg
    (fun ⟨_, _, h⟩ => by cases h)

theorem roll_comm_nd (t : Tensor α) (a b : Nat) (s : Int) (g : List α → List α) (mb : Nat)
    (hne : a ≠ b) (ha : a < t.shape.length) (hb : b < t.shape.length)
    (hg : LenUniform g (t.shape.getD b 1) mb) :
    (t.alongAxis a (Shift.rollOne s)).alongAxis b g = (t.alongAxis b g).alongAxis a (Shift.rollOne s) :=
  shift_comm_nd (fun _ => s) _ (fun _ => rfl) t a b g mb hne ha hb hg

open DirectVerif.Fft DirectVerif.C01

def WF (s : List Nat) (t : Tensor α) : Prop := t.data.length = prod t.shape ∧ t.shape = s

theorem WF.alongAxis {s : List Nat} {t : Tensor α} (h : WF s t) (d : Nat) (hd : d < s.length)
    (f : List α → List α) (hf : LenUniform f (s.getD d 1) (s.getD d 1)) : WF s (t.alongAxis d f) := by
  obtain ⟨hwf, hs⟩ := h
  subst hs
  refine ⟨alongAxis_wellFormed t d f _ hd hf, ?_⟩
  rw [alongAxis_shape t d f _ hf, set_getD_self]

omit [Inhabited α] in
theorem lenUniform_rollOne (s : Int) (n : Nat) : LenUniform (Shift.rollOne (α := α) s) n n :=
  fun xs hxs => by rw [C01L.rollOne_length, hxs]
omit [Inhabited α] in
theorem lenUniform_fftshift1 (n : Nat) : LenUniform (Shift.fftshift1 (α := α)) n n :=
  fun xs hxs => by rw [C01.fftshift1_length, hxs]
omit [Inhabited α] in
theorem lenUniform_ifftshift1 (n : Nat) : LenUniform (Shift.ifftshift1 (α := α)) n n :=
  fun xs hxs => by rw [C01.ifftshift1_length, hxs]

theorem roll_eq_applyAxes (s : List Nat) (amt : Int → Int) (op : List α → List α)
    (hop : ∀ xs : List α, op xs = Shift.rollOne (amt xs.length) xs)
    (dims : List Nat) (hr : ∀ d ∈ dims, d < s.length) (t : Tensor α) (ht : WF s t) :
    Shift.roll t (dims.map fun d => amt (s.getD d 1)) dims = applyAxes (fun d t => t.alongAxis d op) dims t := by
  induction dims generalizing t with
  | nil => rfl
  | cons d ds ih =>
    have hd := hr d (List.mem_cons_self ..)
    have hstep : t.alongAxis d (Shift.rollOne (amt (s.getD d 1))) = t.alongAxis d op :=
      alongAxis_congr t d _ _ (fun xs hxs => by rw [hop, hxs, ht.2])
    have hwf' : WF s (t.alongAxis d op) := ht.alongAxis d hd op (fun xs hxs => by rw [hop, C01L.rollOne_length, hxs])
    have := ih (fun d' hd' => hr d' (List.mem_cons_of_mem _ hd')) (t.alongAxis d op) hwf'
    simp only [Shift.roll, List.map_cons, List.zip_cons_cons, List.foldl_cons, applyAxes_cons] at this ⊢
    rw [hstep]; exact this

theorem fftshift_eq_applyAxes (s : List Nat) (dims : List Nat) (hr : ∀ d ∈ dims, d < s.length)
    (t : Tensor α) (ht : WF s t) :
    Shift.fftshift t dims = applyAxes (fun d t => t.alongAxis d Shift.fftshift1) dims t := by
  have := roll_eq_applyAxes s Shift.fftshiftAmount Shift.fftshift1 (fun _ => rfl) dims hr t ht
  rw [← this, Shift.fftshift, ht.2]

theorem ifftshift_eq_applyAxes (s : List Nat) (dims : List Nat) (hr : ∀ d ∈ dims, d < s.length)
    (t : Tensor α) (ht : WF s t) :
    Shift.ifftshift t dims = applyAxes (fun d t => t.alongAxis d Shift.ifftshift1) dims t := by
  have := roll_eq_applyAxes s Shift.ifftshiftAmount Shift.ifftshift1 (fun _ => rfl) dims hr t ht
  rw [← this, Shift.ifftshift, ht.2]

theorem WF.applyAxes {s : List Nat} (op : Nat → List α → List α) (dims : List Nat)
    (hr : ∀ d ∈ dims, d < s.length) (hop : ∀ d ∈ dims, LenUniform (op d) (s.getD d 1) (s.getD d 1))
    {t : Tensor α} (ht : WF s t) : WF s (applyAxes (fun d t => t.alongAxis d (op d)) dims t) := by
  induction dims generalizing t with
  | nil => exact ht
  | cons d ds ih =>
    rw [applyAxes_cons]
    exact ih (fun d' hd' => hr d' (List.mem_cons_of_mem _ hd')) (fun d' hd' => hop d' (List.mem_cons_of_mem _ hd'))
      (ht.alongAxis d (hr d (List.mem_cons_self ..)) _ (hop d (List.mem_cons_self ..)))

theorem WF.alongAxis_comp {s : List Nat} {x : Tensor α} (hx : WF s x) (d : Nat) (hd : d < s.length) (f g : List α → List α)
    (hf : LenUniform f (s.getD d 1) (s.getD d 1)) (hg : LenUniform g (s.getD d 1) (s.getD d 1)) :
    (x.alongAxis d f).alongAxis d g = x.alongAxis d (g ∘ f) :=
  TensorLift.alongAxis_comp x d f g _ _ (by rw [hx.2]; exact hd) (by rw [hx.2]; exact hf) hg

/-- two sweeps over the same duplicate-free axis list fuse into one sweep of the composed operators, when the second
family commutes with the first across *different* axes -/
theorem applyAxes_fuse (s dims : List Nat) (hnd : dims.Nodup) (hr : ∀ d ∈ dims, d < s.length)
    (p q : Nat → List α → List α)
    (hp : ∀ d ∈ dims, LenUniform (p d) (s.getD d 1) (s.getD d 1))
    (hq : ∀ d ∈ dims, LenUniform (q d) (s.getD d 1) (s.getD d 1))
    (hcomm : ∀ d ∈ dims, ∀ d' ∈ dims, d ≠ d' → ∀ x : Tensor α, WF s x →
      (x.alongAxis d' (p d')).alongAxis d (q d) = (x.alongAxis d (q d)).alongAxis d' (p d'))
    (t : Tensor α) (ht : WF s t) :
    applyAxes (fun d u => u.alongAxis d (q d)) dims (applyAxes (fun d u => u.alongAxis d (p d)) dims t) =
      applyAxes (fun d u => u.alongAxis d (q d ∘ p d)) dims t := by
  induction dims generalizing t with
  | nil => rfl
  | cons d ds ih =>
    rw [List.nodup_cons] at hnd
    have hd := List.mem_cons_self (a := d) (l := ds)
    have hdr := hr d hd
    have hpt : WF s (t.alongAxis d (p d)) := ht.alongAxis d hdr _ (hp d hd)
    rw [applyAxes_cons, applyAxes_cons, applyAxes_cons]
    -- move the `q d` of the second sweep back through the rest of the first sweep, next to `p d`
    have hmove : (applyAxes (fun d u => u.alongAxis d (p d)) ds (t.alongAxis d (p d))).alongAxis d (q d) =
        applyAxes (fun d u => u.alongAxis d (p d)) ds ((t.alongAxis d (p d)).alongAxis d (q d)) :=
      applyAxes_comm_on (WF s) (fun u => u.alongAxis d (q d)) (fun d u => u.alongAxis d (p d)) ds
        (fun d' hd' x hx => hx.alongAxis d' (hr d' (List.mem_cons_of_mem _ hd')) _ (hp d' (List.mem_cons_of_mem _ hd')))
        (fun d' hd' x hx => hcomm d hd d' (List.mem_cons_of_mem _ hd') (fun e => hnd.1 (e ▸ hd')) x hx)
        _ hpt
    rw [hmove, ht.alongAxis_comp d hdr _ _ (hp d hd) (hq d hd)]
    exact ih hnd.2 (fun d' h' => hr d' (List.mem_cons_of_mem _ h')) (fun d' h' => hp d' (List.mem_cons_of_mem _ h'))
      (fun d' h' => hq d' (List.mem_cons_of_mem _ h'))
      (fun a ha b hb => hcomm a (List.mem_cons_of_mem _ ha) b (List.mem_cons_of_mem _ hb))
      _ (ht.alongAxis d hdr _ (fun xs hxs => by rw [Function.comp, hq d hd _ (hp d hd xs hxs)]))

theorem WF.fftshift {s : List Nat} {t : Tensor α} (ht : WF s t) (dims : List Nat) (hr : ∀ d ∈ dims, d < s.length) :
    WF s (Shift.fftshift t dims) := by
  rw [fftshift_eq_applyAxes s dims hr t ht]
  exact WF.applyAxes (fun _ => Shift.fftshift1) dims hr (fun d _ => lenUniform_fftshift1 _) ht

theorem WF.ifftshift {s : List Nat} {t : Tensor α} (ht : WF s t) (dims : List Nat) (hr : ∀ d ∈ dims, d < s.length) :
    WF s (Shift.ifftshift t dims) := by
  rw [ifftshift_eq_applyAxes s dims hr t ht]
  exact WF.applyAxes (fun _ => Shift.ifftshift1) dims hr (fun d _ => lenUniform_ifftshift1 _) ht

theorem applyAxes_lift_cancel (s dims : List Nat) (hnd : dims.Nodup) (hr : ∀ d ∈ dims, d < s.length)
    (p q : Nat → List α → List α)
    (hp : ∀ d ∈ dims, LenUniform (p d) (s.getD d 1) (s.getD d 1))
    (hq : ∀ d ∈ dims, LenUniform (q d) (s.getD d 1) (s.getD d 1))
    (hqp : ∀ d ∈ dims, ∀ xs : List α, xs.length = s.getD d 1 → q d (p d xs) = xs)
    (hcomm : ∀ d ∈ dims, ∀ d' ∈ dims, d ≠ d' → ∀ x : Tensor α, WF s x →
      (x.alongAxis d' (p d')).alongAxis d (q d) = (x.alongAxis d (q d)).alongAxis d' (p d'))
    (t : Tensor α) (ht : WF s t) :
    applyAxes (fun d t => t.alongAxis d (q d)) dims (applyAxes (fun d t => t.alongAxis d (p d)) dims t) = t :=
  applyAxes_cancel_on (WF s) _ _ dims hnd
    (fun d hd x hx => hx.alongAxis d (hr d hd) _ (hp d hd))
    (fun d hd x hx => alongAxis_cancel x d _ _ _ hx.1 (by rw [hx.2]; exact hr d hd)
      (by rw [hx.2]; exact hp d hd) (by rw [hx.2]; exact hq d hd) (fun xs hxs => hqp d hd xs (by rw [hxs, hx.2])))
    hcomm t ht

theorem applyAxes_shift_cancel (s dims : List Nat) (hnd : dims.Nodup) (hr : ∀ d ∈ dims, d < s.length)
    (amtP amtQ : Int → Int) (p q : List α → List α)
    (hp : ∀ xs : List α, p xs = Shift.rollOne (amtP xs.length) xs) (hq : ∀ xs : List α, q xs = Shift.rollOne (amtQ xs.length) xs)
    (hqp : ∀ xs : List α, q (p xs) = xs) (t : Tensor α) (ht : WF s t) :
    applyAxes (fun d t => t.alongAxis d q) dims (applyAxes (fun d t => t.alongAxis d p) dims t) = t := by
  have lp : ∀ n, LenUniform p n n := fun n xs hxs => by rw [hp, C01L.rollOne_length, hxs]
  have lq : ∀ n, LenUniform q n n := fun n xs hxs => by rw [hq, C01L.rollOne_length, hxs]
  exact applyAxes_lift_cancel s dims hnd hr (fun _ => p) (fun _ => q) (fun _ _ => lp _) (fun _ _ => lq _) (fun _ _ xs _ => hqp xs)
    (fun d hd d' hd' hne x hx =>
      (shift_comm_nd amtQ q hq x d d' p _ hne (by rw [hx.2]; exact hr d hd) (by rw [hx.2]; exact hr d' hd') (lp _)).symm)
    t ht

/-- **C01, n-D**: the model's `fftshift(ifftshift(t, dims), dims) = t` on every well-formed tensor -/
theorem fftshift_ifftshift_id_dims (t : Tensor α) (dims : List Nat) (hnd : dims.Nodup)
    (hwf : t.data.length = prod t.shape) (hr : ∀ d ∈ dims, d < t.shape.length) :
    Shift.fftshift (Shift.ifftshift t dims) dims = t := by
  have ht : WF t.shape t := ⟨hwf, rfl⟩
  rw [fftshift_eq_applyAxes t.shape dims hr _ (ht.ifftshift dims hr), ifftshift_eq_applyAxes t.shape dims hr t ht]
  exact applyAxes_shift_cancel t.shape dims hnd hr Shift.ifftshiftAmount Shift.fftshiftAmount _ _ (fun _ => rfl) (fun _ => rfl)
    C01.fftshift_ifftshift_id t ht

theorem ifftshift_fftshift_id_dims (t : Tensor α) (dims : List Nat) (hnd : dims.Nodup)
    (hwf : t.data.length = prod t.shape) (hr : ∀ d ∈ dims, d < t.shape.length) :
    Shift.ifftshift (Shift.fftshift t dims) dims = t := by
  have ht : WF t.shape t := ⟨hwf, rfl⟩
  rw [ifftshift_eq_applyAxes t.shape dims hr _ (ht.fftshift dims hr), fftshift_eq_applyAxes t.shape dims hr t ht]
  exact applyAxes_shift_cancel t.shape dims hnd hr Shift.fftshiftAmount Shift.ifftshiftAmount _ _ (fun _ => rfl) (fun _ => rfl)
    C01.ifftshift_fftshift_id t ht

theorem shift_fftshift_ifftshift_id (t : Tensor α) (d : Nat)
    (hwf : t.data.length = prod t.shape) (hd : d < t.shape.length) :
    Shift.fftshift (Shift.ifftshift t [d]) [d] = t :=
  fftshift_ifftshift_id_dims t [d] (by simp) hwf (by simpa using hd)

theorem shift_ifftshift_fftshift_id (t : Tensor α) (d : Nat)
    (hwf : t.data.length = prod t.shape) (hd : d < t.shape.length) :
    Shift.ifftshift (Shift.fftshift t [d]) [d] = t :=
  ifftshift_fftshift_id_dims t [d] (by simp) hwf (by simpa using hd)

/-- `C01.Lawful` on the elements satisfying an invariant `P` that every operation preserves -/
structure LawfulOn {X} (P : X → Prop) (B : Backend X) : Prop where
  pI : ∀ x, P x → P (B.ishift x)
  pS : ∀ x, P x → P (B.fshift x)
  pF : ∀ inv nm x, P x → P (B.transform inv nm x)
  pC : ∀ x, P x → P (B.viewComplex x)
  pR : ∀ x, P x → P (B.viewReal x)
  fshift_ishift : ∀ x, P x → B.fshift (B.ishift x) = x
  ishift_fshift : ∀ x, P x → B.ishift (B.fshift x) = x
  inv_fwd : ∀ nm x, P x → B.transform true nm (B.transform false nm x) = x
  fwd_inv : ∀ nm x, P x → B.transform false nm (B.transform true nm x) = x
  viewC_viewR : ∀ x, P x → B.viewComplex (B.viewReal x) = x
  viewR_viewC : ∀ x, P x → B.viewReal (B.viewComplex x) = x

theorem ifft2_fft2_id_of_lawfulOn {X} {P : X → Prop} {B : Backend X} (h : LawfulOn P B) (cfg : Cfg)
    (x : X) (hx : P x) : ifft2 B cfg (fft2 B cfg x) = x ∧ fft2 B cfg (ifft2 B cfg x) = x := by
  simp only [fft2_def, ifft2_def, runData_stdPlan]
  cases cfg.centered <;> cases cfg.complexInput <;>
    simp (maxDischargeDepth := 12) only [↓reduceIte, Bool.false_eq_true, id, h.fshift_ishift, h.ishift_fshift, h.inv_fwd,
      h.fwd_inv, h.viewC_viewR, h.viewR_viewC, h.pI, h.pS, h.pF, h.pC, hx, and_self]

/-- what is assumed of the 1-D transform family `F inverse norm axis`; `comm` is true of the DFT (linear on fibres),
false for arbitrary functions (`alongAxis_comm_fails_in_general`) -/
structure TransformLaws (s : List Nat) (dims : List Nat) (F : Bool → Norm → Nat → List α → List α) : Prop where
  len : ∀ inv nm, ∀ d ∈ dims, LenUniform (F inv nm d) (s.getD d 1) (s.getD d 1)
  inv_fwd : ∀ nm, ∀ d ∈ dims, ∀ xs : List α, xs.length = s.getD d 1 → F true nm d (F false nm d xs) = xs
  fwd_inv : ∀ nm, ∀ d ∈ dims, ∀ xs : List α, xs.length = s.getD d 1 → F false nm d (F true nm d xs) = xs
  comm : ∀ nm inv inv', ∀ d ∈ dims, ∀ d' ∈ dims, d ≠ d' → ∀ t : Tensor α, WF s t →
    (t.alongAxis d' (F inv' nm d')).alongAxis d (F inv nm d) = (t.alongAxis d (F inv nm d)).alongAxis d' (F inv' nm d')

theorem tensorBackend_lawfulOn (s : List Nat) (dims : List Nat) (hnd : dims.Nodup) (hr : ∀ d ∈ dims, d < s.length)
    (F : Bool → Norm → Nat → List α → List α) (hF : TransformLaws s dims F) :
    LawfulOn (WF s) (tensorBackend F dims) where
  pI := fun _ hx => hx.ifftshift dims hr
  pS := fun _ hx => hx.fftshift dims hr
  pF := fun inv nm x hx => WF.applyAxes (F inv nm) dims hr (hF.len inv nm) hx
  pC := fun _ hx => hx
  pR := fun _ hx => hx
  fshift_ishift := fun x hx => fftshift_ifftshift_id_dims x dims hnd hx.1 (by rw [hx.2]; exact hr)
  ishift_fshift := fun x hx => ifftshift_fftshift_id_dims x dims hnd hx.1 (by rw [hx.2]; exact hr)
  inv_fwd := fun nm => applyAxes_lift_cancel s dims hnd hr (F false nm) (F true nm) (hF.len false nm) (hF.len true nm)
    (hF.inv_fwd nm) (hF.comm nm true false)
  fwd_inv := fun nm => applyAxes_lift_cancel s dims hnd hr (F true nm) (F false nm) (hF.len true nm) (hF.len false nm)
    (hF.fwd_inv nm) (hF.comm nm false true)
  viewC_viewR := fun _ _ => rfl
  viewR_viewC := fun _ _ => rfl

/-- **C01, n-D, on the backend the driver runs** (`Fft.tensorBackend`): `ifft2 ∘ fft2 = id = fft2 ∘ ifft2` for every
well-formed tensor, every duplicate-free in-range axis tuple and all 8 flag combinations -/
theorem ifft2_fft2_id_tensor (t : Tensor α) (dims : List Nat) (hnd : dims.Nodup)
    (hwf : t.data.length = prod t.shape) (hr : ∀ d ∈ dims, d < t.shape.length)
    (F : Bool → Norm → Nat → List α → List α) (hF : TransformLaws t.shape dims F) (cfg : Cfg) :
    ifft2 (tensorBackend F dims) cfg (fft2 (tensorBackend F dims) cfg t) = t ∧
    fft2 (tensorBackend F dims) cfg (ifft2 (tensorBackend F dims) cfg t) = t :=
  ifft2_fft2_id_of_lawfulOn (tensorBackend_lawfulOn t.shape dims hnd hr F hF) cfg t ⟨hwf, rfl⟩

example (s dims : List Nat) (hr : ∀ d ∈ dims, d < s.length) : TransformLaws (α := α) s dims (fun _ _ _ xs => xs) := by
  have h1 : ∀ d ∈ dims, ∀ u : Tensor α, WF s u → u.alongAxis d (fun xs => xs) = u := fun d hd u hu =>
    alongAxis_id_of u d _ hu.1 (by rw [hu.2]; exact hr d hd) (fun _ _ => rfl)
  exact ⟨fun _ _ _ _ _ h => h, fun _ _ _ _ _ => rfl, fun _ _ _ _ _ => rfl,
    fun _ _ _ d hd d' hd' _ t ht => by rw [h1 d' hd' t ht, h1 d hd t ht, h1 d' hd' t ht]⟩

example : Shift.fftshift (Shift.ifftshift (⟨[2, 3], [1, 2, 3, 4, 5, 6]⟩ : Tensor Nat) [0, 1]) [0, 1]
    = ⟨[2, 3], [1, 2, 3, 4, 5, 6]⟩ := fftshift_ifftshift_id_dims _ _ (by decide) (by decide) (by decide)

end DirectVerif.TensorLift
