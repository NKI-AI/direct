import DirectVerif.Lemmas.C11Split
import DirectVerif.Lemmas.C11Float
import DirectVerif.Lemmas.C11History
/-!
# C11 — self-supervised mask splitting is a partition that honours ratio and ACS

Statements about the executable models `Model/SslSplit.lean`, `Model/SslHistory.lean` that the driver runs, for every
mask, ACS mask, protected-region size, requested count, and every candidate stream / choice list on which the fill
returns.  The random sources (`Sources`, `Ambient`) are parameters: nothing is assumed about libc `rand()` or numpy's
`RandomState`.  Tie to the code: `Bridge/C11.lean` and the correspondence check (replay on the reconstructed libc
stream and the recorded `rng.choice` draws).
-/
namespace DirectVerif.C11
open DirectVerif DirectVerif.SslSplit

theorem gaussian_fill_subset_free {n : Int} {nrow ncol : Nat} {free : Grid} {cs : List (Int × Int)} {t : Grid}
    (h : gaussianFill n nrow ncol free (zeros free.length) cs = some t) : Sub t free ∧ t.length = free.length :=
  ⟨(fill_some h).2.1, (fill_some h).1⟩

/-- `n + 1`, not `n`: the guard is `while count <= n` -/
theorem gaussian_fill_count {n : Int} {nrow ncol : Nat} {free : Grid} {cs : List (Int × Int)} {t : Grid}
    (h : gaussianFill n nrow ncol free (zeros free.length) cs = some t) : cnt t = (n + 1).toNat :=
  (fill_some h).2.2

/-- the hang before the repair: an infeasible request has not returned after any prefix of any candidate stream -/
theorem gaussian_fill_diverges_if_infeasible (c : Int) (nrow ncol : Nat) (free : Grid)
    (h : (cnt free : Int) < c + 1) : ∀ cs, gaussianFillPinned c nrow ncol free cs = none :=
  fun cs => fill_none_of_infeasible cs h

theorem gaussian_fill_terminates_iff (n : Int) (nrow ncol : Nat) (free : Grid) (cs : List (Int × Int))
    (hc : Covers nrow ncol free cs) :
    (gaussianFill n nrow ncol free (zeros free.length) cs).isSome = true ↔ n + 1 ≤ (cnt free : Int) := by
  constructor
  · intro h
    apply Classical.byContradiction
    intro hn
    rw [fill_none_of_infeasible cs (by omega)] at h
    cases h
  · exact fill_some_of_covers hc

/-- termination of a feasible request; `hs` holds in particular for every fair stream -/
theorem gaussian_fill_terminates (n : Int) (nrow ncol : Nat) (free : Grid) (s : Nat → Int × Int)
    (hs : ∀ k, cell free k = true → ∃ m, InRange nrow ncol (s m) ∧ flatIdx ncol (s m) = k)
    (hf : n + 1 ≤ (cnt free : Int)) :
    ∃ fuel, (gaussianFill n nrow ncol free (zeros free.length) (streamPrefix s fuel)).isSome = true := by
  obtain ⟨fuel, hc⟩ := covering_prefix s hs
  exact ⟨fuel, fill_some_of_covers hc hf⟩

theorem gaussian_fill_terminates_within (n : Int) (nrow ncol : Nat) (free : Grid) (s : Nat → Int × Int) (W : Nat)
    (hc : Covers nrow ncol free (streamPrefix s W)) (hf : n + 1 ≤ (cnt free : Int)) :
    ∃ t, gaussianFill n nrow ncol free (zeros free.length) (streamPrefix s W) = some t ∧
      ∀ more, gaussianFill n nrow ncol free (zeros free.length) (streamPrefix s W ++ more) = some t := by
  have h := fill_some_of_covers (n := n) hc hf
  cases hg : gaussianFill n nrow ncol free (zeros free.length) (streamPrefix s W) with
  | none => rw [hg] at h; cases h
  | some t => exact ⟨t, rfl, fun more => gaussianFill_stable hg more⟩

/-- the model allocates the output mask with the length of `mask'`, which is also that of the free mask -/
theorem gaussianSplit_eq (keep : Bool) (a0 a1 : Int) (nrow ncol : Nat) (mask acs : Grid) (c : Int)
    (cs : List (Int × Int)) :
    gaussianSplit keep a0 a1 nrow ncol mask acs c cs =
      (gaussianFill (capRequest c (cnt (freeMask keep a0 a1 nrow ncol mask acs))) nrow ncol
        (freeMask keep a0 a1 nrow ncol mask acs) (zeros (freeMask keep a0 a1 nrow ncol mask acs).length) cs).map
        (finish keep (reducedMask keep mask acs) acs) := by
  unfold gaussianSplit
  simp only
  have e : (reducedMask keep mask acs).length = (freeMask keep a0 a1 nrow ncol mask acs).length := by
    cases keep
    · exact (length_clearProtected nrow ncol a0 a1 _).symm
    · rfl
  rw [e]
  split
  · rename_i h; rw [h]; rfl
  · rename_i t h; rw [h]; rfl

/-- why the check may replay an arbitrarily long libc stream on its first occurrences only -/
theorem gaussian_split_dedup (keep : Bool) (a0 a1 : Int) (nrow ncol : Nat) (mask acs : Grid) (c : Int)
    (hl : acs.length = mask.length) (cs : List (Int × Int)) :
    gaussianSplit keep a0 a1 nrow ncol mask acs c (dedup cs) = gaussianSplit keep a0 a1 nrow ncol mask acs c cs := by
  rw [gaussianSplit_eq, gaussianSplit_eq, gaussianFill_dedup]

/-- the cap `min(c, #free - 1)` of the repair makes every request feasible -/
theorem capped_request_feasible (c : Int) (free : Nat) : capRequest c free + 1 ≤ (free : Int) := by
  unfold capRequest; omega

theorem capped_count (c : Int) (free : Nat) (hc : 0 ≤ c) :
    (capRequest c free + 1).toNat = min (c + 1).toNat free := by
  unfold capRequest
  by_cases h : c ≤ free - 1
  · rw [Int.min_eq_left h, Nat.min_eq_left (by omega)]
  · rw [Int.min_eq_right (by omega), Nat.min_eq_right (by omega)]; omega

theorem gaussianSplit_some {keep : Bool} {a0 a1 : Int} {nrow ncol : Nat} {mask acs : Grid} {c : Int}
    {cs : List (Int × Int)} {r : Grid × Grid} (hl : acs.length = mask.length)
    (h : gaussianSplit keep a0 a1 nrow ncol mask acs c cs = some r) :
    ∃ t0, t0.length = mask.length ∧ Sub t0 (freeMask keep a0 a1 nrow ncol mask acs) ∧
      cnt t0 = (capRequest c (cnt (freeMask keep a0 a1 nrow ncol mask acs)) + 1).toNat ∧
      finish keep (reducedMask keep mask acs) acs t0 = r := by
  rw [gaussianSplit_eq, Option.map_eq_some_iff] at h
  obtain ⟨t0, hf, h4⟩ := h
  obtain ⟨h1, h2, h3⟩ := fill_some hf
  exact ⟨t0, by rw [h1, length_freeMask hl], h2, h3, h4⟩

/-- `input ∪ target = mask`; with `keep_acs`, `mask ∪ acs`, which is `mask` whenever `acs ⊆ mask` -/
theorem gaussian_split_union {keep : Bool} {a0 a1 : Int} {nrow ncol : Nat} {mask acs : Grid} {c : Int}
    {cs : List (Int × Int)} {i t : Grid} (hl : acs.length = mask.length)
    (h : gaussianSplit keep a0 a1 nrow ncol mask acs c cs = some (i, t)) :
    gOr i t = if keep then gOr mask acs else mask := by
  obtain ⟨t0, h1, h2, _, h4⟩ := gaussianSplit_some hl h
  exact finish_union hl h1 h2 h4

theorem gaussian_split_disjoint {keep : Bool} {a0 a1 : Int} {nrow ncol : Nat} {mask acs : Grid} {c : Int}
    {cs : List (Int × Int)} {i t : Grid} (hl : acs.length = mask.length)
    (h : gaussianSplit keep a0 a1 nrow ncol mask acs c cs = some (i, t)) :
    gAnd i t = if keep then acs else zeros mask.length := by
  obtain ⟨t0, h1, h2, _, h4⟩ := gaussianSplit_some hl h
  exact finish_disjoint hl h1 h2 h4

/-- the protected central region (`acs_region`, used without `keep_acs`) stays in the input mask -/
theorem gaussian_protected_in_input {a0 a1 : Int} {nrow ncol : Nat} {mask acs : Grid} {c : Int}
    {cs : List (Int × Int)} {i t : Grid} (hl : acs.length = mask.length)
    (h : gaussianSplit false a0 a1 nrow ncol mask acs c cs = some (i, t)) (k : Nat)
    (hp : protectedCell nrow ncol a0 a1 k = true) (hm : cell mask k = true) :
    cell i k = true ∧ cell t k = false := by
  obtain ⟨t0, h1, h2, _, h4⟩ := gaussianSplit_some hl h
  exact finish_protected hl h1 h2 h4 rfl k hp hm

theorem gaussian_acs_kept {a0 a1 : Int} {nrow ncol : Nat} {mask acs : Grid} {c : Int}
    {cs : List (Int × Int)} {i t : Grid} (hl : acs.length = mask.length)
    (h : gaussianSplit true a0 a1 nrow ncol mask acs c cs = some (i, t)) (k : Nat) (ha : cell acs k = true) :
    cell i k = true ∧ cell t k = true := by
  obtain ⟨t0, h1, h2, _, h4⟩ := gaussianSplit_some hl h
  exact finish_acs_kept hl h1 h2 h4 rfl k ha

/-- target size and location: outside the kept ACS region (`t0`) the target has exactly `min(c, #free - 1) + 1` cells,
all of them free (sampled, not protected, not ACS) -/
theorem gaussian_target_count {keep : Bool} {a0 a1 : Int} {nrow ncol : Nat} {mask acs : Grid} {c : Int}
    {cs : List (Int × Int)} {i t : Grid} (hl : acs.length = mask.length)
    (h : gaussianSplit keep a0 a1 nrow ncol mask acs c cs = some (i, t)) :
    ∃ t0, (∀ k, cell t0 k = (cell t k && !(keep && cell acs k))) ∧
      Sub t0 (freeMask keep a0 a1 nrow ncol mask acs) ∧
      cnt t0 = (capRequest c (cnt (freeMask keep a0 a1 nrow ncol mask acs)) + 1).toNat := by
  obtain ⟨t0, h1, h2, h3, h4⟩ := gaussianSplit_some hl h
  exact ⟨t0, finish_target hl h1 h2 h4, h2, h3⟩

theorem gaussian_target_subset_free {keep : Bool} {a0 a1 : Int} {nrow ncol : Nat} {mask acs : Grid} {c : Int}
    {cs : List (Int × Int)} {i t : Grid} (hl : acs.length = mask.length)
    (h : gaussianSplit keep a0 a1 nrow ncol mask acs c cs = some (i, t)) (k : Nat)
    (hk : cell t k = true) (ha : (keep && cell acs k) = false) :
    cell mask k = true ∧ (keep = false → protectedCell nrow ncol a0 a1 k = false) := by
  obtain ⟨t0, h1, h2, _⟩ := gaussian_target_count hl h
  exact target_cell_free hl h1 h2 k hk ha

/-- `w0`, `w1` (the slices do not wrap) hold for every `acs_region` up to the full mask -/
theorem protected_region_centred (nrow ncol : Nat) (a0 a1 : Int) (k : Nat) (h0 : 0 ≤ a0) (h1 : 0 ≤ a1)
    (w0 : a0 / 2 ≤ (nrow : Int) / 2) (w1 : a1 / 2 ≤ (ncol : Int) / 2) :
    protectedCell nrow ncol a0 a1 k = true ↔
      (((nrow : Int) / 2 - a0 / 2 ≤ (k / ncol : Nat) ∧ ((k / ncol : Nat) : Int) < (nrow : Int) / 2 + a0 / 2 ∧ k / ncol < nrow) ∧
       ((ncol : Int) / 2 - a1 / 2 ≤ (k % ncol : Nat) ∧ ((k % ncol : Nat) : Int) < (ncol : Int) / 2 + a1 / 2 ∧ k % ncol < ncol)) := by
  unfold protectedCell
  rw [Bool.and_eq_true, List.contains_iff_mem, List.contains_iff_mem, mem_regionIdx nrow a0 _ h0 w0,
    mem_regionIdx ncol a1 _ h1 w1]

/-- "follows the ratio within one sample": `c + 1` cells when they fit, otherwise all free cells -/
theorem gaussian_target_follows_ratio (c : Int) (free : Nat) (hc : 0 ≤ c) :
    (c + 1 ≤ free → (capRequest c free + 1).toNat = (c + 1).toNat) ∧
    ((free : Int) < c + 1 → (capRequest c free + 1).toNat = free) := by
  rw [capped_count c free hc]
  exact ⟨fun h => Nat.min_eq_left (by omega), fun h => Nat.min_eq_right (by omega)⟩

theorem ratio_ceil_spec (S p q : Int) (hq : 0 < q) :
    S * p ≤ ratioCeil S p q * q ∧ (ratioCeil S p q - 1) * q < S * p :=
  ⟨(ratioCeil_le_iff hq _).mp (Int.le_refl _), (lt_ratioCeil_iff hq _).mp (by omega)⟩

theorem ratio_floor_spec (S p q : Int) (hq : 0 < q) :
    ratioFloor S p q * q ≤ S * p ∧ S * p < (ratioFloor S p q + 1) * q :=
  ⟨(le_ratioFloor_iff hq _).mp (Int.le_refl _), (ratioFloor_lt_iff hq _).mp (by omega)⟩

/-- termination of the split (repaired tree): thanks to the cap no feasibility condition is needed -/
theorem gaussian_split_terminates (keep : Bool) (a0 a1 : Int) (nrow ncol : Nat) (mask acs : Grid) (c : Int)
    (hl : acs.length = mask.length) (s : Nat → Int × Int)
    (hs : ∀ k, cell (freeMask keep a0 a1 nrow ncol mask acs) k = true →
      ∃ m, InRange nrow ncol (s m) ∧ flatIdx ncol (s m) = k) :
    ∃ fuel, (gaussianSplit keep a0 a1 nrow ncol mask acs c (streamPrefix s fuel)).isSome = true := by
  obtain ⟨fuel, hf⟩ := gaussian_fill_terminates
    (capRequest c (cnt (freeMask keep a0 a1 nrow ncol mask acs))) nrow ncol _ s hs
    (capped_request_feasible c _)
  refine ⟨fuel, ?_⟩
  rw [gaussianSplit_eq, Option.isSome_map]
  exact hf

/-- the tree before the repair passes the uncapped request -/
theorem gaussian_split_pinned_diverges (keep : Bool) (a0 a1 : Int) (nrow ncol : Nat) (mask acs : Grid) (c : Int)
    (h : (cnt (freeMask keep a0 a1 nrow ncol mask acs) : Int) < c + 1) :
    ∀ cs, gaussianSplitPinned keep a0 a1 nrow ncol mask acs c cs = none := by
  intro cs
  unfold gaussianSplitPinned
  simp only
  rw [gaussian_fill_diverges_if_infeasible c nrow ncol _ h cs]

/-- concrete instance: 4×4 full mask, protected region (2, 2), ratio 0.9 → request ⌈14.4⌉ = 15, 12 free cells -/
theorem gaussian_split_pinned_violates :
    ∀ cs, gaussianSplitPinned false 2 2 4 4 (List.replicate 16 true) (zeros 16) (ratioCeil 16 9 10) cs = none :=
  gaussian_split_pinned_diverges false 2 2 4 4 _ _ _ (by decide +kernel)

theorem uniformSplit_ok {keep : Bool} {a0 a1 : Int} {nrow ncol : Nat} {mask acs : Grid} {count : Nat}
    {chosen : List Nat} {r : Grid × Grid} (hl : acs.length = mask.length)
    (h : uniformSplit keep a0 a1 nrow ncol mask acs count chosen = .ok r) :
    ∃ t0, t0.length = mask.length ∧ Sub t0 (freeMask keep a0 a1 nrow ncol mask acs) ∧
      cnt t0 = (if count = 0 ∨ cnt (freeMask keep a0 a1 nrow ncol mask acs) = 0 then 0 else count) ∧
      finish keep (reducedMask keep mask acs) acs t0 = r := by
  unfold uniformSplit at h
  simp only at h
  split at h
  · cases h
  · rename_i t0 hf
    obtain ⟨h1, h2, h3⟩ := uniformFill_ok hf
    exact ⟨t0, by rw [h1, length_freeMask hl], h2, h3, Except.ok.inj h⟩

theorem uniform_split_union {keep : Bool} {a0 a1 : Int} {nrow ncol : Nat} {mask acs : Grid} {count : Nat}
    {chosen : List Nat} {i t : Grid} (hl : acs.length = mask.length)
    (h : uniformSplit keep a0 a1 nrow ncol mask acs count chosen = .ok (i, t)) :
    gOr i t = if keep then gOr mask acs else mask := by
  obtain ⟨t0, h1, h2, _, h4⟩ := uniformSplit_ok hl h
  exact finish_union hl h1 h2 h4

theorem uniform_split_disjoint {keep : Bool} {a0 a1 : Int} {nrow ncol : Nat} {mask acs : Grid} {count : Nat}
    {chosen : List Nat} {i t : Grid} (hl : acs.length = mask.length)
    (h : uniformSplit keep a0 a1 nrow ncol mask acs count chosen = .ok (i, t)) :
    gAnd i t = if keep then acs else zeros mask.length := by
  obtain ⟨t0, h1, h2, _, h4⟩ := uniformSplit_ok hl h
  exact finish_disjoint hl h1 h2 h4

theorem uniform_protected_in_input {a0 a1 : Int} {nrow ncol : Nat} {mask acs : Grid} {count : Nat}
    {chosen : List Nat} {i t : Grid} (hl : acs.length = mask.length)
    (h : uniformSplit false a0 a1 nrow ncol mask acs count chosen = .ok (i, t)) (k : Nat)
    (hp : protectedCell nrow ncol a0 a1 k = true) (hm : cell mask k = true) :
    cell i k = true ∧ cell t k = false := by
  obtain ⟨t0, h1, h2, _, h4⟩ := uniformSplit_ok hl h
  exact finish_protected hl h1 h2 h4 rfl k hp hm

/-- `count` is `⌊#free·ρ⌋` in the code; the `if` is the early return of `uniform_fill` -/
theorem uniform_target_count {keep : Bool} {a0 a1 : Int} {nrow ncol : Nat} {mask acs : Grid} {count : Nat}
    {chosen : List Nat} {i t : Grid} (hl : acs.length = mask.length)
    (h : uniformSplit keep a0 a1 nrow ncol mask acs count chosen = .ok (i, t)) :
    ∃ t0, (∀ k, cell t0 k = (cell t k && !(keep && cell acs k))) ∧
      Sub t0 (freeMask keep a0 a1 nrow ncol mask acs) ∧
      cnt t0 = (if count = 0 ∨ cnt (freeMask keep a0 a1 nrow ncol mask acs) = 0 then 0 else count) := by
  obtain ⟨t0, h1, h2, h3, h4⟩ := uniformSplit_ok hl h
  exact ⟨t0, finish_target hl h1 h2 h4, h2, h3⟩

theorem uniform_target_subset_free {keep : Bool} {a0 a1 : Int} {nrow ncol : Nat} {mask acs : Grid} {count : Nat}
    {chosen : List Nat} {i t : Grid} (hl : acs.length = mask.length)
    (h : uniformSplit keep a0 a1 nrow ncol mask acs count chosen = .ok (i, t)) (k : Nat)
    (hk : cell t k = true) (ha : (keep && cell acs k) = false) :
    cell mask k = true ∧ (keep = false → protectedCell nrow ncol a0 a1 k = false) := by
  obtain ⟨t0, h1, h2, _⟩ := uniform_target_count hl h
  exact target_cell_free hl h1 h2 k hk ha

/-- `hv`: what `rng.choice(…, replace=False)` can return; no exception path is left -/
theorem uniform_split_total (keep : Bool) (a0 a1 : Int) (nrow ncol : Nat) (mask acs : Grid) (count : Nat)
    (chosen : List Nat) (hv : validChoice count (freeMask keep a0 a1 nrow ncol mask acs) chosen = true) :
    ∃ r, uniformSplit keep a0 a1 nrow ncol mask acs count chosen = .ok r := by
  obtain ⟨t, ht⟩ := uniformFill_total hv
  exact ⟨finish keep (reducedMask keep mask acs) acs t, by unfold uniformSplit; simp only [ht]⟩

/-- before the repair `uniform_fill` raised (0/0 probabilities) whenever no free cell was left -/
theorem uniform_fill_pinned_violates : uniformFillPinned 0 (zeros 4) [] = .error .nanProb := by decide

/-- partition by `_half_split`, for every direction and every pair of coordinate vectors (float32 or exact) -/
theorem half_split_partition (d : Dir) (xs ys : List Int) (keep : Bool) (a0 a1 : Int) (nrow ncol : Nat) (mask acs : Grid)
    (hl : acs.length = mask.length) :
    gOr (halfSplit d xs ys keep a0 a1 nrow ncol mask acs).1 (halfSplit d xs ys keep a0 a1 nrow ncol mask acs).2
      = (if keep then gOr mask acs else mask) ∧
    gAnd (halfSplit d xs ys keep a0 a1 nrow ncol mask acs).1 (halfSplit d xs ys keep a0 a1 nrow ncol mask acs).2
      = (if keep then acs else zeros mask.length) := by
  obtain ⟨t0, h1, h2, h4⟩ := halfSplit_some d xs ys keep a0 a1 nrow ncol hl
  exact ⟨finish_union hl h1 h2 h4, finish_disjoint hl h1 h2 h4⟩

/-- on the exact `linspace` fractions the side test is the rational one that the bridge ties to the source -/
theorem inputSideC_exact (d : Dir) (nrow ncol i j : Nat) (hi : i < nrow) (hj : j < ncol) :
    inputSideC d (exactXs nrow ncol) (exactYs nrow ncol) nrow ncol i j = inputSide d nrow ncol i j := by
  have hx : (exactXs nrow ncol).getD i 0 = coordNum nrow i * coordDen ncol := by
    simp [exactXs, List.getD_eq_getElem?_getD, hi]
  have hy : (exactYs nrow ncol).getD j 0 = coordNum ncol j * coordDen nrow := by
    simp [exactYs, List.getD_eq_getElem?_getD, hj]
  cases d <;> simp only [inputSideC, inputSide, hx, hy]

/-- float32 vs exact diagonals, all coordinates on one integer scale: the two splits can differ only on cells whose
exact sum is within `2·err` of 0 (the anti-diagonal).  Second conjunct: the `xv - yv` form, with `-fy`, `-ey` as the
y-coordinates. -/
theorem diag_float_agrees_off_boundary (fx fy ex ey err : Int) (hx : fx - ex ≤ err ∧ ex - fx ≤ err)
    (hy : fy - ey ≤ err ∧ ey - fy ≤ err) (hb : 2 * err < ex + ey ∨ ex + ey < -(2 * err)) :
    (fx + fy ≤ 0 ↔ ex + ey ≤ 0) ∧ (fx - (-fy) ≤ 0 ↔ ex - (-ey) ≤ 0) := by
  have h : fx + fy ≤ 0 ↔ ex + ey ≤ 0 := by omega
  rw [Int.sub_neg, Int.sub_neg]
  exact ⟨h, h⟩

theorem half_protected_in_input (d : Dir) (xs ys : List Int) (a0 a1 : Int) (nrow ncol : Nat) (mask acs : Grid) (k : Nat)
    (hp : protectedCell nrow ncol a0 a1 k = true) (hm : cell mask k = true) :
    cell (halfSplit d xs ys false a0 a1 nrow ncol mask acs).1 k = true ∧
    cell (halfSplit d xs ys false a0 a1 nrow ncol mask acs).2 k = false := by
  -- without `keep_acs` the ACS mask does not enter
  show cell (halfSplit d xs ys false a0 a1 nrow ncol mask (zeros mask.length)).1 k = true ∧
    cell (halfSplit d xs ys false a0 a1 nrow ncol mask (zeros mask.length)).2 k = false
  obtain ⟨t0, h1, h2, h4⟩ := halfSplit_some d xs ys false a0 a1 nrow ncol (length_zeros mask.length)
  exact finish_protected (length_zeros _) h1 h2 h4 rfl k hp hm

/-- before the repair the half split ignored `acs_region`: 6×6 full mask, protected (4, 4), horizontal —
the protected centre cell (3, 3) is in the target -/
theorem half_split_pinned_violates :
    protectedCell 6 6 4 4 21 = true ∧
      cell (halfSplitPinned .horizontal [] [] false 6 6 (List.replicate 36 true) (zeros 36)).2 21 = true := by decide +kernel

/-- by definition of `splitOut`, which the driver executes (all three splitters) -/
theorem split_kspaces (cells : Nat) (k : List Int) (m : Grid × Grid) :
    (splitOut cells k m).inputK = applyMaskK cells m.1 k ∧ (splitOut cells k m).targetK = applyMaskK cells m.2 k ∧
    (splitOut cells k m).inputMask = m.1 ∧ (splitOut cells k m).targetMask = m.2 := ⟨rfl, rfl, rfl, rfl⟩

theorem split_kspace_entry (cells : Nat) (m : Grid) (k : List Int) (idx : Nat) :
    (applyMaskK cells m k).getD idx 0 = if cell m ((idx / 2) % cells) then k.getD idx 0 else 0 :=
  getD_applyMaskK cells m k idx

/-- without `keep_acs` the two k-spaces add up to the masked k-space -/
theorem split_kspaces_sum (cells : Nat) (mask i t : Grid) (k : List Int) (hi : i.length = t.length)
    (hu : gOr i t = mask) (hd : gAnd i t = zeros mask.length) (idx : Nat) :
    (applyMaskK cells i k).getD idx 0 + (applyMaskK cells t k).getD idx 0 = (applyMaskK cells mask k).getD idx 0 := by
  rw [getD_applyMaskK, getD_applyMaskK, getD_applyMaskK]
  have h1 := cell_gOr i t hi ((idx / 2) % cells)
  have h2 := cell_gAnd i t hi ((idx / 2) % cells)
  rw [hu] at h1
  rw [hd, cell_zeros] at h2
  rw [h1]
  revert h2
  cases cell i ((idx / 2) % cells) <;> cases cell t ((idx / 2) % cells) <;> simp

/-- `int(np.mean(seed))` is the floor of the mean code point -/
theorem gaussian_seed_floor_mean (t : List Nat) (h : t ≠ []) :
    gaussianSeed t * t.length ≤ (t.sum : Int) ∧ (t.sum : Int) < (gaussianSeed t + 1) * t.length := by
  unfold gaussianSeed
  have hp : (0 : Int) < t.length := by
    have := List.length_pos_iff.mpr h; omega
  exact ⟨Int.ediv_mul_le _ (Int.ne_of_gt hp), Int.lt_ediv_add_one_mul_self _ hp⟩

/-- determinism: with `use_seed` the split is a function of (mask, acs, file name, slice, configuration) only; the
ambient random state (call history, global numpy stream, OS entropy) does not enter -/
theorem split_deterministic_gaussian (src : Sources) (cfg : Cfg) (h : cfg.useSeed = true) (amb₁ amb₂ : Ambient)
    (fuel nrow ncol : Nat) (filename slice : List Nat) (mask acs : Grid) (k : List Int) :
    forwardGaussian src cfg amb₁ fuel nrow ncol filename slice mask acs k =
      forwardGaussian src cfg amb₂ fuel nrow ncol filename slice mask acs k := by
  simp only [forwardGaussian, h, if_true]

theorem split_deterministic_uniform (src : Sources) (cfg : Cfg) (h : cfg.useSeed = true) (amb₁ amb₂ : Ambient)
    (nrow ncol : Nat) (filename slice : List Nat) (mask acs : Grid) (k : List Int) :
    forwardUniform src cfg amb₁ nrow ncol filename slice mask acs k =
      forwardUniform src cfg amb₂ nrow ncol filename slice mask acs k := by
  simp only [forwardUniform, h, if_true]

/-- the seed only sees the concatenation `str(filename) + str(slice_no)` -/
theorem seed_of_concat (f₁ s₁ f₂ s₂ : List Nat) (h : f₁ ++ s₁ = f₂ ++ s₂) :
    gaussianSeed (seedTuple f₁ s₁) = gaussianSeed (seedTuple f₂ s₂) := by
  simp only [seedTuple, h]

/-- batch collation: a split mask has the shape of the per-sample sampling mask, so the collated masks `(B, …)`
broadcast against the collated k-space `(B, C, …)` with the batch axes meeting — 2-D and 3-D alike -/
theorem split_mask_collates (B : Nat) (ms ks : List Nat) (hl : ms.length = ks.length) (hb : broadcastsTo ms ks = true) :
    broadcastsTo (B :: splitMaskShape ms) (B :: ks) = true ∧ batchAligned (B :: splitMaskShape ms) (B :: ks) = true := by
  have hz : ((ms.reverse ++ [B]).zip (ks.reverse ++ [B])).all (fun ab => ab.1 == 1 || ab.1 == ab.2) = true := by
    simp only [broadcastsTo, Bool.and_eq_true] at hb
    rw [List.zip_append (by simp [hl]), List.all_append, hb.2]
    simp
  -- ranks agree, so the collated shapes are aligned; the new leading axes `B`, `B` are the last pair of the reversed zip
  constructor
  · simp only [broadcastsTo, splitMaskShape, List.length_cons, hl, List.reverse_cons, hz, Bool.and_true,
      decide_eq_true_eq]
    exact Nat.le_refl _
  · simp only [batchAligned, splitMaskShape, List.length_cons, hl, beq_self_eq_true]

/-- before the repair the split masks of 3-D data had rank 4: collated `(2, 1, H, W, 1)` does not broadcast against
`(2, 3, S, H, W, 2)` (RuntimeError), and for batch = coils it broadcasts with the batch axis on the coil axis -/
theorem split_mask_rank_pinned_violates :
    broadcastsTo (2 :: splitMaskShapePinned [1, 1, 6, 8, 1]) [2, 3, 2, 6, 8, 2] = false ∧
    (broadcastsTo (3 :: splitMaskShapePinned [1, 1, 6, 8, 1]) [3, 3, 2, 6, 8, 2] = true ∧
     batchAligned (3 :: splitMaskShapePinned [1, 1, 6, 8, 1]) [3, 3, 2, 6, 8, 2] = false) := by decide +kernel

/-- `int(ceil(float32(S)·float32(ρ)))` versus `⌈S·p/q⌉`, and the same for the floor: when `S·p/q` is an integer the
float32 product may land just off it.  `countCeilF32` / `countFloorF32` are the executable binary32 model the
driver runs (compared with torch on every run). -/
theorem requested_count_f32 (S p q : Nat) (hq : 0 < q) (hsp : S * p < 2 ^ 22) :
    (¬ (q : Int) ∣ (S : Int) * p → countCeilF32 S p q = ratioCeil S p q ∧ countFloorF32 S p q = ratioFloor S p q) ∧
    ((q : Int) ∣ (S : Int) * p →
      (countCeilF32 S p q = ratioCeil S p q ∨ countCeilF32 S p q = ratioCeil S p q + 1) ∧
      (countFloorF32 S p q = ratioFloor S p q ∨ countFloorF32 S p q = ratioFloor S p q - 1)) := by
  obtain ⟨hb, h1, h2⟩ := mulF32_near S p q hq hsp
  exact ceil_floor_near ((S : Int) * p) q (mulF32 S p q).1 (mulF32 S p q).2 (by omega) (by omega)
    (by exact_mod_cast h1) (by rw [Int.sub_lt_iff]; exact_mod_cast h2)

theorem requested_count_f32_within_one (S p q : Nat) (hq : 0 < q) (hsp : S * p < 2 ^ 22) :
    ratioCeil S p q ≤ countCeilF32 S p q ∧ countCeilF32 S p q ≤ ratioCeil S p q + 1 ∧
    ratioFloor S p q - 1 ≤ countFloorF32 S p q ∧ countFloorF32 S p q ≤ ratioFloor S p q := by
  have h := requested_count_f32 S p q hq hsp
  by_cases hd : (q : Int) ∣ (S : Int) * p
  · have := h.2 hd; omega
  · have := h.1 hd; omega

theorem ratioCeil_nonneg (S p q : Nat) (hq : 0 < q) : 0 ≤ ratioCeil S p q := by
  have h : (-1) * (q : Int) < (S : Int) * p := by
    have := Int.mul_nonneg (Int.natCast_nonneg S) (Int.natCast_nonneg p)
    omega
  have := (lt_ratioCeil_iff (by omega) (-1)).mpr h
  omega

theorem ratioFloor_nonneg (S p q : Nat) : 0 ≤ ratioFloor S p q := by
  unfold ratioFloor
  exact Int.ediv_nonneg (Int.mul_nonneg (by omega) (by omega)) (by omega)

theorem capped_size_near (c R : Int) (F : Nat) (hR : 0 ≤ R) (h1 : R ≤ c) (h2 : c ≤ R + 1) :
    (R + 2 ≤ F → ((capRequest c F + 1).toNat : Int) = R + 1 ∨ ((capRequest c F + 1).toNat : Int) = R + 2) ∧
    ((F : Int) < R + 1 → (capRequest c F + 1).toNat = F) ∧ (capRequest c F + 1).toNat ≤ F := by
  rw [capped_count c F (by omega)]
  omega

/-- the target size follows the requested ratio, with the count the code computes (`c = int(ceil(float32(S)·float32(ρ)))`,
then capped, `c + 1` cells placed): `⌈S·ρ⌉ + 1` or `+ 2` cells when that many are free, every free cell otherwise.
`S`: sampled cells outside the kept ACS region, `ρ = p / q`.  That the code's count is `countCeilF32` is checked by
the driver against torch, not by the bridge. -/
theorem gaussian_target_size_f32 {keep : Bool} {a0 a1 : Int} {nrow ncol : Nat} {mask acs : Grid} (p q : Nat)
    {cs : List (Int × Int)} {i t : Grid} (hl : acs.length = mask.length) (hq : 0 < q)
    (hsp : cnt (reducedMask keep mask acs) * p < 2 ^ 22)
    (h : gaussianSplit keep a0 a1 nrow ncol mask acs (countCeilF32 (cnt (reducedMask keep mask acs)) p q) cs = some (i, t)) :
    ∃ t0, (∀ k, cell t0 k = (cell t k && !(keep && cell acs k))) ∧ Sub t0 (freeMask keep a0 a1 nrow ncol mask acs) ∧
      (ratioCeil (cnt (reducedMask keep mask acs)) p q + 2 ≤ cnt (freeMask keep a0 a1 nrow ncol mask acs) →
        (cnt t0 : Int) = ratioCeil (cnt (reducedMask keep mask acs)) p q + 1 ∨
        (cnt t0 : Int) = ratioCeil (cnt (reducedMask keep mask acs)) p q + 2) ∧
      ((cnt (freeMask keep a0 a1 nrow ncol mask acs) : Int) < ratioCeil (cnt (reducedMask keep mask acs)) p q + 1 →
        cnt t0 = cnt (freeMask keep a0 a1 nrow ncol mask acs)) ∧
      cnt t0 ≤ cnt (freeMask keep a0 a1 nrow ncol mask acs) := by
  obtain ⟨t0, h1, h2, h3⟩ := gaussian_target_count hl h
  have hw := requested_count_f32_within_one (cnt (reducedMask keep mask acs)) p q hq hsp
  refine ⟨t0, h1, h2, ?_⟩
  rw [h3]
  exact capped_size_near _ _ _ (ratioCeil_nonneg _ p q hq) hw.1 hw.2.1

theorem floor_size_near (c R : Int) (F : Nat) (hR : 0 ≤ R) (h1 : R - 1 ≤ c) (h2 : c ≤ R) (hz : F = 0 → R = 0) :
    ((if c.toNat = 0 ∨ F = 0 then 0 else c.toNat : Nat) : Int) ≤ R ∧
    R - 1 ≤ (if c.toNat = 0 ∨ F = 0 then 0 else c.toNat : Nat) := by
  split <;> omega

/-- the same for the uniform split: `count = int(float32(F)·float32(ρ))`, `F` the number of free cells -/
theorem uniform_target_size_f32 {keep : Bool} {a0 a1 : Int} {nrow ncol : Nat} {mask acs : Grid} (p q : Nat)
    {chosen : List Nat} {i t : Grid} (hl : acs.length = mask.length) (hq : 0 < q)
    (hsp : cnt (freeMask keep a0 a1 nrow ncol mask acs) * p < 2 ^ 22)
    (h : uniformSplit keep a0 a1 nrow ncol mask acs
      (countFloorF32 (cnt (freeMask keep a0 a1 nrow ncol mask acs)) p q).toNat chosen = .ok (i, t)) :
    ∃ t0, (∀ k, cell t0 k = (cell t k && !(keep && cell acs k))) ∧ Sub t0 (freeMask keep a0 a1 nrow ncol mask acs) ∧
      (cnt t0 : Int) ≤ ratioFloor (cnt (freeMask keep a0 a1 nrow ncol mask acs)) p q ∧
      ratioFloor (cnt (freeMask keep a0 a1 nrow ncol mask acs)) p q - 1 ≤ cnt t0 := by
  obtain ⟨t0, h1, h2, h3⟩ := uniform_target_count hl h
  have hw := requested_count_f32_within_one (cnt (freeMask keep a0 a1 nrow ncol mask acs)) p q hq hsp
  refine ⟨t0, h1, h2, ?_⟩
  rw [h3]
  exact floor_size_near _ _ _ (ratioFloor_nonneg _ p q) hw.2.2.1 hw.2.2.2
    (fun h0 => by rw [h0]; simp [ratioFloor])

theorem round_f32_error (num den : Nat) (hd : 0 < den) :
    |qval (roundF32 num den) - (num : ℚ) / den| * 2 ^ 24 ≤ (num : ℚ) / den := by
  obtain ⟨hb, h1, h2⟩ := roundF32_spec num den hd
  have h := abs_sub_le_of_cross (K := 2 ^ 24) hb hd h1 h2
  unfold qval
  exact_mod_cast h

/-- key plumbing, for every transform tail and engine key table passing `plumbingOk` (`Bridge/C11.lean`: the tables
read from `/repo` pass it): the network is trained on the masked k-space restricted to the input mask, and the
reference of the k-space loss is the masked k-space restricted to the target mask -/
theorem ssl_plumbing_sound (tail : List KeyOp) (r : EngineReads) (h : plumbingOk tail r = true) (e : Env) :
    ∃ s, runOps tail preTail = some s ∧
      (sget s r.trainK).bind (denoteK e) = some (applyMaskK e.cells e.input e.masked) ∧
      (sget s r.lossK).bind (denoteK e) = some (applyMaskK e.cells e.target e.masked) ∧
      sget s r.trainMask = some (.splitMask true) ∧ sget s r.project = some (.splitMask false) ∧
      sget s r.lossImage = some (.image (.restr false .maskedK)) := by
  unfold plumbingOk at h
  split at h
  · cases h
  · rename_i s hs
    simp only [Bool.and_eq_true, beq_iff_eq] at h
    obtain ⟨⟨⟨⟨⟨⟨h1, h2⟩, h3⟩, h4⟩, h5⟩, _⟩, _⟩ := h
    refine ⟨s, hs, ?_, ?_, h2, h3, h5⟩
    · rw [h1]; simp [denoteK]
    · rw [h4]; simp [denoteK]

/-- what the k-space loss sees in the training step of the SSL engines: `pred - k` on target cells held out from the
input, `0` elsewhere — on cells kept in both masks (ACS) data consistency reproduces the measurement -/
theorem ssl_loss_support (cells : Nat) (i t : Grid) (k pred : List Int) (hc : 0 < cells) (hi : i.length = cells)
    (hp : pred.length = k.length) (idx : Nat) :
    (sslOutput cells i t (applyMaskK cells i k) pred).getD idx 0 - (applyMaskK cells t k).getD idx 0 =
      if cell t ((idx / 2) % cells) && !cell i ((idx / 2) % cells) then pred.getD idx 0 - k.getD idx 0 else 0 := by
  have hlt : (idx / 2) % cells < i.length := by rw [hi]; exact Nat.mod_lt _ hc
  unfold sslOutput
  rw [getD_applyMaskK, getD_applyMaskK,
    getD_zipWith_add _ _ (by rw [length_applyMaskK, length_applyMaskK, hp]), getD_applyMaskK, getD_applyMaskK,
    cell_gNot i _ hlt]
  cases cell t ((idx / 2) % cells) <;> cases cell i ((idx / 2) % cells) <;> simp

/-- history independence: a splitter object that keeps nothing between calls answers every call of every history as a
fresh object would (a batched call is the sequence of its samples).  `runHist none` is what the driver's `hist`
operation executes. -/
theorem history_independent {ι κ ο : Type} [BEq κ] (cap : Nat) (f : ι → ο) (c : List (κ × ο)) (xs : List ι) :
    runHist none cap f c xs = xs.map f :=
  runHist_none_eq cap f xs c

/-- …for every write table passing `stateWritesOk` (`Bridge/C11.lean`: `state_writes_ok` for the one read from `/repo`) -/
theorem history_independent_of_table {ο : Type} (t : List StateWrite) (h : stateWritesOk t = true) (cap : Nat)
    (f : SampleIn → ο) (c : List (List (List Nat) × ο)) (xs : List SampleIn) :
    runHist ((memoOfTable t).map keyOf) cap f c xs = xs.map f := by
  unfold memoOfTable
  rw [h]
  exact runHist_none_eq cap f xs c

/-- a memo of split results is invisible when its key determines the split, for every bound of the LRU dictionary -/
theorem memo_invisible_of_key_complete {ο : Type} (parts : List KeyPart) (cap : Nat) (f : SampleIn → ο)
    (hk : ∀ x y, (∀ p ∈ parts, partOf x p = partOf y p) → f x = f y) (xs : List SampleIn) :
    runHist (some (keyOf parts)) cap f [] xs = xs.map f :=
  runHist_complete (keyOf parts) cap f (fun x y h => hk x y ((keyOf_eq_iff parts x y).mp h)) xs []
    (fun _ he => by cases he)

theorem full_key_complete (x y : SampleIn)
    (h : ∀ p ∈ [KeyPart.filename, .slice, .mask, .acs], partOf x p = partOf y p) : x = y := by
  have h1 := h .filename (by simp)
  have h2 := h .slice (by simp)
  have h3 := bits_inj _ _ (h .mask (by simp))
  have h4 := bits_inj _ _ (h .acs (by simp))
  cases x; cases y
  simp only [partOf] at h1 h2 h3 h4
  simp [h1, h2, h3, h4]

theorem memo_full_key_invisible {ο : Type} (cap : Nat) (f : SampleIn → ο) (xs : List SampleIn) :
    runHist (some (keyOf [.filename, .slice, .mask, .acs])) cap f [] xs = xs.map f :=
  memo_invisible_of_key_complete _ cap f (fun x y h => by rw [full_key_complete x y h]) xs

/-- …and visible otherwise: the history `[x, y]` on one object answers `y` with the split of `x` -/
theorem memo_stale_of_key_incomplete {ο : Type} (parts : List KeyPart) (cap : Nat) (hcap : 1 ≤ cap) (f : SampleIn → ο)
    (x y : SampleIn) (hxy : ∀ p ∈ parts, partOf x p = partOf y p) (hne : f x ≠ f y) :
    runHist (some (keyOf parts)) cap f [] [x, y] = [f x, f x] ∧
    runHist (some (keyOf parts)) cap f [] [x, y] ≠ [x, y].map f := by
  have hkey : keyOf parts y = keyOf parts x := ((keyOf_eq_iff parts x y).mpr hxy).symm
  -- the first call misses on the empty memo and stores `f x` under the key of `x` (kept, as `cap ≥ 1`) …
  have s1 : memoStep (some (keyOf parts)) cap f [] x = ([(keyOf parts x, f x)], f x) := by
    have hc : ¬ (1 > cap) := by omega
    simp [memoStep, hc]
  -- … and the second call hits that entry, because `y` has the key of `x`
  have s2 : (memoStep (some (keyOf parts)) cap f [(keyOf parts x, f x)] y).2 = f x := by
    simp [memoStep, hkey]
  have h1 : runHist (some (keyOf parts)) cap f [] [x, y] = [f x, f x] := by
    rw [runHist, s1, runHist, s2, runHist]
  refine ⟨h1, ?_⟩
  rw [h1]
  intro h
  simp only [List.map_cons, List.map_nil, List.cons.injEq, and_true, true_and] at h
  exact hne h

/-- a memo keyed by (file name, slice) on the model's own half split: `input ∪ target` is not the second mask -/
theorem memo_without_mask_violates :
    let f : SampleIn → Grid × Grid := fun s => halfSplit .vertical [] [] false 0 0 2 2 s.mask s.acs
    let x : SampleIn := { filename := [102], slice := [49], mask := [true, true, false, true], acs := zeros 4 }
    let y : SampleIn := { filename := [102], slice := [49], mask := [true, false, true, true], acs := zeros 4 }
    (runHist (some (keyOf [.filename, .slice])) 4096 f [] [x, y]).map (fun r => gOr r.1 r.2) = [x.mask, x.mask] ∧
    x.mask ≠ y.mask := by decide +kernel

/-- determinism across interpreter processes (a run and its resumption, data-loader workers, training and inference),
for a seed derivation that does not read the process -/
theorem split_deterministic_across_processes (d : SeedFn) (hd : ∀ p₁ p₂ f s, d p₁ f s = d p₂ f s) (p₁ p₂ : Proc)
    (src : Sources) (cfg : Cfg) (fuel nrow ncol : Nat) (filename slice : List Nat) (mask acs : Grid) (k : List Int) :
    forwardGaussianIn d p₁ src cfg fuel nrow ncol filename slice mask acs k =
      forwardGaussianIn d p₂ src cfg fuel nrow ncol filename slice mask acs k ∧
    forwardUniformIn d p₁ src cfg nrow ncol filename slice mask acs k =
      forwardUniformIn d p₂ src cfg nrow ncol filename slice mask acs k := by
  simp only [forwardGaussianIn, forwardUniformIn, hd p₁ p₂ filename slice, and_self]

/-- the derivation of the code (`Bridge/C11.lean`: `seed_of_code_eq`, `seed_calls_ok`) -/
theorem seed_of_code_process_free (p₁ p₂ : Proc) (f s : List Nat) : seedOfCode p₁ f s = seedOfCode p₂ f s := rfl

/-- `forward…In seedOfCode` is the seeded `forward…` the driver executes -/
theorem forward_in_code_eq (p : Proc) (src : Sources) (cfg : Cfg) (h : cfg.useSeed = true) (amb : Ambient)
    (fuel nrow ncol : Nat) (filename slice : List Nat) (mask acs : Grid) (k : List Int) :
    forwardGaussianIn seedOfCode p src cfg fuel nrow ncol filename slice mask acs k =
      forwardGaussian src cfg amb fuel nrow ncol filename slice mask acs k ∧
    forwardUniformIn seedOfCode p src cfg nrow ncol filename slice mask acs k =
      forwardUniform src cfg amb nrow ncol filename slice mask acs k := by
  simp only [forwardGaussianIn, forwardGaussian, forwardUniformIn, forwardUniform, seedOfCode, h, if_true, and_self]

/-- a derivation through a per-process salt (Python's `hash` of a string) -/
theorem salted_seed_violates : ∃ (src : Sources) (cfg : Cfg) (p₁ p₂ : Proc),
    forwardGaussianIn seedSalted p₁ src cfg 1 1 2 [102] [49] [true, true] (zeros 2) [] ≠
    forwardGaussianIn seedSalted p₂ src cfg 1 1 2 [102] [49] [true, true] (zeros 2) [] :=
  ⟨{ ratioIdx := fun _ _ => 0, choice := fun _ _ _ => [],
     candidates := fun s _ _ _ => if s % 2 = 0 then [(0, 0)] else [(0, 1)] },
   { keep := false, a0 := 0, a1 := 0, useSeed := true, request := fun _ _ => 0, nRatios := 1 },
   { salt := 0 }, { salt := 1 }, by decide +kernel⟩

/-- every reader of the split keys, for every site table passing `engineSiteOk` (`Bridge/C11.lean`: `engine_sites_ok`
for the eight readers under `direct/nn`): a site trains on the masked k-space restricted to the input mask, passes
on the input mask, a `_do_iteration` projects on the target mask, and the recorded condition text is `train` for an
SSL engine, `ssl&train` for a joint one.  That these texts mean `engineUsesSplit` is the translator's reading of the
`if`, not a theorem. -/
theorem engine_sites_sound (tail : List KeyOp) (sites : List EngineSite) (hs : sites.all engineSiteOk = true)
    (r : EngineReads) (hr : r.trainK = "input_kspace" ∧ r.trainMask = "input_sampling_mask" ∧
      r.project = "target_sampling_mask") (hp : plumbingOk tail r = true) (e : Env) :
    ∃ smp, runOps tail preTail = some smp ∧ ∀ s ∈ sites,
      (sget smp s.trainK).bind (denoteK e) = some (applyMaskK e.cells e.input e.masked) ∧
      (s.trainMask ≠ "" → sget smp s.trainMask = some (.splitMask true)) ∧
      (s.iteration = true → sget smp s.project = some (.splitMask false)) ∧
      s.cond = (if s.joint then "ssl&train" else "train") := by
  obtain ⟨smp, h0, h1, _, h3, h4, _⟩ := ssl_plumbing_sound tail r hp e
  refine ⟨smp, h0, ?_⟩
  intro s hsm
  have hk := List.all_eq_true.mp hs s hsm
  simp only [engineSiteOk, Bool.and_eq_true, Bool.or_eq_true, beq_iff_eq, Bool.not_eq_true'] at hk
  obtain ⟨⟨⟨⟨hc, htk⟩, _⟩, hm⟩, hpj⟩ := hk
  refine ⟨by rw [htk, ← hr.1]; exact h1, ?_, ?_, hc⟩
  · intro hne
    rcases hm with ⟨hm1, _⟩ | ⟨⟨_, hm1⟩, _⟩
    · rw [hm1, ← hr.2.1]; exact h3
    · exact absurd hm1 hne
  · intro hit
    rw [hit] at hpj
    simp only [if_true] at hpj
    rw [hpj, ← hr.2.2]; exact h4

theorem engine_uses_split_spec (isSsl : Bool) :
    (engineUsesSplit joint false isSsl = false) ∧ (engineUsesSplit false true isSsl = true) ∧
    (engineUsesSplit true true isSsl = isSsl) := by
  cases isSsl <;> simp [engineUsesSplit]

/-- enum-valued options may be strings: when every test of the direction goes through `__eq__` (`Bridge/C11.lean`:
`enum_compares_ok`), the half split does not depend on whether the direction arrives as the `HalfSplitType` member or
as a string in any case — the driver's `hsplit` runs `resolveDir .eq` on the form the real call used -/
theorem option_form_irrelevant (f : OptForm) (d : Dir) : resolveDir .eq f d = some d := rfl

theorem enum_compares_sound (t : List (String × String × String)) (h : enumComparesOk t = true) :
    ∀ r ∈ t, ∃ op, cmpOfText r.2.2 = some op ∧ ∀ f, cmpHolds op f = true := by
  intro r hr
  have := List.all_eq_true.mp h r hr
  simp only [beq_iff_eq] at this
  exact ⟨.eq, this, fun _ => rfl⟩

/-- identity (and hash-based) tests do not recognise a string: with the code's `in [HORIZONTAL, VERTICAL]` outer test
still passing, the dispatch falls through and both masks stay empty -/
theorem identity_compare_violates :
    resolveDir .is_ .lower .horizontal = none ∧ resolveDir .is_ .member .horizontal = some .horizontal ∧
    resolveDir .hashed .upper .vertical = none ∧ resolveDir .hashed .lower .vertical = some .vertical ∧
    cmpOfText "is" = some .is_ ∧ enumComparesOk [("MaskSplitter._half_split", "direction ~ HalfSplitType.HORIZONTAL", "is")] = false := by
  decide +kernel

/-- for a ratio the constructor accepts (`0 < p/q < 1`) the requested counts stay inside a non-empty mask; a uniform
split leaves at least one free cell to the input -/
theorem ratio_counts_in_range (S p q : Int) (hv : ratioValid p q = true) (hS : 0 < S) :
    1 ≤ ratioCeil S p q ∧ ratioCeil S p q ≤ S ∧ 0 ≤ ratioFloor S p q ∧ ratioFloor S p q < S := by
  simp only [ratioValid, Bool.and_eq_true, decide_eq_true_eq] at hv
  obtain ⟨hp, hpq⟩ := hv
  have hq : 0 < q := by omega
  have h0 : 0 * q < S * p := by rw [Int.zero_mul]; exact Int.mul_pos hS hp
  have h1 : S * p < S * q := Int.mul_lt_mul_of_pos_left hpq hS
  exact ⟨(lt_ratioCeil_iff hq 0).mpr h0, (ratioCeil_le_iff hq S).mpr (Int.le_of_lt h1),
    (le_ratioFloor_iff hq 0).mpr (Int.le_of_lt h0), (ratioFloor_lt_iff hq S).mpr h1⟩

theorem ratio_edge_rejected : ratioValid 0 1 = false ∧ ratioValid 1 1 = false ∧ ratioValid 3 2 = false ∧
    ratioValid (-1) 4 = false ∧ ratioValid 1 1000 = true ∧ ratioValid 999 1000 = true := by decide

-- non-vacuity: the hypotheses are met by concrete runs of the same definitions
example : stateWritesOk [{ func := "MaskSplitter.__init__", method := "__init__", scope := "self", target := "rng", how := "assign" }] = true ∧
    stateWritesOk [{ func := "MaskSplitter._split_sample", method := "_split_sample", scope := "self", target := "_split_cache",
                     how := "subscript" }] = false ∧
    stateWritesOk [{ func := "fill:uniform_fill", method := "uniform_fill", scope := "decorator", target := "functools.lru_cache", how := "cache" }] = false := by decide +kernel
example : seedCallsOk ["tuple", "map", "ord", "str", "int", "np.mean"] = true ∧ seedCallsOk ["hash", "str", "int"] = false := by decide +kernel
example : runHist (κ := Nat) none 0 (fun n : Nat => n + 1) [] [1, 2, 1] = [2, 3, 2] := by decide +kernel

/-- 2×3 grid, 5 sampled cells: plain, keep_acs, protected region + capped request -/
example : gaussianSplit false 0 0 2 3 [true, true, false, true, true, true] (zeros 6) 1
      [(0, 0), (5, 5), (0, 0), (1, 2), (1, 1)] =
    some ([false, true, false, true, true, false], [true, false, false, false, false, true]) := by decide +kernel
example : gaussianSplit true 0 0 2 3 [true, true, false, true, true, true] [false, true, false, false, true, false] 0
      [(0, 1), (1, 0)] =
    some ([true, true, false, false, true, true], [false, true, false, true, true, false]) := by decide +kernel
example : gaussianSplit false 2 2 2 3 [true, true, false, true, true, true] (zeros 6) 7 [(0, 0), (1, 0), (0, 2), (1, 2)] =
    some ([true, true, false, true, true, false], [false, false, false, false, false, true]) := by decide +kernel
/-- the same run with the count the code computes: `int(ceil(float32(5) · float32(0.2))) = 1` -/
example : gaussianSplit false 0 0 2 3 [true, true, false, true, true, true] (zeros 6) (countCeilF32 5 1 5)
      [(0, 0), (5, 5), (0, 0), (1, 2), (1, 1)] =
    some ([false, true, false, true, true, false], [true, false, false, false, false, true]) := by decide +kernel
example : uniformSplit false 0 0 2 3 [true, true, false, true, true, true] (zeros 6) (countFloorF32 5 2 5).toNat [4, 0] =
    .ok ([false, true, false, true, false, true], [true, false, false, false, true, false]) := by decide +kernel
example : Covers 1 2 [true, true] [(0, 1), (0, 0)] := by
  intro k hk
  have : k < 2 := cell_true_lt _ _ hk
  match k, this with
  | 0, _ => exact ⟨(0, 0), by simp, by decide, rfl⟩
  | 1, _ => exact ⟨(0, 1), by simp, by decide, rfl⟩
example : uniformSplit false 0 0 2 3 [true, true, false, true, true, true] (zeros 6) 2 [4, 0] =
    .ok ([false, true, false, true, false, true], [true, false, false, false, true, false]) := by decide +kernel
example : uniformSplit false 2 2 2 2 [true, true, true, true] (zeros 4) 0 [] =
    .ok ([true, true, true, true], [false, false, false, false]) := by decide +kernel
example : halfSplit .diagRight (exactXs 3 3) (exactYs 3 3) false 0 0 3 3 (List.replicate 9 true) (zeros 9) =
    ([true, true, true, true, true, false, true, false, false],
     [false, false, false, false, false, true, false, true, true]) := by decide +kernel
example : halfSplit .horizontal [] [] false 2 2 4 4 (List.replicate 16 true) (zeros 16) =
    ([true, true, true, true, true, true, true, true, false, true, true, false, false, false, false, false],
     [false, false, false, false, false, false, false, false, true, false, false, true, true, true, true, true]) := by
  decide +kernel
example : gaussianSeed (seedTuple [102, 46, 104, 53] [49, 50]) = 67 := by decide +kernel
/-- without seeding the result does depend on the ambient state -/
example : ∃ (src : Sources) (cfg : Cfg) (a₁ a₂ : Ambient), cfg.useSeed = false ∧
    forwardGaussian src cfg a₁ 0 1 2 [] [] [true, true] (zeros 2) [] ≠
    forwardGaussian src cfg a₂ 0 1 2 [] [] [true, true] (zeros 2) [] :=
  ⟨{ ratioIdx := fun _ _ => 0, choice := fun _ _ _ => [], candidates := fun s _ _ _ => if s = 0 then [(0, 0)] else [(0, 1)] },
   { keep := false, a0 := 0, a1 := 0, useSeed := false, request := fun _ _ => 0, nRatios := 1 },
   { entropy := [], globalDraw := 0 }, { entropy := [], globalDraw := 1 }, rfl, by decide +kernel⟩
example : plumbingOk
    [.addFlag "is_ssl" true, .split "masked_kspace" false "input_" "target_" "sampling_mask" "acs_mask",
     .delete ["acs_mask"], .rename ["input_masked_kspace", "target_masked_kspace"] ["input_kspace", "kspace"],
     .delete ["masked_kspace", "sampling_mask"], .computeImage "kspace" "target"]
    { trainK := "input_kspace", trainMask := "input_sampling_mask", evalK := "masked_kspace", evalMask := "sampling_mask",
      project := "target_sampling_mask", lossK := "kspace", lossImage := "target" } = true := by decide +kernel
/-- a tail that forgets the rename leaves the fully sampled k-space under the loss key: rejected -/
example : plumbingOk
    [.addFlag "is_ssl" true, .split "masked_kspace" false "input_" "target_" "sampling_mask" "acs_mask"]
    { trainK := "input_kspace", trainMask := "input_sampling_mask", evalK := "masked_kspace", evalMask := "sampling_mask",
      project := "target_sampling_mask", lossK := "kspace", lossImage := "target" } = false := by decide +kernel
/-- wrap-around of an over-sized protected region (outside the property's quantifier) -/
example : regionIdx 10 14 = [8, 9] := by decide +kernel
example : regionIdx 10 4 = [3, 4, 5, 6] := by decide +kernel
example : broadcastsTo [1, 1, 6, 8, 1] [3, 2, 6, 8, 2] = true ∧ broadcastsTo [1, 6, 8, 1] [3, 6, 8, 2] = true := by decide +kernel
/-- the float32 product lifts 50 · 0.3 just above 15 -/
example : countCeilF32 50 3 10 = 16 ∧ ratioCeil 50 3 10 = 15 ∧ countFloorF32 50 3 10 = 15 := by decide +kernel
example : dedup [(0, 0), (5, 5), (0, 0), (1, 2), (5, 5)] = [(0, 0), (5, 5), (1, 2)] := by decide +kernel
example : regionIdx 7 7 = [0, 1, 2, 3, 4, 5] := by decide +kernel

end DirectVerif.C11
